/-
C15 - penalty methods are zero on the feasible set and follow their formulas.
Property theorems (helper lemmas: Proofs/Penalty.lean, Proofs/PenaltyTree.lean; models: Model/Penalty.lean,
Model/PenaltyTree.lean).

Reading.  `K` is an arbitrary linearly ordered field.  The scalar operations of the Python code that are not
field operations (`pow(h,n)`, `x**2`, `abs`, `x**0.5`) are read through `LawfulPenOps` / `LawfulRoot`
(integer power, `x*x`, absolute value, the non-negative root).  A condition value is `some c`, or `none`
when the user's condition raised `ZeroDivisionError`.  `evalStack ps fx` is `p(x)` for the stack of levels
`ps` (outermost first, each paired with its condition value at `x`) over a decorated function with `f(x) = fx`;
`.ok v` is a returned value, `.error e` an escaping Python exception.  `pow(0, negative)` raises in Python, hence
the side condition `¬ (h = 0 ∧ n < 0)` wherever the multiplier `k*h^n` is actually computed.
-/
import MysticVerif.Proofs.Penalty
import MysticVerif.Proofs.PenaltyTree
import Mathlib.Analysis.Real.Sqrt  -- for the ℝ example

-- the statements carry their section's instances, used or not
set_option linter.unusedSectionVars false

namespace MysticVerif.C15
open MysticVerif.Pen

section stack
variable {K : Type} [Field K] [LinearOrder K] [IsStrictOrderedRing K] [PenOps K] [LawfulPenOps K]

/-- quadratic_equality: `p(x) = k*h^n*c^2 + f(x)` -/
theorem formula_quadratic_equality (k h : K) (n : Int) (y : List K) (c fx : K) (hp : ¬ (h = 0 ∧ n < 0)) :
    evalStack [({ t := .qEq, k := k, h := h, n := n, y := y }, some c)] fx = .ok (k * h ^ n * c ^ 2 + fx) :=
  evalStack_single_add fx (term_qEq rfl c hp)

/-- linear_equality: `p(x) = k*h^n*|c| + f(x)` -/
theorem formula_linear_equality (k h : K) (n : Int) (y : List K) (c fx : K) (hp : ¬ (h = 0 ∧ n < 0)) :
    evalStack [({ t := .lEq, k := k, h := h, n := n, y := y }, some c)] fx = .ok (k * h ^ n * |c| + fx) :=
  evalStack_single_add fx (term_lEq rfl c hp)

/-- uniform_equality: `k*h^n` is added iff `c ≠ 0` (and `pow` is not even evaluated where `c = 0`) -/
theorem formula_uniform_equality (k h : K) (n : Int) (y : List K) (c fx : K) (hp : ¬ (h = 0 ∧ n < 0)) :
    evalStack [({ t := .uEq, k := k, h := h, n := n, y := y }, some c)] fx =
      .ok ((if c = 0 then 0 else k * h ^ n) + fx) :=
  evalStack_single_add fx (term_uEq rfl c fun _ => hp)

/-- uniform_inequality: `k*h^n` is added iff `c > 0` -/
theorem formula_uniform_inequality (k h : K) (n : Int) (y : List K) (c fx : K) (hp : ¬ (h = 0 ∧ n < 0)) :
    evalStack [({ t := .uIneq, k := k, h := h, n := n, y := y }, some c)] fx =
      .ok ((if 0 < c then k * h ^ n else 0) + fx) :=
  evalStack_single_add fx (term_uIneq rfl c fun _ => hp)

/-- quadratic_inequality: `p(x) = 2*k*h^n*max(0,c)^2 + f(x)` (the factor 2) -/
theorem formula_quadratic_inequality (k h : K) (n : Int) (y : List K) (c fx : K) (hp : ¬ (h = 0 ∧ n < 0)) :
    evalStack [({ t := .qIneq, k := k, h := h, n := n, y := y }, some c)] fx =
      .ok (2 * k * h ^ n * (max 0 c) ^ 2 + fx) :=
  evalStack_single_add fx (term_qIneq rfl c hp)

/-- linear_inequality: `p(x) = 2*k*h^n*max(0,c) + f(x)` -/
theorem formula_linear_inequality (k h : K) (n : Int) (y : List K) (c fx : K) (hp : ¬ (h = 0 ∧ n < 0)) :
    evalStack [({ t := .lIneq, k := k, h := h, n := n, y := y }, some c)] fx =
      .ok (2 * k * h ^ n * max 0 c + fx) :=
  evalStack_single_add fx (term_lIneq rfl c hp)

/-- barrier_inequality: `inf` where violated (the decorated function is not even called), otherwise
`-1/(2*k*h^n) * log(-c) + f(x)` -/
theorem formula_barrier_inequality (k h : K) (n : Int) (y : List K) (c fx : K) (hp : ¬ (h = 0 ∧ n < 0))
    (hk : k * h ^ n ≠ 0) :
    evalStack [({ t := .barrier, k := k, h := h, n := n, y := y }, some c)] fx =
      .ok (if 0 < c then PenOps.inf else -1 / (2 * (k * h ^ n)) * PenOps.log (-c) + fx) := by
  by_cases hc : 0 < c
  · rw [if_pos hc]; exact evalStack_cons_stop (term_barrier_viol rfl c hc)
  · rw [if_neg hc]; exact evalStack_single_add fx (term_barrier_sat rfl c (not_lt.mp hc) hp hk)

/-- lagrange_equality: `p(x) = K_n*c^2 + λ_n*c + f(x)` with `K_n = k*h^n` and the accumulated multiplier
`λ_n = Σ_{i<n} 2*k*h^i*stored(i)` (a missing `stored(i)` counts as 0; `n < 0` behaves as `n = 0`) -/
theorem formula_lagrange_equality (k h : K) (n : Int) (y : List K) (c fx : K) :
    evalStack [({ t := .lagEq, k := k, h := h, n := n, y := y }, some c)] fx =
      .ok (k * h ^ n.toNat * c ^ 2 + (∑ i ∈ Finset.range n.toNat, 2 * k * h ^ i * storedAt y (i : Int)) * c + fx) :=
  evalStack_single_add fx (term_lagEq rfl c)

/-- lagrange_inequality, the multiplier loop: with `k, h > 0` the code's
`beta += 2*_k*max(-beta/(2*_k), stored(i)); _k *= h` never divides by zero and computes
`β_0 = 0, β_{i+1} = max 0 (β_i + 2*k*h^i*stored(i))` (the clipped accumulation `betaLoop`), `_k = k*h^n`;
in particular `β_n ≥ 0`. -/
theorem lagrange_inequality_multiplier (k h : K) (y : List K) (m : Nat) (hk : 0 < k) (hh : 0 < h) :
    lagIneqLoop h y m 0 0 k = .ok (betaLoop h y m 0 0 k) ∧ (betaLoop h y m 0 0 k).2 = k * h ^ m
      ∧ 0 ≤ (betaLoop h y m 0 0 k).1
      ∧ (∀ (i : Nat) (b q : K), betaLoop h y (m + 1) i b q
          = betaLoop h y m (i + 1) (max 0 (b + 2 * q * storedAt y (i : Int))) (q * h)) :=
  ⟨lagIneqLoop_eq h y hh m 0 0 k hk, betaLoop_snd h y m 0 0 k, betaLoop_nonneg h y m 0 0 k (le_refl 0),
   fun _ _ _ => rfl⟩

/-- lagrange_inequality: `p(x) = K_n*m^2 + β_n*m + f(x)` with `m = max(-β_n/(2*K_n), c)` -/
theorem formula_lagrange_inequality (k h : K) (n : Int) (y : List K) (c fx : K) (hk : 0 < k) (hh : 0 < h) :
    evalStack [({ t := .lagIneq, k := k, h := h, n := n, y := y }, some c)] fx =
      .ok (k * h ^ n.toNat * (max (-(betaLoop h y n.toNat 0 0 k).1 / (2 * (k * h ^ n.toNat))) c) ^ 2
        + (betaLoop h y n.toNat 0 0 k).1 * max (-(betaLoop h y n.toNat 0 0 k).1 / (2 * (k * h ^ n.toNat))) c + fx) :=
  evalStack_single_add fx (term_lagIneq rfl c hk hh)

/-- **no added penalty where satisfied**: for the six conforming types, `p(x) = f(x)` exactly wherever the
condition holds (`== 0` / `<= 0`), for every `k`, `h`, iteration and stored history. -/
theorem zero_on_feasible (l : Level K) (c fx : K) (hconf : conforming l.t) (hp : ¬ (l.h = 0 ∧ l.n < 0))
    (hsat : satisfied l.t c) : evalStack [(l, some c)] fx = .ok fx := by
  rw [evalStack_single_add fx (term_conforming l c hconf hp), (charge_sign hconf c).2.mpr hsat, mul_zero,
    zero_add]

/-- **strictly positive where violated**: for the six conforming types with `k, h > 0`, `p(x) > f(x)` wherever
the condition is violated. -/
theorem positive_on_violation (l : Level K) (c fx : K) (hconf : conforming l.t) (hk : 0 < l.k) (hh : 0 < l.h)
    (hviol : ¬ satisfied l.t c) : ∃ v, evalStack [(l, some c)] fx = .ok v ∧ fx < v := by
  obtain ⟨a, ha, _, _, hpos⟩ := level_sign l c hconf hk hh
  exact ⟨a + fx, evalStack_single_add fx ha, lt_add_of_pos_left fx (hpos.mpr hviol)⟩

/-- **stacked penalties add**: if level `i` contributes the amount `a_i` (any of the formulas above), the
stack returns `a_1 + (a_2 + (... + f(x)))`, i.e. `f(x) + Σ a_i` -/
theorem stacked_add (ps : List (Level K × K)) (as : List K) (fx : K)
    (h : List.Forall₂ (fun p a => term p.1 p.2 = .ok (.add a)) ps as) :
    evalStack (ps.map fun p => (p.1, some p.2)) fx = .ok (fx + as.sum) := by
  induction h with
  | nil => rw [List.sum_nil, add_zero]; rfl
  | cons hpa _ ih => rw [List.map_cons, evalStack_cons_add hpa ih, List.sum_cons, add_left_comm]

/-- the amount a conforming level adds (`k, h > 0`): never negative, zero where satisfied, positive where violated
(`level_sign`, weaker) -/
theorem amount_sign (l : Level K) (c : K) (hconf : conforming l.t) (hk : 0 < l.k) (hh : 0 < l.h) :
    ∃ a, term l c = .ok (.add a) ∧ 0 ≤ a ∧ (satisfied l.t c → a = 0) ∧ (¬ satisfied l.t c → 0 < a) := by
  obtain ⟨a, ha, h0, hz, hpos⟩ := level_sign l c hconf hk hh
  exact ⟨a, ha, h0, hz.mpr, hpos.mpr⟩

/-- a whole stack of conforming levels adds nothing where every condition is satisfied -/
theorem stack_zero_on_feasible (ps : List (Level K × K)) (fx : K)
    (h : ∀ p ∈ ps, conforming p.1.t ∧ ¬ (p.1.h = 0 ∧ p.1.n < 0) ∧ satisfied p.1.t p.2) :
    evalStack (ps.map fun p => (p.1, some p.2)) fx = .ok fx := by
  induction ps with
  | nil => rfl
  | cons p ps ih =>
    obtain ⟨h1, h2, h3⟩ := h p List.mem_cons_self
    rw [List.map_cons, evalStack_cons_add (term_conforming p.1 p.2 h1 h2) (ih fun q hq => h q (List.mem_cons_of_mem _ hq)),
      (charge_sign h1 _).2.mpr h3, mul_zero, zero_add]

/-- a whole stack of conforming levels (`k, h > 0`) never returns less than `f(x)`, and strictly more as soon
as one of the conditions is violated -/
theorem stack_positive_on_violation (ps : List (Level K × K)) (fx : K)
    (h : ∀ p ∈ ps, conforming p.1.t ∧ 0 < p.1.k ∧ 0 < p.1.h) :
    ∃ v, evalStack (ps.map fun p => (p.1, some p.2)) fx = .ok v ∧ fx ≤ v ∧
      ((∃ p ∈ ps, ¬ satisfied p.1.t p.2) → fx < v) := by
  obtain ⟨d, hd, hd0, hdz⟩ := stack_sign ps fx h
  exact ⟨d + fx, hd, le_add_of_nonneg_left hd0, fun ⟨p, hp, hv⟩ =>
    lt_add_of_pos_left fx (lt_of_le_of_ne hd0 fun h0 => hv (hdz.mp h0.symm p hp))⟩

/-- **division by zero**: a condition that raises `ZeroDivisionError` makes `p(x) = inf`
(and nothing further in is evaluated) -/
theorem div_zero_top (l : Level K) (rest : List (Level K × Option K)) (fx : K) :
    evalStack ((l, none) :: rest) fx = .ok PenOps.inf := rfl

/-- division by zero inside a stack: `p(x) = inf` too, for every scalar structure in which `inf` absorbs addition
(true of `+inf` against every float except `-inf` and `nan`) -/
theorem div_zero_top_stack {R : Type} [Add R] [Mul R] [Div R] [Neg R] [LT R] [DecidableLT R] [BEq R]
    [OfNat R 0] [OfNat R 1] [OfNat R 2] [PenOps R] (habs : ∀ a : R, a + PenOps.inf = PenOps.inf)
    (outer : List (Level R × R)) (as : List R) (l : Level R) (rest : List (Level R × Option R)) (fx : R)
    (h : List.Forall₂ (fun p a => term p.1 p.2 = .ok (.add a)) outer as) :
    evalStack ((outer.map fun p => (p.1, some p.2)) ++ (l, none) :: rest) fx = .ok PenOps.inf := by
  induction h with
  | nil => rfl
  | cons hpa _ ih =>
    simp only [List.map_cons, List.cons_append, evalStack, hpa, ih, habs]

/-- `coupler.additive(p)(f)(x) = f(x) + p(x)` -/
theorem additive_spec (px fx : K) : additive px fx = fx + px := rfl

/-- single penalty: `error(x) = |c|` for equality types and `max(0, c)` for inequality types -/
theorem error_spec [LawfulRoot K] (l : Level K) (c : K) :
    errStack [(l, some c)] = if l.t.isEq = true then |c| else max 0 c := by
  simp only [errStack, root_sq_eq_abs, viol]
  split
  · rfl
  · rw [pyMax_eq, abs_of_nonneg (le_max_left 0 c)]

/-- nested penalties: `error(x)` is the non-negative root of the sum of the squared violations of all levels -/
theorem error_nested [LawfulRoot K] (ps : List (Level K × K)) (hne : ps ≠ []) :
    0 ≤ errStack (ps.map fun p => (p.1, some p.2)) ∧
    errStack (ps.map fun p => (p.1, some p.2)) * errStack (ps.map fun p => (p.1, some p.2))
      = (ps.map fun p => viol p.1.t p.2 * viol p.1.t p.2).sum := by
  have hroot : ∀ s : K, 0 ≤ s → 0 ≤ PenOps.root s ∧ PenOps.root s * PenOps.root s = s :=
    fun s hs => ⟨LawfulRoot.root_nonneg s hs, LawfulRoot.root_mul_self s hs⟩
  induction ps with
  | nil => exact absurd rfl hne
  | cons p ps ih =>
    cases ps with
    | nil =>
      simp only [List.map_cons, List.map_nil, errStack, LawfulPenOps.sq_eq, List.sum_cons, List.sum_nil, add_zero]
      exact hroot _ (mul_self_nonneg _)
    | cons q qs =>
      obtain ⟨_, h2⟩ := ih (List.cons_ne_nil _ _)
      simp only [List.map_cons, errStack, LawfulPenOps.sq_eq, List.sum_cons] at h2 ⊢
      rw [← h2]
      exact hroot _ (add_nonneg (mul_self_nonneg _) (mul_self_nonneg _))

/-- a condition that divides by zero makes `error(x) = inf` -/
theorem error_div_zero (l : Level K) (rest : List (Level K × Option K)) :
    errStack ((l, none) :: rest) = PenOps.inf := by
  cases rest <;> rfl

/-- division by zero inside a stack: `error(x) = inf` too, wherever `inf` absorbs the root of a sum of squares
(true of the floats: `sqrt(a + inf) = inf` for every `a` that is not `nan`) -/
theorem error_div_zero_nested {R : Type} [Add R] [LT R] [DecidableLT R] [OfNat R 0] [PenOps R]
    (hroot : ∀ a : R, PenOps.root (a + PenOps.sq PenOps.inf) = PenOps.inf)
    (outer : List (Level R × R)) (l : Level R) (rest : List (Level R × Option R)) :
    errStack ((outer.map fun p => (p.1, some p.2)) ++ (l, none) :: rest) = PenOps.inf := by
  induction outer with
  | nil => cases rest <;> rfl
  | cons p ps ih =>
    cases hps : (ps.map fun p => (p.1, some p.2)) ++ (l, none) :: rest with
    | nil => simp at hps
    | cons q qs =>
      rw [hps] at ih
      simp only [List.map_cons, List.cons_append, hps, errStack, ih, hroot]

/-- `iter()` advances the iteration of every level by one -/
theorem iter_advances (ls : List (Level K)) :
    (iterStack none ls).map (·.n) = ls.map (·.n + 1) := by
  simp [iterStack, Function.comp_def]

/-- `iter(i)` sets the iteration of every level to `i` -/
theorem iter_sets (i : Int) (ls : List (Level K)) :
    (iterStack (some i) ls).map (·.n) = ls.map (fun _ => i) := by
  simp [iterStack, Function.comp_def]

/-- `clear()` resets the iteration and empties the stored values at every level -/
theorem clear_resets (ls : List (Level K)) :
    ∀ l ∈ clearStack ls, l.n = 0 ∧ l.y = [] := by
  intro l hl
  simp only [clearStack, List.mem_map] at hl
  obtain ⟨l0, _, rfl⟩ := hl
  exact ⟨rfl, rfl⟩

/-- `iter` and `clear` touch nothing else: type, `k`, `h` (and for `iter` the stored values) of every level are unchanged,
no level appears or disappears -/
theorem iter_clear_frame (i : Option Int) (ls : List (Level K)) :
    (iterStack i ls).map (fun l => (l.t, l.k, l.h, l.y)) = ls.map (fun l => (l.t, l.k, l.h, l.y)) ∧
    (clearStack ls).map (fun l => (l.t, l.k, l.h)) = ls.map (fun l => (l.t, l.k, l.h)) := by
  constructor <;> simp [iterStack, clearStack, Function.comp_def]

/-- an operation through the handle of level `j` leaves the levels outside it alone -/
theorem handle_frame (j : Nat) (f : List (Level K) → List (Level K)) (ls : List (Level K)) (hj : j ≤ ls.length) :
    (onFrom j f ls).take j = ls.take j ∧ (onFrom j f ls).drop j = f (ls.drop j) := by
  have hl : (ls.take j).length = j := List.length_take_of_le hj
  exact ⟨List.take_left' hl, List.drop_left' hl⟩

/-- one of the calls `iter()`, `iter(i)`, `clear()` -/
inductive CtrOp where
  | iter | iterI (i : Int) | clear

def CtrOp.apply (o : CtrOp) (ls : List (Level K)) : List (Level K) :=
  match o with
  | .iter => iterStack none ls
  | .iterI i => iterStack (some i) ls
  | .clear => clearStack ls

def CtrOp.count (o : CtrOp) (n : Int) : Int :=
  match o with
  | .iter => n + 1
  | .iterI i => i
  | .clear => 0

/-- for every history `os`, every level's `iteration()` is the counter semantics applied to its initial value
(so nested penalties that start together stay together) -/
theorem iteration_history (os : List CtrOp) (ls : List (Level K)) :
    (os.foldl (fun s o => o.apply s) ls).map (·.n) = ls.map (fun l => os.foldl (fun n o => o.count n) l.n) := by
  induction os generalizing ls with
  | nil => simp
  | cons o os ih =>
    simp only [List.foldl_cons]
    rw [ih]
    cases o <;> simp [CtrOp.apply, CtrOp.count, iterStack, clearStack, Function.comp_def]

/-- `store` changes no type, `k`, `h` or iteration, and only Lagrange levels record anything -/
theorem store_frame (i : Option Int) (ps : List (Level K × Option K)) :
    (storeStack i ps).1.map (fun l => (l.t, l.k, l.h, l.n)) = ps.map (fun p => (p.1.t, p.1.k, p.1.h, p.1.n)) ∧
    List.Forall₂ (fun l' p => p.1.t.isLag = false → l'.y = p.1.y) (storeStack i ps).1 ps := by
  induction ps generalizing i with
  | nil => simp [storeStack]
  | cons p ps ih =>
    obtain ⟨l, c⟩ := p
    by_cases hlag : l.t.isLag = true
    · have hno : l.t.isLag = false → ∀ y' : List K, y' = l.y := fun hf => absurd (hlag.symm.trans hf) Bool.noConfusion
      simp only [storeStack, hlag, if_true]
      obtain ⟨h1, h2⟩ := ih (some (storeIdx i l.n))
      by_cases hA : (l.y.length : Int) ≤ storeIdx i l.n
      · rw [if_pos hA]
        exact ⟨congrArg (_ :: ·) h1, .cons (fun hf => hno hf _) h2⟩
      · rw [if_neg hA]
        by_cases hB : -(l.y.length : Int) ≤ storeIdx i l.n
        · rw [if_pos hB]
          exact ⟨congrArg (_ :: ·) h1, .cons (fun hf => hno hf _) h2⟩
        · rw [if_neg hB]
          refine ⟨congrArg (_ :: ·) (List.map_map ..), .cons (fun _ => rfl) ?_⟩
          rw [List.forall₂_map_left_iff]
          exact List.forall₂_same.mpr (fun _ _ _ => rfl)
    · simp only [storeStack, hlag]
      obtain ⟨h1, h2⟩ := ih i
      exact ⟨congrArg (_ :: ·) h1, .cons (fun _ => rfl) h2⟩

/-- `store(x)` at a Lagrange level with iteration `n ≥ 0` records the condition value (`inf` if it divided by
zero) as `stored(n)` and leaves every other `stored(i)` as it was (a gap is filled with zeros) -/
theorem store_spec (l : Level K) (c : Option K) (hlag : l.t.isLag = true) (hn : 0 ≤ l.n) :
    ∃ l', (storeStack none [(l, c)]) = ([l'], none) ∧
      storedAt l'.y l.n = (match c with | some a => a | none => PenOps.inf) ∧
      ∀ i : Nat, (i : Int) ≠ l.n → storedAt l'.y i = storedAt l.y i := by
  obtain ⟨m, hm⟩ := Int.eq_ofNat_of_zero_le hn
  simp only [storeStack, hlag, if_true, storeIdx, hm]
  by_cases hlen : (l.y.length : Int) ≤ (m : Int)
  · -- `if i >= l: _y.extend([0.]*(i-l) + [y])`
    have hm' : m = (l.y ++ List.replicate (m - l.y.length) 0).length := by
      rw [List.length_append, List.length_replicate, Nat.add_sub_cancel' (Int.ofNat_le.mp hlen)]
    rw [if_pos hlen, Int.toNat_sub, ← List.append_assoc]
    refine ⟨_, rfl, ?_, fun i hi => ?_⟩
    · rw [storedAt_concat, if_pos hm']; cases c <;> rfl
    · rw [storedAt_concat, if_neg (fun h => hi (by rw [h, ← hm'])), storedAt_pad]
  · -- `else: _y[i] = y`
    have hlt : m < l.y.length := Int.ofNat_lt.mp (not_le.mp hlen)
    rw [if_neg hlen, if_pos ((neg_nonpos.mpr (Int.natCast_nonneg _)).trans (Int.natCast_nonneg m)), setPy, if_pos (Int.natCast_nonneg m), Int.toNat_natCast]
    refine ⟨_, rfl, ?_, fun i hi => ?_⟩
    · rw [storedAt_set _ _ _ hlt, if_pos rfl]; cases c <;> rfl
    · rw [storedAt_set _ _ _ hlt, if_neg (fun h => hi (by rw [h]))]

/-- `as_penalty`: the condition `rnorm` is non-negative and zero exactly where the constraint leaves `x` unchanged -/
theorem rnorm_zero_iff [LawfulRoot K] (x cx : List K) (hlen : cx.length = x.length) :
    0 ≤ rnorm x cx ∧ (rnorm x cx = 0 ↔ cx = x) := by
  obtain ⟨h0, hz⟩ := sum_nonneg_zero_iff ((List.zip cx x).map fun p => (p.1 - p.2) * (p.1 - p.2))
    (List.forall_mem_map.mpr fun p _ => mul_self_nonneg _)
  simp only [List.forall_mem_map, mul_self_eq_zero, sub_eq_zero] at hz
  have hr := LawfulRoot.root_mul_self _ h0
  rw [rnorm, rnorm_fold, zero_add, ← zip_eq_iff cx x hlen, ← hz]
  exact ⟨LawfulRoot.root_nonneg _ h0, fun h => by rw [← hr, h, mul_zero], fun h => mul_self_eq_zero.mp (hr.trans h)⟩

/-- the conditions the `coupler` combinators hand to their penalty type: `and_` the sum of the member penalties,
`or_` their minimum, `not_` the negated condition (inequality types) / the indicator of `c = 0` (equality types) -/
theorem combinator_conditions (v : K) (vals : List K) (t : PType) (c : K) :
    andCond vals = vals.sum ∧ orCond v vals = vals.foldl min v ∧
    (t.isEq = false → notCond t c = -c) ∧ (t.isEq = true → notCond t c = if c = 0 then 1 else 0) := by
  refine ⟨andCond_eq_sum vals, orCond_eq_foldl_min v vals, fun h => ?_, fun h => ?_⟩
  · rw [notCond, if_neg (by rw [h]; exact Bool.false_ne_true), zero_sub]
  · simp only [notCond, h, if_true, beq_iff_eq]

/-! ## the three types whose documented formula does NOT satisfy the zero / positivity clause (F8)

Negations on concrete witnesses, over every ordered field; the same inputs are replayed on the implementation
by the harness (`c15.witness_specs`) and listed in `known_findings.d/C15.json`. -/

/-- barrier_inequality (k=100, h=5, n=0): `c = -1/2` satisfies `c ≤ 0`, yet `-log(1/2)/200` is added -
non-zero whenever `log(1/2) ≠ 0` -/
theorem barrier_not_zero_on_feasible_witness (hlog : PenOps.log (1 / 2 : K) ≠ 0) :
    satisfied (K := K) .barrier (-1 / 2) ∧
    evalStack [(({ t := .barrier, k := 100, h := 5, n := 0, y := [] } : Level K), some (-1 / 2 : K))] 1 ≠ .ok 1 := by
  have hc : (-1 / 2 : K) ≤ 0 := by norm_num
  refine ⟨(satisfied_ineq rfl _).mpr hc, fun h => ?_⟩
  rw [formula_barrier_inequality 100 5 0 [] (-1 / 2) 1 (fun h => lt_irrefl _ h.2) (by norm_num),
    if_neg (not_lt.mpr hc), ← neg_div, neg_neg] at h
  -- the added amount is a product of a non-zero coefficient and `log(1/2)`
  rcases mul_eq_zero.mp (add_eq_right.mp (Except.ok.inj h)) with h3 | h3
  · norm_num at h3
  · exact hlog h3

/-- lagrange_inequality (k=20, h=5) after `store` of a violated value `1` and one `iter()`: `β = 40`, `K = 100`;
at the SATISFIED value `c = -1/8` the amount `100/64 - 5 < 0` is added -/
theorem lagrange_inequality_negative_on_feasible_witness :
    satisfied (K := K) .lagIneq (-1 / 8) ∧
    evalStack [(({ t := .lagIneq, k := 20, h := 5, n := 1, y := [1] } : Level K), some (-1 / 8 : K))] 1
      = .ok (100 * (-1 / 8) ^ 2 + 40 * (-1 / 8) + 1) ∧ (100 * (-1 / 8 : K) ^ 2 + 40 * (-1 / 8) + 1) < 1 := by
  refine ⟨(satisfied_ineq rfl _).mpr (by norm_num), ?_, by norm_num⟩
  have hb : betaLoop (5 : K) [1] 1 0 0 20 = (40, 100) := by
    simp only [betaLoop, storedAt_natCast]; norm_num
  have hn : (1 : Int).toNat = 1 := rfl
  rw [formula_lagrange_inequality 20 5 1 [1] (-1 / 8) 1 (by norm_num) (by norm_num), hn, hb]
  have hm : max (-(40 : K) / (2 * (20 * 5 ^ 1))) (-1 / 8) = -1 / 8 := max_eq_right (by norm_num)
  rw [hm]
  norm_num

/-- lagrange_equality (k=20, h=5) after `store` of `1` and one `iter()`: `λ = 40`, `K = 100`; at the VIOLATED
value `c = -1/8` the amount `100/64 - 5 < 0` is added: the penalty rewards the violation -/
theorem lagrange_equality_negative_on_violation_witness :
    ¬ satisfied (K := K) .lagEq (-1 / 8) ∧
    evalStack [(({ t := .lagEq, k := 20, h := 5, n := 1, y := [1] } : Level K), some (-1 / 8 : K))] 1
      = .ok (100 * (-1 / 8) ^ 2 + 40 * (-1 / 8) + 1) ∧ (100 * (-1 / 8 : K) ^ 2 + 40 * (-1 / 8) + 1) < 1 := by
  refine ⟨fun h => ?_, ?_, by norm_num⟩
  · have := (satisfied_eq rfl _).mp h; norm_num at this
  · have hn : (1 : Int).toNat = 1 := rfl
    rw [formula_lagrange_equality, hn, Finset.sum_range_one, storedAt_natCast]
    norm_num

end stack

/-! ## non-vacuity: the hypotheses are satisfiable by concrete, non-trivial instances -/

section examples

/-- the rationals with the exact operations (root: junk, not used without `LawfulRoot`) -/
local instance : PenOps ℚ := ⟨fun a n => a ^ n, fun a => a * a, fun _ => 0, fun a => |a|, fun _ => 0, 0⟩
local instance : LawfulPenOps ℚ := ⟨fun _ _ => rfl, fun _ => rfl, fun _ => rfl⟩

-- a violated and a satisfied point of a quadratic_inequality at iteration 2 (k=100, h=5): 2*100*25*(1/2)^2 = 1250
example : evalStack [(({ t := .qIneq, k := 100, h := 5, n := 2, y := [] } : Level ℚ), some (1 / 2 : ℚ))] 3 = .ok 1253 := by
  decide +kernel
example : conforming PType.qIneq ∧ satisfied PType.qIneq (-3 : ℚ) ∧ ¬ satisfied PType.qIneq (1 / 2 : ℚ)
    ∧ ¬ ((5 : ℚ) = 0 ∧ (2 : Int) < 0) := by
  unfold conforming satisfied; decide +kernel

-- a two-level stack whose terms are both `add` (hypothesis of `stacked_add`)
example : List.Forall₂ (fun (p : Level ℚ × ℚ) a => term p.1 p.2 = .ok (.add a))
    [({ t := .lEq, k := 2, h := 3, n := 1, y := [] }, -2), ({ t := .uIneq, k := 7, h := 1, n := 0, y := [] }, 1)]
    [2 * 3 ^ (1 : Int) * |(-2 : ℚ)|, 7 * 1 ^ (0 : Int)] :=
  .cons (term_lEq rfl _ (by norm_num)) (.cons ((term_uIneq rfl _ fun _ => by norm_num).trans (by norm_num)) .nil)

/-- the reals: `x**0.5` read as `Real.sqrt` satisfies `LawfulRoot` -/
noncomputable local instance : PenOps ℝ := ⟨fun a n => a ^ n, fun a => a * a, Real.sqrt, fun a => |a|, fun _ => 0, 0⟩
local instance : LawfulPenOps ℝ := ⟨fun _ _ => rfl, fun _ => rfl, fun _ => rfl⟩
local instance : LawfulRoot ℝ := ⟨fun a _ => Real.sqrt_nonneg a, fun _ h => Real.mul_self_sqrt h⟩

-- nested error of a violated equality (c = 3) over a violated inequality (c = 4): the 3-4-5 triangle
example : errStack [(({ t := .lEq, k := 1, h := 1, n := 0, y := [] } : Level ℝ), some (3 : ℝ)),
    (({ t := .lIneq, k := 1, h := 1, n := 0, y := [] } : Level ℝ), some (4 : ℝ))] = 5 := by
  obtain ⟨h1, h2⟩ := error_nested (K := ℝ)
    [(({ t := .lEq, k := 1, h := 1, n := 0, y := [] } : Level ℝ), (3 : ℝ)),
     (({ t := .lIneq, k := 1, h := 1, n := 0, y := [] } : Level ℝ), (4 : ℝ))] (List.cons_ne_nil _ _)
  have hw : viol PType.lEq (3 : ℝ) = 3 := rfl
  have hv : viol PType.lIneq (4 : ℝ) = 4 := (pyMax_eq 0 4).trans (max_eq_right (by norm_num))
  refine (mul_self_inj_of_nonneg h1 (by norm_num)).mp (h2.trans ?_)
  simp only [List.map_cons, List.map_nil, List.sum_cons, List.sum_nil, hv, hw]
  norm_num

/-- a scalar structure in which `inf` absorbs addition (hypothesis of `div_zero_top_stack`): `Option ℚ`, `none = inf` -/
def Ext := Option ℚ
local instance : Add Ext := ⟨fun a b => match a, b with | some x, some y => some (x + y) | _, _ => none⟩
local instance : Mul Ext := ⟨fun a b => match a, b with | some x, some y => some (x * y) | _, _ => none⟩
local instance : Div Ext := ⟨fun a b => match a, b with | some x, some y => some (x / y) | _, _ => none⟩
local instance : Neg Ext := ⟨fun a => match a with | some x => some (-x) | none => none⟩
local instance : LT Ext := ⟨fun a b => match a, b with | some x, some y => x < y | some _, none => True | _, _ => False⟩
local instance : DecidableLT Ext := fun a b => by
  cases a <;> cases b <;> simp only [LT.lt] <;> infer_instance
local instance : BEq Ext := ⟨fun a b => match a, b with | some x, some y => x == y | none, none => true | _, _ => false⟩
local instance (n : Nat) : OfNat Ext n := ⟨some (n : ℚ)⟩
local instance : PenOps Ext := ⟨fun a n => a.map (· ^ n), fun a => a.map (fun x => x * x), fun a => a,
  fun a => a.map (|·|), fun a => a, none⟩
example : ∀ a : Ext, a + PenOps.inf = PenOps.inf := by
  intro a; cases a <;> rfl
example : ∀ a : Ext, PenOps.root (a + PenOps.sq PenOps.inf) = PenOps.inf := by
  intro a; cases a <;> rfl

end examples


/-! # Penalty OBJECTS: trees built by `coupler.and_ / or_ / not_`, live member penalties, the operation state machine

`Model/PenaltyTree.lean`.  Every object of a tree is a chain of levels; its condition values come from the user's
callables (`env`) and from the member objects.  On every chain the tree functions are the flat ones, so every
theorem above applies to every object of every tree. -/

section tree
variable {K : Type} [Field K] [LinearOrder K] [IsStrictOrderedRing K] [PenOps K] [LawfulPenOps K]

/-- `p(x)` of ANY object of a tree is `evalStack` of its chain with the condition values the combinators compute -/
theorem tree_eval (env : Env K) (t : PT K) :
    evalT env t = evalStack (chainVals env t) (env.f (baseOf t)) := evalT_eq_evalStack env t

/-- `p.error(x)` likewise -/
theorem tree_error (env : Env K) (t : PT K) : errT env t = errStack (chainVals env t) := errT_eq_errStack env t

/-- **stacked penalties add**, for every object of a tree: `p(x) = f(x) + Σ a_i` over its chain -/
theorem tree_stacked_add (env : Env K) (t : PT K) (ps : List (Level K × K)) (as : List K)
    (hc : chainVals env t = ps.map fun p => (p.1, some p.2))
    (h : List.Forall₂ (fun p a => term p.1 p.2 = .ok (.add a)) ps as) :
    evalT env t = .ok (env.f (baseOf t) + as.sum) := by
  rw [tree_eval, hc]; exact stacked_add ps as _ h

/-- `iter()` / `iter(i)` / `clear()` on an object: its chain gets exactly the flat operation; the CONDITIONS - and with
them every member penalty and its iteration state - and the decorated function are untouched -/
theorem tree_iter_clear (i : Option Int) (t : PT K) :
    (chainLevels (iterT i t) = iterStack i (chainLevels t) ∧ chainConds (iterT i t) = chainConds t
      ∧ baseOf (iterT i t) = baseOf t) ∧
    (chainLevels (clearT t) = clearStack (chainLevels t) ∧ chainConds (clearT t) = chainConds t
      ∧ baseOf (clearT t) = baseOf t) :=
  ⟨chain_iterT i t, chain_clearT t⟩

/-- `store(x, i)` on an object: the flat `store` along its chain with the condition values at `x`; members untouched -/
theorem tree_store (env : Env K) (i : Option Int) (t : PT K) :
    chainLevels (storeT env i t).1 = (storeStack i (chainVals env t)).1
      ∧ (storeT env i t).2 = (storeStack i (chainVals env t)).2
      ∧ chainConds (storeT env i t).1 = chainConds t ∧ baseOf (storeT env i t).1 = baseOf t :=
  chain_storeT env t i

/-- a call on the object at the end of a path acts on exactly that object -/
theorem tree_op_reaches_object (g : PT K → PT K) (p : List Step) (t : PT K) :
    getT p (modT g p t) = (getT p t).map g := get_modT g p t

/-- **nothing but iteration state ever changes**: for EVERY history of `iter / iter(i) / clear / store` calls on
ARBITRARY objects (outer levels, decorated levels, member penalties at any nesting depth) of an arbitrarily nested
tree, the tree with the iteration state (`_n[0]`, `_y`) erased is the same: no type, `k`, `h`, condition, member,
decorated function or shape changes, no level appears or disappears -/
theorem tree_ops_touch_only_iteration_state (os : List (TOp K)) (t : PT K) :
    skelT (os.foldl (fun s o => o.apply s) t) = skelT t := by
  induction os generalizing t with
  | nil => rfl
  | cons o os ih =>
    rw [List.foldl_cons, ih]
    cases o with
    | iter p i => exact skel_modT _ (fun s => (skel_clean_iterT i s).1) p t
    | clear p => exact skel_modT _ skel_clearT p t
    | store p env i => exact skel_modT _ (fun s => (skel_clean_storeT env s i).1) p t

/-- the counter operations on an object -/
def CtrOp.applyT (o : CtrOp) (t : PT K) : PT K :=
  match o with
  | .iter => iterT none t
  | .iterI i => iterT (some i) t
  | .clear => clearT t

/-- **iter() advances and clear() resets through nested penalties**: after ANY history of `iter()` / `iter(i)` /
`clear()` calls on an object, the iteration of every level of its chain is the counter semantics applied to its
initial value; the conditions (member penalties and their state) and the decorated function are as before -/
theorem tree_iteration_history (os : List CtrOp) (t : PT K) :
    (chainLevels (os.foldl (fun s o => o.applyT s) t)).map (·.n)
        = (chainLevels t).map (fun l => os.foldl (fun n o => o.count n) l.n)
    ∧ chainConds (os.foldl (fun s o => o.applyT s) t) = chainConds t
    ∧ baseOf (os.foldl (fun s o => o.applyT s) t) = baseOf t := by
  have step : ∀ (o : CtrOp) (t : PT K), chainLevels (o.applyT t) = o.apply (chainLevels t)
      ∧ chainConds (o.applyT t) = chainConds t ∧ baseOf (o.applyT t) = baseOf t
    | .iter, t => chain_iterT none t
    | .iterI i, t => chain_iterT (some i) t
    | .clear, t => chain_clearT t
  have key : ∀ (os : List CtrOp) (t : PT K),
      chainLevels (os.foldl (fun s o => o.applyT s) t) = os.foldl (fun s o => o.apply s) (chainLevels t)
      ∧ chainConds (os.foldl (fun s o => o.applyT s) t) = chainConds t
      ∧ baseOf (os.foldl (fun s o => o.applyT s) t) = baseOf t := by
    intro os
    induction os with
    | nil => exact fun t => ⟨rfl, rfl, rfl⟩
    | cons o os ih =>
      intro t
      obtain ⟨h1, h2, h3⟩ := ih (o.applyT t)
      obtain ⟨s1, s2, s3⟩ := step o t
      exact ⟨h1.trans (congrArg (os.foldl (fun s o => o.apply s)) s1), h2.trans s2, h3.trans s3⟩
  obtain ⟨h1, h2, h3⟩ := key os t
  exact ⟨by rw [h1]; exact iteration_history os (chainLevels t), h2, h3⟩

/-- `coupler.and_(p1, .., pm, ptype=T, k, h)`: the penalty of type `T` whose condition value is the SUM of the
member penalties' values; a member that raises makes it `inf` -/
theorem and_penalty (env : Env K) (l : Level K) (ms : PL K) (z : Nat) :
    (∀ vals, valsL env ms = some vals →
      evalT env (.pen l (.and ms) (.base z)) = evalStack [(l, some vals.sum)] (env.f z)) ∧
    (valsL env ms = none → evalT env (.pen l (.and ms) (.base z)) = .ok PenOps.inf) := by
  constructor
  · intro vals hv
    rw [evalT_pen_base, condV_and env hv, andCond_eq_sum]
  · intro hv
    simp only [evalT, condV, hv]

/-- `coupler.or_`: the condition value is the MINIMUM of the member penalties' values -/
theorem or_penalty (env : Env K) (l : Level K) (m : PT K) (ms : PL K) (z : Nat) (v : K) (vals : List K)
    (hm : evalT env m = .ok v) (hv : valsL env ms = some vals) :
    evalT env (.pen l (.or m ms) (.base z)) = evalStack [(l, some (vals.foldl min v))] (env.f z) := by
  rw [evalT_pen_base, condV_or env hm hv, orCond_eq_foldl_min]

/-- `coupler.not_`: the condition value is `-c` (inequality types: satisfied where `c >= 0`) / the indicator of
`c == 0` (equality types: satisfied where `c != 0`); a raising condition gives `inf` -/
theorem not_penalty (env : Env K) (l : Level K) (c : PC K) (z : Nat) (v : K) (hc : condV env c = some v) :
    evalT env (.pen l (.not l.t c) (.base z)) = evalStack [(l, some (notCond l.t v))] (env.f z)
    ∧ (l.t.isEq = false → (satisfied l.t (notCond l.t v) ↔ 0 ≤ v))
    ∧ (l.t.isEq = true → (satisfied l.t (notCond l.t v) ↔ v ≠ 0)) := by
  refine ⟨?_, fun h => satisfied_notCond_ineq h v, fun h => satisfied_notCond_eq h v⟩
  rw [evalT_pen_base, condV_not env l.t hc]

/-- a member object made of conforming levels (`k, h > 0`) over a zero base: its value is never negative and is
zero exactly where ALL its conditions are satisfied -/
theorem member_sign (env : Env K) (t : PT K) (ps : List (Level K × K))
    (hc : chainVals env t = ps.map fun p => (p.1, some p.2)) (hz : env.f (baseOf t) = 0)
    (h : ∀ p ∈ ps, conforming p.1.t ∧ 0 < p.1.k ∧ 0 < p.1.h) :
    ∃ v, evalT env t = .ok v ∧ 0 ≤ v ∧ (v = 0 ↔ ∀ p ∈ ps, satisfied p.1.t p.2) := by
  obtain ⟨d, hd, hd0, hdz⟩ := stack_sign ps 0 h
  refine ⟨d + 0, by rw [tree_eval, hc, hz]; exact hd, ?_, ?_⟩ <;> rwa [add_zero]

/-- members of a combination, as a list -/
def membersOf : PL K → List (PT K)
  | .nil => []
  | .cons m rest => m :: membersOf rest

theorem valsL_spec (env : Env K) : ∀ (ms : PL K) (vals : List K),
    valsL env ms = some vals ↔ List.Forall₂ (fun m v => evalT env m = .ok v) (membersOf ms) vals
  | .nil, vals => by
    simp only [valsL, membersOf, Option.some.injEq]
    constructor
    · intro h; rw [← h]; exact .nil
    · intro h; cases h; rfl
  | .cons m rest, vals => by
    simp only [valsL, membersOf]
    cases hm : evalT env m with
    | error e =>
      simp only [reduceCtorEq, false_iff]
      intro h; cases h with | cons h1 _ => rw [hm] at h1; cases h1
    | ok v =>
      cases hr : valsL env rest with
      | none =>
        simp only [reduceCtorEq, false_iff]
        intro h
        cases h with
        | cons h1 h2 => rw [(valsL_spec env rest _).mpr h2] at hr; cases hr
      | some vs =>
        simp only [Option.some.injEq]
        constructor
        · intro h; rw [← h]; exact .cons hm ((valsL_spec env rest vs).mp hr)
        · intro h
          cases h with
          | cons h1 h2 =>
            rw [hm] at h1
            have := (valsL_spec env rest _).mpr h2
            rw [hr] at this
            rw [Except.ok.inj h1, Option.some.inj this]

/-- **and_ = intersection**: with members whose values are never negative, the condition of `and_` is never negative
and is zero exactly where EVERY member is zero -/
theorem and_zero_iff (vals : List K) (h0 : ∀ v ∈ vals, 0 ≤ v) :
    0 ≤ andCond vals ∧ (andCond vals = 0 ↔ ∀ v ∈ vals, v = 0) := by
  rw [andCond_eq_sum]
  exact sum_nonneg_zero_iff vals h0

/-- **or_ = union**: with members whose values are never negative, the condition of `or_` is never negative and is
zero exactly where SOME member is zero -/
theorem or_zero_iff (v : K) (vals : List K) (hv : 0 ≤ v) (h0 : ∀ u ∈ vals, 0 ≤ u) :
    0 ≤ orCond v vals ∧ (orCond v vals = 0 ↔ v = 0 ∨ ∃ u ∈ vals, u = 0) :=
  orCond_zero_iff vals v hv h0

/-- one cycle of the augmented-Lagrangian outer loop on a Lagrange level whose history is complete
(`iteration() == len(stored())`): `store(x); iter()` appends the condition value and advances the iteration -/
theorem store_iter_cycle (l : Level K) (c : K) (hlag : l.t.isLag = true) (hn : l.n = l.y.length) :
    (storeStack none [(l, some c)]).2 = none ∧
    iterStack none (storeStack none [(l, some c)]).1 = [{ l with n := l.n + 1, y := l.y ++ [c] }] := by
  simp only [storeStack, hlag, if_true, storeIdx, hn, le_refl, sub_self, Int.toNat_zero, List.replicate_zero,
    List.nil_append, iterStack, List.map_cons, List.map_nil, and_self]

/-- the whole history: `m` cycles `store(x_i); iter()` on a fresh Lagrange penalty leave `iteration() == m` and
`stored() == [c(x_0), .., c(x_{m-1})]` -/
theorem lagrange_cycles (t : PType) (k h : K) (hlag : t.isLag = true) (cs : List K) :
    cs.foldl (fun (ls : List (Level K)) c => iterStack none (storeStack none (ls.map fun l => (l, some c))).1)
      [{ t := t, k := k, h := h, n := 0, y := [] }]
    = [{ t := t, k := k, h := h, n := cs.length, y := cs }] := by
  induction cs using List.reverseRecOn with
  | nil => rfl
  | append_singleton cs c ih =>
    rw [List.foldl_append, List.foldl_cons, List.foldl_nil, ih, List.map_cons, List.map_nil,
      (store_iter_cycle _ c hlag rfl).2, List.length_append, List.length_singleton, Nat.cast_add, Nat.cast_one]

/-- lagrange_equality after `m` cycles: `p(x) = k*h^m*c^2 + λ_m*c + f(x)` with `λ_m = Σ_{i<m} 2*k*h^i*c_i` -/
theorem lagrange_equality_after_cycles (k h : K) (cs : List K) (c fx : K) :
    evalStack [({ t := .lagEq, k := k, h := h, n := cs.length, y := cs }, some c)] fx =
      .ok (k * h ^ cs.length * c ^ 2 + (∑ i ∈ Finset.range cs.length, 2 * k * h ^ i * cs.getD i 0) * c + fx) := by
  rw [formula_lagrange_equality]
  simp only [Int.toNat_natCast, storedAt_natCast, List.getD_eq_getElem?_getD]

/-- the documented multiplier update `lam += 2*pk*f(x)`: one more cycle with condition value `c'` adds `2*k*h^m*c'` -/
theorem lagrange_equality_multiplier_update (k h : K) (cs : List K) (c' : K) :
    (∑ i ∈ Finset.range (cs ++ [c']).length, 2 * k * h ^ i * (cs ++ [c']).getD i 0)
      = (∑ i ∈ Finset.range cs.length, 2 * k * h ^ i * cs.getD i 0) + 2 * k * h ^ cs.length * c' := by
  -- `getD i 0` is `stored(i)`
  simp only [List.getD_eq_getElem?_getD, ← storedAt_natCast, storedAt_concat]
  rw [List.length_append, List.length_singleton, Finset.sum_range_succ, if_pos rfl]
  exact congrArg (· + _) (Finset.sum_congr rfl fun i hi => by rw [if_neg (Finset.mem_range.mp hi).ne])

/-- lagrange_inequality: the multiplier after one more cycle with condition value `c'` is
`β_{m+1} = max(0, β_m + 2*k*h^m*c')` - the clipped update, for every stored history -/
theorem lagrange_inequality_multiplier_update (k h : K) (cs : List K) (c' : K) :
    (betaLoop h (cs ++ [c']) (cs.length + 1) 0 0 k).1
      = max 0 ((betaLoop h cs cs.length 0 0 k).1 + 2 * (k * h ^ cs.length) * c') := by
  rw [betaLoop_succ, Nat.zero_add, storedAt_concat, if_pos rfl, betaLoop_congr h (cs ++ [c']) cs cs.length 0 0 k
    (fun j _ hj => by rw [storedAt_concat, if_neg (Nat.zero_add _ ▸ hj).ne]), betaLoop_snd]

/-- barrier_inequality with a vanishing multiplier (`k = 0`, or `h = 0` after an `iter()`): `-.5/_k` divides by zero
and the `ZeroDivisionError` escapes from `p(x)` on the feasible side -/
theorem barrier_zero_multiplier_raises (k h : K) (n : Int) (y : List K) (c fx : K) (hc : c ≤ 0)
    (hp : ¬ (h = 0 ∧ n < 0)) (hk : k * h ^ n = 0) :
    evalStack [({ t := .barrier, k := k, h := h, n := n, y := y }, some c)] fx = .error .zerodiv := by
  simp only [evalStack, term, not_lt.mpr hc, if_false, pyPow_ok h n hp, hk, pyDiv_err]

end tree


/-! # an infinite multiplier `k = inf` (the documented default of the two uniform types)

An ordered field has no `inf`; the statements below are over `XQ`, the rationals extended by `+inf, -inf, nan` with the
IEEE-754 conventions the floats follow (`inf * 0 = nan`, `inf - inf = nan`, `nan` absorbs, every comparison with
`nan` is false).  Uniform types: nothing is added where the condition is satisfied, `+inf` where it is violated.
Quadratic / linear types: `+inf` where violated, but `nan` (= `inf * 0`) where SATISFIED - the clause "no added
penalty where satisfied" fails for them at `k = inf` (known finding F8d, replayed on the implementation). -/

inductive XQ where
  | fin (q : ℚ) | pinf | ninf | nan
  deriving DecidableEq

namespace XQ

def sgnMul (pos : Bool) (q : ℚ) : XQ := if q = 0 then nan else if (0 < q) = pos then pinf else ninf

def add : XQ → XQ → XQ
  | fin a, fin b => fin (a + b)
  | nan, _ => nan | _, nan => nan
  | pinf, ninf => nan | ninf, pinf => nan
  | pinf, _ => pinf | _, pinf => pinf
  | ninf, _ => ninf | _, ninf => ninf

def neg : XQ → XQ
  | fin a => fin (-a) | pinf => ninf | ninf => pinf | nan => nan

def mul : XQ → XQ → XQ
  | fin a, fin b => fin (a * b)
  | nan, _ => nan | _, nan => nan
  | pinf, fin b => sgnMul true b | fin a, pinf => sgnMul true a
  | ninf, fin b => sgnMul false b | fin a, ninf => sgnMul false a
  | pinf, pinf => pinf | ninf, ninf => pinf | pinf, ninf => ninf | ninf, pinf => ninf

def div : XQ → XQ → XQ
  | fin a, fin b => fin (a / b)        -- python raises on b = 0 before (pyDiv)
  | nan, _ => nan | _, nan => nan
  | fin _, _ => fin 0
  | pinf, fin b => if 0 ≤ b then pinf else ninf
  | ninf, fin b => if 0 ≤ b then ninf else pinf
  | _, _ => nan

def ltb : XQ → XQ → Bool
  | fin a, fin b => decide (a < b)
  | nan, _ => false | _, nan => false
  | ninf, ninf => false | ninf, _ => true
  | _, ninf => false
  | pinf, _ => false
  | fin _, pinf => true

def beq : XQ → XQ → Bool
  | fin a, fin b => decide (a = b)
  | pinf, pinf => true | ninf, ninf => true
  | _, _ => false

def abs : XQ → XQ
  | fin a => fin |a| | pinf => pinf | ninf => pinf | nan => nan

instance : Add XQ := ⟨add⟩
instance : Sub XQ := ⟨fun a b => add a (neg b)⟩
instance : Mul XQ := ⟨mul⟩
instance : Div XQ := ⟨div⟩
instance : Neg XQ := ⟨neg⟩
instance : LT XQ := ⟨fun a b => ltb a b = true⟩
instance : DecidableLT XQ := fun a b => inferInstanceAs (Decidable (ltb a b = true))
instance : BEq XQ := ⟨beq⟩
instance (n : Nat) : OfNat XQ n := ⟨fin n⟩
instance : PenOps XQ where
  powi a n := match a with
    | fin q => fin (q ^ n)
    | pinf => if 0 < n then pinf else if n = 0 then fin 1 else fin 0
    | _ => nan
  sq a := mul a a
  root a := a
  abs := abs
  log _ := nan
  inf := pinf

theorem zero_def : (0 : XQ) = fin 0 := by show fin ((0 : Nat) : ℚ) = fin 0; simp
theorem two_def : (2 : XQ) = fin 2 := by show fin ((2 : Nat) : ℚ) = fin 2; simp
theorem fin_add (a b : ℚ) : (fin a + fin b : XQ) = fin (a + b) := rfl
theorem pinf_add_fin (b : ℚ) : (pinf + fin b : XQ) = pinf := rfl
theorem nan_add (b : XQ) : (nan + b : XQ) = nan := by cases b <;> rfl
theorem fin_mul (a b : ℚ) : (fin a * fin b : XQ) = fin (a * b) := rfl
theorem pinf_mul_fin (b : ℚ) : (pinf * fin b : XQ) = if b = 0 then nan else if 0 < b then pinf else ninf := by
  show sgnMul true b = _
  unfold sgnMul
  by_cases h0 : b = 0
  · simp [h0]
  · by_cases hp : 0 < b <;> simp [h0, hp]
theorem fin_mul_pinf (a : ℚ) : (fin a * pinf : XQ) = if a = 0 then nan else if 0 < a then pinf else ninf :=
  pinf_mul_fin a
theorem beq_fin (a b : ℚ) : ((fin a == fin b) = true) ↔ a = b := by
  show (XQ.beq (fin a) (fin b) = true) ↔ a = b
  simp [XQ.beq]
theorem lt_fin (a b : ℚ) : (fin a < fin b) ↔ a < b := by
  show (XQ.ltb (fin a) (fin b) = true) ↔ a < b
  simp [XQ.ltb]
theorem sq_fin (a : ℚ) : (PenOps.sq (fin a) : XQ) = fin (a * a) := rfl
theorem abs_fin (a : ℚ) : (PenOps.abs (fin a) : XQ) = fin |a| := rfl
theorem powi_fin (a : ℚ) (n : Int) : (PenOps.powi (fin a) n : XQ) = fin (a ^ n) := rfl
theorem inf_def : (PenOps.inf : XQ) = pinf := rfl

theorem pyPow_fin (h : ℚ) (hh : 0 < h) (n : Int) : pyPow (fin h) n = .ok (fin (h ^ n)) := by
  unfold pyPow
  rw [if_neg, powi_fin]
  rintro ⟨h0, _⟩
  rw [zero_def, beq_fin] at h0
  exact (ne_of_gt hh) h0

theorem pyMax_zero_fin (c : ℚ) : pyMax (0 : XQ) (fin c) = fin (max 0 c) := by
  unfold pyMax
  by_cases hc : 0 < c
  · have hl : (0 : XQ) < fin c := by rw [zero_def, lt_fin]; exact hc
    rw [if_pos hl, max_eq_right (le_of_lt hc)]
  · have hl : ¬ (0 : XQ) < fin c := by rw [zero_def, lt_fin]; exact hc
    rw [if_neg hl, max_eq_left (not_lt.mp hc), zero_def]

private theorem pinf_mul_pow (h : ℚ) (hh : 0 < h) (n : Int) : (pinf : XQ) * fin (h ^ n) = pinf := by
  have hpos : (0 : ℚ) < h ^ n := zpow_pos hh n
  rw [pinf_mul_fin, if_neg (ne_of_gt hpos), if_pos hpos]

end XQ

open XQ in
/-- `k = inf` with the two uniform types (their default): `p(x) = f(x)` exactly where the condition is satisfied and
`+inf` where it is violated - for every finite `h > 0`, iteration, stored history, condition value and `f(x)` -/
theorem infinite_k_uniform (h : ℚ) (hh : 0 < h) (n : Int) (y : List XQ) (c fx : ℚ) :
    evalStack [(({ t := .uEq, k := pinf, h := fin h, n := n, y := y } : Level XQ), some (fin c))] (fin fx)
      = .ok (if c = 0 then fin fx else pinf) ∧
    evalStack [(({ t := .uIneq, k := pinf, h := fin h, n := n, y := y } : Level XQ), some (fin c))] (fin fx)
      = .ok (if c ≤ 0 then fin fx else pinf) := by
  constructor
  · by_cases hc : c = 0 <;>
      simp only [evalStack, term, zero_def, beq_fin, hc, if_true, if_false, pyPow_fin h hh n, pinf_mul_pow h hh n,
        fin_add, zero_add, pinf_add_fin]
  · by_cases hc : c ≤ 0 <;>
      simp only [evalStack, term, zero_def, lt_fin, ← not_le, hc, not_true, not_false_eq_true, if_true, if_false,
        pyPow_fin h hh n, pinf_mul_pow h hh n, fin_add, zero_add, pinf_add_fin]

open XQ in
/-- `k = inf` with the quadratic / linear types: `+inf` where the condition is violated, but `nan` (`inf * 0`) where it
is SATISFIED - for every finite `h > 0`, iteration, stored history and `f(x)`: the clause "no added penalty where
satisfied" fails for these four types at `k = inf` (F8d) -/
theorem infinite_k_quadratic_linear (h : ℚ) (hh : 0 < h) (n : Int) (y : List XQ) (c fx : ℚ) :
    evalStack [(({ t := .qEq, k := pinf, h := fin h, n := n, y := y } : Level XQ), some (fin c))] (fin fx)
      = .ok (if c = 0 then nan else pinf) ∧
    evalStack [(({ t := .lEq, k := pinf, h := fin h, n := n, y := y } : Level XQ), some (fin c))] (fin fx)
      = .ok (if c = 0 then nan else pinf) ∧
    evalStack [(({ t := .qIneq, k := pinf, h := fin h, n := n, y := y } : Level XQ), some (fin c))] (fin fx)
      = .ok (if c ≤ 0 then nan else pinf) ∧
    evalStack [(({ t := .lIneq, k := pinf, h := fin h, n := n, y := y } : Level XQ), some (fin c))] (fin fx)
      = .ok (if c ≤ 0 then nan else pinf) := by
  have hmul := pinf_mul_pow h hh n
  have h2 : (2 : XQ) * pinf = pinf := by rw [two_def, fin_mul_pinf]; norm_num
  have key : ∀ a : ℚ, 0 ≤ a → ((pinf : XQ) * fin a + fin fx) = if a = 0 then nan else pinf := by
    intro a ha
    rw [pinf_mul_fin]
    by_cases h0 : a = 0
    · rw [if_pos h0, if_pos h0, nan_add]
    · rw [if_neg h0, if_neg h0, if_pos (lt_of_le_of_ne ha (Ne.symm h0)), pinf_add_fin]
  refine ⟨?_, ?_, ?_, ?_⟩
  · simp only [evalStack, term, pyPow_fin h hh n, hmul, sq_fin, key (c * c) (mul_self_nonneg c), mul_self_eq_zero]
  · simp only [evalStack, term, pyPow_fin h hh n, hmul, abs_fin, key |c| (abs_nonneg c), abs_eq_zero]
  · simp only [evalStack, term, pyPow_fin h hh n, hmul, h2, pyMax_zero_fin, sq_fin,
      key (max 0 c * max 0 c) (mul_self_nonneg _), mul_self_eq_zero, max_eq_left_iff]
  · simp only [evalStack, term, pyPow_fin h hh n, hmul, h2, pyMax_zero_fin, abs_fin,
      key |max 0 c| (abs_nonneg _), abs_eq_zero, max_eq_left_iff]

open XQ in
/-- the concrete witnesses replayed on the implementation (`c15.witness_specs`): quadratic_equality(k=inf, h=5) over
`f(x) = 1` returns `nan` at the satisfied value `c = 0` and `+inf` at the violated value `c = 1/2`; the linear and
inequality variants return `nan` at satisfied values -/
theorem infinite_k_nan_on_feasible_witness :
    evalStack [(({ t := .qEq, k := pinf, h := fin 5, n := 0, y := [] } : Level XQ), some (fin 0))] (fin 1) = .ok nan ∧
    evalStack [(({ t := .qEq, k := pinf, h := fin 5, n := 0, y := [] } : Level XQ), some (fin (1 / 2)))] (fin 1) = .ok pinf ∧
    evalStack [(({ t := .lEq, k := pinf, h := fin 5, n := 0, y := [] } : Level XQ), some (fin 0))] (fin 1) = .ok nan ∧
    evalStack [(({ t := .qIneq, k := pinf, h := fin 5, n := 0, y := [] } : Level XQ), some (fin (-1)))] (fin 1) = .ok nan ∧
    evalStack [(({ t := .lIneq, k := pinf, h := fin 5, n := 0, y := [] } : Level XQ), some (fin (-1)))] (fin 1) = .ok nan := by
  decide +kernel


section treeExamples

local instance : PenOps ℚ := ⟨fun a n => a ^ n, fun a => a * a, fun _ => 0, fun a => |a|, fun _ => 0, 0⟩
local instance : LawfulPenOps ℚ := ⟨fun _ _ => rfl, fun _ => rfl, fun _ => rfl⟩

/-- conditions: #0 = 3 (violated), #1 = 0 (satisfied), #2 raises; decorated functions: #0 = 0, #1 = 7 -/
def exEnv : Env ℚ := ⟨fun i => if i = 0 then some 3 else if i = 1 then some 0 else none, fun j => if j = 0 then 0 else 7⟩

/-- `quadratic_equality(c0, k=2, h=5)` at iteration 1 over a zero base: 2*5*9 = 90 -/
def exM1 : PT ℚ := .pen { t := .qEq, k := 2, h := 5, n := 1, y := [] } (.leaf 0) (.base 0)
/-- `linear_inequality(c1, k=1, h=5)` over a zero base: satisfied -/
def exM2 : PT ℚ := .pen { t := .lIneq, k := 1, h := 5, n := 0, y := [] } (.leaf 1) (.base 0)
/-- `and_(m1, m2)` (defaults: linear_equality, k=1, h=5) decorated once more by `uniform_inequality(c0, k=4, h=1)(...)` -/
def exTree : PT ℚ :=
  .pen { t := .uIneq, k := 4, h := 1, n := 0, y := [] } (.leaf 0)
    (.pen { t := .lEq, k := 1, h := 5, n := 0, y := [] } (.and (.cons exM1 (.cons exM2 .nil))) (.base 0))

-- the member values, the combined condition and the stacked result 4 + 1*|90 + 0| + 0
example : valsL exEnv (.cons exM1 (.cons exM2 .nil)) = some [90, 0] := by decide +kernel
example : evalT exEnv exTree = .ok 94 := by decide +kernel
-- a member whose condition divides by zero hands `inf` to the and_ penalty as its value (`PenOps.inf`, 0 in this toy instance)
example : evalT exEnv (.pen { t := .lEq, k := 1, h := 5, n := 0, y := [] }
    (.and (.cons (.pen { t := .qEq, k := 2, h := 5, n := 0, y := [] } (.leaf 2) (.base 0)) .nil)) (.base 0))
    = .ok (1 * 5 ^ (0 : Int) * |(PenOps.inf : ℚ)| + 0) := by decide +kernel
-- hypotheses of `member_sign` / `tree_stacked_add` on the member m1
example : chainVals exEnv exM1 = [(({ t := .qEq, k := 2, h := 5, n := 1, y := [] } : Level ℚ), (3 : ℚ))].map
    fun p => (p.1, some p.2) := rfl
-- an operation history on three different objects (root, decorated level, member m1): only iteration state moves
example : skelT ([TOp.iter [] none, TOp.iter [.down] (some 4), TOp.store [.down, .member 0] exEnv none,
    TOp.clear [.down, .member 1]].foldl (fun s o => o.apply s) exTree) = skelT exTree :=
  tree_ops_touch_only_iteration_state _ _
example : getT [.down, .member 0] exTree = some exM1 := rfl
-- two cycles of the Lagrange outer loop
example : [(3 : ℚ), -1].foldl
    (fun (ls : List (Level ℚ)) c => iterStack none (storeStack none (ls.map fun l => (l, some c))).1)
      [{ t := .lagEq, k := 20, h := 5, n := 0, y := [] }]
    = [{ t := .lagEq, k := 20, h := 5, n := 2, y := [3, -1] }] :=
  lagrange_cycles .lagEq 20 5 rfl [3, -1]

end treeExamples


section handles
variable {K : Type} [Field K] [LinearOrder K] [IsStrictOrderedRing K] [PenOps K] [LawfulPenOps K]

/-- the counter operation on ONE level -/
def CtrOp.lvl (o : CtrOp) (l : Level K) : Level K :=
  match o with
  | .iter => { l with n := l.n + 1 }
  | .iterI i => { l with n := i }
  | .clear => { l with n := 0, y := [] }

theorem CtrOp.apply_eq_map (o : CtrOp) (ls : List (Level K)) : o.apply ls = ls.map o.lvl := by
  cases o <;> simp [CtrOp.apply, CtrOp.lvl, iterStack, clearStack]

/-- **interleaved handles**: after ANY history of `iter()` / `iter(i)` / `clear()` calls, each made through the handle
of an arbitrary level `j` of the stack, level `idx` has seen exactly the calls with `j ≤ idx`, in order -/
theorem iteration_history_handles (os : List (Nat × CtrOp)) : ∀ ls : List (Level K),
    os.foldl (fun s o => onFrom o.1 o.2.apply s) ls
      = ls.mapIdx (fun idx l => os.foldl (fun l o => if o.1 ≤ idx then o.2.lvl l else l) l) := by
  induction os with
  | nil => intro ls; simpa using (mapIdx_const (fun l : Level K => l) ls).symm
  | cons o os ih =>
    intro ls
    simp only [List.foldl_cons]
    rw [ih]
    have e : onFrom o.1 o.2.apply ls = onFrom o.1 (List.map o.2.lvl) ls := by
      unfold onFrom; rw [CtrOp.apply_eq_map]
    rw [e, onFrom_map, List.mapIdx_mapIdx]
    rfl

end handles

-- calls through the handles of levels 0, 1, 0 of a two-level stack: level 0 sees iter(), iter(); level 1 all three
example : ([(0, CtrOp.iter), (1, CtrOp.iterI 7), (0, CtrOp.iter)].foldl (fun s o => onFrom o.1 o.2.apply s)
    [({ t := .qEq, k := 1, h := 5, n := 0, y := [] } : Level ℚ), { t := .lagEq, k := 1, h := 5, n := 0, y := [] }]).map (·.n)
    = [2, 8] := by decide +kernel


/-! ## the lists handed out by `stored()`: the penalty and its caller share nothing

The property's "equal to the documented expression in ... the stored multiplier histories" and "clear() resets the
iteration state ... without touching anything else" quantify over HISTORIES of calls; a caller that keeps (and edits)
what `stored()` returned is part of such a history.  `Sess` = the tree plus the caller's lists (`Model/PenaltyTree`). -/

section readings
variable {K : Type} [Field K] [LinearOrder K] [IsStrictOrderedRing K] [PenOps K] [LawfulPenOps K]

/-- **a penalty depends only on the calls made on it**: after ANY session - mutating calls on arbitrary objects of
the tree interleaved with the caller reading `stored()` and editing the lists it received in any way - the whole tree
(hence `p(x)`, `error(x)`, `iteration()`, `stored()` of every object) is what the mutating calls ALONE produce -/
theorem reading_edits_never_reach_penalty (os : List (SOp K)) (s : Sess K) :
    (runS os s).t = (treeOps os).foldl (fun t o => o.apply t) s.t := runS_tree os s

/-- one edit of a list the caller holds: the tree, and every OTHER list the caller holds, is untouched -/
theorem reading_edit_frame (i : Nat) (new : List K) (s : Sess K) :
    ((SOp.hmut i new).apply s).t = s.t ∧
    (∀ (env : Env K) (p : List Step), (getT p ((SOp.hmut i new).apply s).t).map (evalT env) = (getT p s.t).map (evalT env)
      ∧ (getT p ((SOp.hmut i new).apply s).t).map storedT = (getT p s.t).map storedT) ∧
    ∀ j, j ≠ i → ((SOp.hmut i new).apply s).held[j]? = s.held[j]? := by
  refine ⟨rfl, fun env p => ⟨rfl, rfl⟩, fun j hj => ?_⟩
  simp only [SOp.apply]
  rw [List.getElem?_set_ne (Ne.symm hj)]

/-- `r = obj.stored()` is a snapshot: the caller's new list holds the history of that object at that moment, the tree
and the lists already held are unchanged -/
theorem reading_is_copy (p : List Step) (s : Sess K) (sub : PT K) (h : getT p s.t = some sub) :
    ((SOp.hold p).apply s).t = s.t ∧ ((SOp.hold p).apply s).held = s.held ++ [storedT sub] := by
  simp only [SOp.apply, h, and_self]

/-- **`clear()` (and `iter`, `store`) touch nothing the caller holds**: a mutating call on any object of the tree leaves
every list obtained from `stored()` exactly as the caller left it -/
theorem tree_ops_leave_readings (os : List (TOp K)) (s : Sess K) :
    (runS (os.map SOp.tree) s).held = s.held := by
  induction os generalizing s with
  | nil => rfl
  | cons o os ih =>
    simp only [List.map_cons, runS, List.foldl_cons]
    exact ih _

/-- **a type without multipliers never has a history**: start from freshly built penalties (every non-Lagrange level
with an empty `_y`); after ANY session, `stored()` of any object of the tree whose type is not a Lagrange type is `[]`
and `stored(i)` is `0.0` for every `i` -/
theorem non_lagrange_never_has_history (os : List (SOp K)) (s : Sess K) (hfresh : cleanT s.t = true)
    (p : List Step) (l : Level K) (c : PC K) (inner : PT K)
    (hget : getT p (runS os s).t = some (.pen l c inner)) (hnl : l.t.isLag = false) :
    storedT (.pen l c inner) = [] ∧ ∀ i : Int, storedAt (storedT (PT.pen l c inner)) i = 0 := by
  have h1 : cleanT (runS os s).t = true := by rw [runS_tree]; exact clean_fold _ _ hfresh
  have h2 := clean_getT p _ _ h1 hget
  simp only [cleanT, Bool.and_eq_true, hnl, Bool.false_or, List.isEmpty_iff] at h2
  have hy : storedT (.pen l c inner) = [] := h2.1.1
  exact ⟨hy, fun i => by rw [hy, storedAt_nil]⟩

end readings

section readingExamples
local instance : PenOps ℚ := ⟨fun a n => a ^ n, fun a => a * a, fun _ => 0, fun a => |a|, fun _ => 0, 0⟩

/-- a Lagrange level with two stored multipliers around a quadratic level -/
def exLag : PT ℚ := .pen { t := .lagEq, k := 20, h := 5, n := 2, y := [3, -1] } (.leaf 0)
  (.pen { t := .qEq, k := 2, h := 5, n := 2, y := [] } (.leaf 1) (.base 0))

-- read, sort / scale / extend the reading, read the inner level, clear: the caller's lists are its own, the tree is
-- what `clear` alone produces
example : runS [SOp.hold [], SOp.hmut 0 [-1000, 3, 99], SOp.hold [.down], SOp.hmut 1 [5], SOp.hold [],
      SOp.tree (TOp.clear [])] ⟨exLag, []⟩
    = ⟨clearT exLag, [[-1000, 3, 99], [5], [3, -1]]⟩ := rfl
example : cleanT exLag = true := rfl
end readingExamples

end MysticVerif.C15
