/-
C10: GradientNormTolerance for EVERY `norm` (termination.py l.363-383, math/distance.py `Lnorm`
l.13-38) on the gradient the code really uses: the solver's last gradient or - when the solver has none, as every
mystic solver - `approx_fprime` of the RAW cost at `bestSolution` (_scipy060optimize.py l.611-619).
Model: `Prim.gradnormP`, `gradOf`, `lnorm`, `approxFprime`, `approxPoints` in Model/Termination.lean.
-/
import MysticVerif.Proofs.Termination
import Mathlib.Algebra.Order.Field.Rat

namespace MysticVerif.C10
open MysticVerif.Term

-- fixed statements carry every instance binder of their section
set_option linter.unusedSectionVars false

section GradGeneric
variable {R : Type} [Add R] [Sub R] [Mul R] [Div R] [Neg R] [LT R] [DecidableLT R] [LE R] [DecidableLE R]
  [BEq R] [OfNat R 0] [OfNat R 2]

/-- **GradientNormTolerance, as coded**: satisfied iff no exception is raised on the way and `gnorm <= tolerance`. -/
theorem gradp_eval (v : View R) (tol : R) (n : Norm R) (eps : R) :
    (Prim.gradnormP tol n eps).eval v = true ↔ ∃ g, gnormOf v n eps = .ok g ∧ g ≤ tol := by
  rw [Prim.eval_gradnormP, leExc_iff]

/-- a solver that supplies a gradient: the condition works on `gradient[-1]` as given, the cost is not touched -/
theorem gradp_given (v : View R) (n : Norm R) (eps : R) (h : v.gradNone = false) :
    gnormOf v n eps = lnorm n v.grad :=
  gnormOf_of_grad (gradOf_given h eps) n

/-- a solver WITHOUT a gradient (every mystic solver): the condition differentiates the RAW cost `_cost[1]` at
`bestSolution` by forward differences of step `eps`; without `_cost` it is an AttributeError -/
theorem gradp_fallback (v : View R) (n : Norm R) (eps : R) (h : v.gradNone = true) :
    gnormOf v n eps = (match v.cost with
      | none => .error .attr
      | some f => lnorm n (approxFprime f v.best eps)) := by
  simp only [gnormOf, gradOf, h, if_true]
  cases v.cost <;> rfl

/-- `norm = -inf` never yields a verdict: `Lnorm` calls the BUILTIN `min(..., axis=)` (TypeError) -/
theorem gradp_neginf_raises (v : View R) (tol eps : R) (h : v.gradNone = false) :
    (Prim.gradnormP tol .neginf eps).err v = some .type := by
  simp only [Prim.err, gradp_given v _ eps h, lnorm_neginf]

/-- **finding F11, the mechanism**: the fallback evaluates the raw cost at exactly `len(x) + 1` points - `x` itself
first, then `x` with one coordinate stepped - none of them counted -/
theorem approx_points_count (x : List R) (eps : R) : (approxPoints x eps).length = x.length + 1 := by
  simp [approxPoints]

theorem approx_points_head (x : List R) (eps : R) : (approxPoints x eps).head? = some x := by
  simp [approxPoints]

/-- the `k`-th stepped point differs from `x` in coordinate `k` only, by `+ eps` (`+ 0` elsewhere) -/
theorem bump_getElem? (x : List R) (k j : Nat) (eps : R) :
    (bump x k eps)[j]? = (x[j]?).map (fun xj => xj + (if j = k then eps else 0)) := by
  simp [bump, List.getElem?_mapIdx]

theorem approxFprime_length (f : List R → R) (x : List R) (eps : R) : (approxFprime f x eps).length = x.length := by
  simp [approxFprime]

end GradGeneric

section GradField
variable {K : Type} [Field K] [LinearOrder K] [IsStrictOrderedRing K]

/-- with the solver's gradient, `norm = inf` is the primitive of `gradnorm_spec` -/
theorem gradp_inf_eq_gradnorm (v : View K) (tol eps : K) (h : v.gradNone = false) :
    (Prim.gradnormP tol .inf eps).eval v = (Prim.gradnorm tol).eval v := by
  rw [Prim.eval_gradnormP, Prim.eval_gradnorm, gnormOf_of_grad (gradOf_given h eps), lnorm_inf, leExc_lnormInf]

/-- **GradientNormTolerance, `norm = inf`** on the gradient `g` the code uses (non-empty): `max |g_i| <= tolerance`. -/
theorem gradp_spec_inf (v : View K) (tol eps : K) (g : List K) (hg : gradOf v eps = .ok g) (hne : g ≠ []) :
    (Prim.gradnormP tol .inf eps).eval v = true ↔ ∀ x ∈ g, |x| ≤ tol := by
  rw [Prim.eval_gradnormP, gnormOf_of_grad hg, lnorm_inf, leExc_lnormInf, leOpt_npMax_abs g tol hne]

/-- **GradientNormTolerance, `norm = 0`**: the number of non-zero gradient entries is `<= tolerance`. -/
theorem gradp_spec_zero (v : View K) (tol eps : K) (g : List K) (hg : gradOf v eps = .ok g) :
    (Prim.gradnormP tol (.zero (fun n => (n : K))) eps).eval v = true ↔
      (((g.filter (fun x => x ≠ 0)).length : ℕ) : K) ≤ tol := by
  rw [Prim.eval_gradnormP, gnormOf_of_grad hg, lnorm_zero, leExc_ok, decide_eq_true_eq,
    List.filter_congr fun x _ => decide_eq_decide.mpr beq_eq_false_iff_ne]

/-- the sum the code forms for a finite `p`: `sum(abs(w**p))` -/
theorem addReduce_abs_pow (g : List K) (p : ℕ) :
    addReduce (g.map (fun x => absR (x ^ p))) = (g.map (fun x => |x| ^ p)).sum := by
  rw [addReduce_eq_sum]
  congr 1
  apply List.map_congr_left
  intro x _
  rw [absR_eq_abs, abs_pow]

/-- **GradientNormTolerance, finite `norm = p >= 1`** (`powp x = x^p`; `root` is a `p`-th root AT the sum formed;
no floating-point exception): satisfied iff `0 <= tolerance` and `sum |g_i|^p <= tolerance^p`, i.e. the documented
`sum(abs(gradient)**norm)**(1.0/norm) <= tolerance`. -/
theorem gradp_spec_fin (v : View K) (tol eps : K) (g : List K) (hg : gradOf v eps = .ok g) (p : ℕ) (hp : p ≠ 0)
    (root : K → K) (raises : List K → Bool) (hr : raises g = false)
    (hroot : 0 ≤ root ((g.map (fun x => |x| ^ p)).sum) ∧ root ((g.map (fun x => |x| ^ p)).sum) ^ p = (g.map (fun x => |x| ^ p)).sum) :
    (Prim.gradnormP tol (.fin (fun x => x ^ p) root raises) eps).eval v = true ↔
      0 ≤ tol ∧ (g.map (fun x => |x| ^ p)).sum ≤ tol ^ p := by
  -- the code compares `root (sum |g_i|^p)` with the tolerance
  rw [Prim.eval_gradnormP, gnormOf_of_grad hg, lnorm_fin, if_neg (by rw [hr]; exact Bool.false_ne_true),
    leExc_ok, decide_eq_true_eq, addReduce_abs_pow]
  -- compare `p`-th powers: the root's is the sum
  rw [le_iff_pow_le hp hroot.1, hroot.2]

/-- **the floating-point fallback, as coded** (math/distance.py l.35-36): when the evaluation of the `p`-norm raises
FloatingPointError (overflow, or a negative entry under a fractional power: the code takes `abs` AFTER the power),
`Lnorm` silently answers with the infinity norm - the condition then tests `max |g_i| <= tolerance`, not the
documented inequality (`gradp_fallback_witness`). -/
theorem gradp_spec_fallback (v : View K) (tol eps : K) (g : List K) (hg : gradOf v eps = .ok g) (hne : g ≠ [])
    (powp root : K → K) (raises : List K → Bool) (hr : raises g = true) :
    (Prim.gradnormP tol (.fin powp root raises) eps).eval v = true ↔ ∀ x ∈ g, |x| ≤ tol := by
  rw [Prim.eval_gradnormP, gnormOf_of_grad hg, lnorm_fin, if_pos hr, leExc_lnormInf,
    leOpt_npMax_abs g tol hne]

/-- `approx_fprime` is exact on a cost that is affine along each coordinate step: if `f(x + eps e_k) - f(x) = a_k eps`
for every `k` (and `eps ≠ 0`) the gradient it returns is `a`. -/
theorem approxFprime_affine (f : List K → K) (x a : List K) (eps : K) (he : eps ≠ 0) (hl : a.length = x.length)
    (hf : ∀ k (hk : k < x.length), f (bump x k eps) - f x = a[k]'(by omega) * eps) :
    approxFprime f x eps = a := by
  apply List.ext_getElem
  · simp [approxFprime, hl]
  · intro k h1 h2
    have hk : k < x.length := by simpa [approxFprime] using h1
    simp only [approxFprime, List.getElem_map, List.getElem_range]
    rw [hf k hk, mul_div_cancel_right₀ _ he]

end GradField

/-! ### witnesses and non-vacuity (closed terms, evaluated by the kernel) -/

section GradWitness

/-- a view over `Int` whose solver supplies the gradient `[3, -4]` -/
def gv : View Int :=
  { hist := [], pop := [], popE := [], best := [1, 2], trial := [], trial2d := false, grad := [3, -4],
    gens := 0, fcalls := 0, earlyExit := false, tTime := 0, tPerf := 0, tProc := 0 }

/-- **known finding (gradp/fp-error-falls-back-to-inf-norm)**: gradient `[3, -4]`, `norm = 2`, `tolerance = 4`.
When the evaluation of the 2-norm raises, the condition is satisfied (`max = 4 <= 4`) although the documented
`sum |g_i|^2 = 25 <= 4^2` is false; without the exception (root of 25 is 5) it is not satisfied. -/
theorem gradp_fallback_witness :
    (Prim.gradnormP 4 (.fin (fun x => x * x) (fun s => if s = 25 then 5 else s) (fun _ => true)) 1).eval gv = true
    ∧ (Prim.gradnormP 4 (.fin (fun x => x * x) (fun s => if s = 25 then 5 else s) (fun _ => false)) 1).eval gv = false
    ∧ ¬ ((3 : Int) * 3 + (-4) * (-4) ≤ 4 * 4) := by
  decide +kernel

/-- the fallback on a solver without gradient: cost `f(x) = 3 x_0 + x_1^2` at `best = [1, 2]`, step 1: the raw cost
is evaluated at `[1,2], [2,2], [1,3]` (3 = dim + 1 uncounted evaluations) and the gradient is `[3, 5]` -/
example :
    let f : List Int → Int := fun x => 3 * x.headD 0 + (x.getD 1 0) * (x.getD 1 0)
    approxPoints [1, 2] (1 : Int) = [[1, 2], [2, 2], [1, 3]] ∧ approxFprime f [1, 2] 1 = [3, 5]
    ∧ gnormOf { gv with gradNone := true, cost := some f } .inf 1 = .ok 5
    ∧ gnormOf { gv with gradNone := true } .inf 1 = .error .attr
    ∧ gnormOf gv (.zero (fun n => (n : Int))) 1 = .ok 2
    ∧ gnormOf gv .neginf 1 = .error .type := by
  decide +kernel

/-- non-vacuity of `gradp_spec_fin` over ℚ: gradient `[3, -4]`, `p = 2`, root of 25 is 5: satisfied at tolerance 5,
through the theorem itself -/
example : ∃ (v : View ℚ) (tol : ℚ), (Prim.gradnormP tol (.fin (fun x => x ^ 2) (fun _ => 5) (fun _ => false)) 1).eval v = true :=
  ⟨{ hist := [], pop := [], popE := [], best := [], trial := [], trial2d := false, grad := [3, -4],
     gens := 0, fcalls := 0, earlyExit := false, tTime := 0, tPerf := 0, tProc := 0 }, 5,
   (gradp_spec_fin _ 5 1 [3, -4] rfl 2 (by decide) (fun _ => 5) (fun _ => false) rfl
      (by norm_num)).mpr (by norm_num)⟩

end GradWitness

end MysticVerif.C10
