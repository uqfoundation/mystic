/-
C10: conditions as dict keys (tuple equality ignores the class) and the keys of `state(condition)`.
Line numbers: mystic/termination.py.
-/
import MysticVerif.Proofs.Termination

namespace MysticVerif.C10
open MysticVerif.Term

variable {R : Type}

/-- a condition equals itself as a dict key -/
theorem keyEq_refl : (c : Cond R) → Cond.keyEq c c = true := by
  intro c
  induction c using Cond.induction with
  | prim _ _ _ => rw [Cond.keyEq, beq_self_eq_true]
  | node _ cs ih =>
    rw [Cond.keyEq]
    induction cs with
    | nil => rfl
    | cons c cs ihs =>
      rw [Cond.keyEqs, ih c List.mem_cons_self, ihs fun c hc => ih c (List.mem_cons_of_mem _ hc)]
      rfl

/-- **compound conditions are tuples: `And(a, b) == Or(a, b) == When`-tuple with the same members** - whatever the
classes `k`, `k'`, two compounds with the same members are EQUAL keys (and collide in the dict `stop`; the damage
is `sibling_collision_witness`) -/
theorem keyEq_ignores_class (k k' : Kind) (cs : List (Cond R)) :
    Cond.keyEq (.node k cs) (.node k' cs) = true :=
  keyEq_refl (.node k cs)

/-- a primitive never equals a compound; two primitives are equal iff they are the same object -/
theorem keyEq_prim (o d o' d' : Nat) (p p' : Prim R) (k : Kind) (cs : List (Cond R)) :
    Cond.keyEq (.prim o d p) (.node k cs) = false ∧ Cond.keyEq (.node k cs) (.prim o d p) = false
    ∧ (Cond.keyEq (.prim o d p) (.prim o' d' p') = true ↔ o = o') := by
  simp [Cond.keyEq]

/-! ### `state(condition)`: one entry per distinct DOC STRING of the tree's primitives -/

theorem mem_stateKeysL : (cs : List (Cond R)) → (ks : List Nat) → (x : Nat) →
    (x ∈ Cond.stateKeysL cs ks ↔ x ∈ ks ∨ ∃ l ∈ Cond.leavesL cs, l.1 = x) := by
  intro cs ks x
  rw [Cond.stateKeysL_eq_foldl]
  generalize Cond.leavesL cs = ls
  induction ls generalizing ks with
  | nil => exact (or_iff_left fun ⟨_, h, _⟩ => nomatch h).symm
  | cons l ls ih =>
    rw [List.map_cons, List.foldl_cons, ih, mem_docInsert, or_assoc, List.exists_mem_cons_iff]
    exact or_congr_right (or_congr_left eq_comm)

theorem nodup_stateKeysL : (cs : List (Cond R)) → (ks : List Nat) → ks.Nodup → (Cond.stateKeysL cs ks).Nodup := by
  intro cs ks h
  rw [Cond.stateKeysL_eq_foldl]
  generalize (Cond.leavesL cs).map (·.1) = ds
  induction ds generalizing ks with
  | nil => exact h
  | cons d ds ih => exact ih _ (nodup_docInsert ks d h)

/-- **`state(condition)` reports exactly the doc strings of the tree's primitives, each once** - to any nesting depth,
whatever the classes.  The FIXME "assumes NO DUPLICATE TYPES" (l.29) is stale: the key is the full doc
(`_state[termdoc]`, l.45), so two members of the same TYPE with different settings are both reported; two members
with the same type AND settings share one entry (they are interchangeable: `rebuild_same`).  What `state` does not
report is the tree (classes, nesting, multiplicity): a compound cannot be rebuilt from `state` alone. -/
theorem state_keys_spec (c : Cond R) :
    (∀ d, d ∈ c.stateKeys ↔ ∃ l ∈ c.leaves, l.1 = d) ∧ c.stateKeys.Nodup := by
  refine ⟨fun d => (mem_stateKeysL [c] [] d).trans ?_, nodup_stateKeysL [c] [] List.nodup_nil⟩
  rw [Cond.leavesL, Cond.leavesL, List.append_nil]
  exact or_iff_right (fun h => nomatch h)

/-- two VTRs with different settings (docs 0 and 1) inside nested compounds are both reported; the repeated one once;
and `state` is blind to the classes: `And(a, Or(b, a))` and `Or(a, b)` report the same keys -/
example :
    (Cond.node .and [.prim 0 0 (.vtr (0 : Int) 1), .node .or [.prim 1 1 (.vtr 0 5), .prim 0 0 (.vtr 0 1)]]).stateKeys = [0, 1]
    ∧ (Cond.node .or [.prim 0 0 (.vtr (0 : Int) 1), .prim 1 1 (.vtr 0 5)]).stateKeys = [0, 1] := by
  decide +kernel

end MysticVerif.C10
