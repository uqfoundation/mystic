/-
C10: the Collapse* conditions AS TERMINATION CONDITIONS (termination.py l.504-554: CollapseAt,
CollapseAs): verdict, what is reported after `' at '`, and the `mask` keyword through state()/type().
The detectors themselves are `Clps.collapseAt / collapseAs` of Model/Collapse.lean (property C11), reused as they are.
-/
import MysticVerif.Proofs.Termination

namespace MysticVerif.C10
open MysticVerif.Term

-- fixed statements carry every instance binder of their section
set_option linter.unusedSectionVars false

section CollapseCond
variable {R : Type} [Add R] [Sub R] [Mul R] [Div R] [Neg R] [LT R] [DecidableLT R] [LE R] [DecidableLE R]
  [BEq R] [OfNat R 0] [OfNat R 2]

/-- the report after `' at '` (l.518-527 / l.543-552) for a detector result `r` -/
private theorem report_iff {α : Type} {v : View R} {p : Prim R} {g : Int} {r : Except Clps.Err (List α)}
    {f : α → List Nat} {x : Except Err (List (List Nat))}
    (hc : collapsedOf v p = if v.hist.length = 0 then none else if (v.hist.length : Int) ≤ g then none else some x)
    (hok : ∀ l, r = .ok l → x = .ok (l.map f)) (herr : ∀ e, r = .error e → ∃ e', x = .error e') :
    (!(p.payload v).isEmpty) = true ↔ g < v.hist.length ∧ ∃ l, r = .ok l ∧ l ≠ [] ∧ p.payload v = l.map f := by
  rw [Prim.payload, hc, ← ite_or]  -- the window guard (l.520-521 / l.545-546) as one test
  by_cases h : v.hist.length = 0 ∨ (v.hist.length : Int) ≤ g
  · rw [if_pos h]
    exact iff_of_false Bool.false_ne_true fun ⟨_, l, _, hl, hm⟩ => hl (List.map_eq_nil_iff.mp hm.symm)
  · rw [if_neg h, and_iff_right (not_le.mp (not_or.mp h).2)]
    cases r with
    | error e =>
      obtain ⟨e', he'⟩ := herr e rfl
      rw [he']
      exact iff_of_false Bool.false_ne_true fun ⟨_, h', _⟩ => nomatch h'
    | ok l =>
      rw [hok l rfl]
      cases l with
      | nil => exact iff_of_false Bool.false_ne_true fun ⟨_, h', hl, _⟩ => hl (Except.ok.inj h').symm
      | cons a t => exact iff_of_true rfl ⟨_, rfl, List.cons_ne_nil a t, rfl⟩

/-- **CollapseAt as a termination condition**: satisfied iff the energy history is longer than `generations` and
`collapse_at(stepmon, target, tolerance, generations, mask)` returns a NON-EMPTY set (`bool(collapse_at(...))`, the
documented test), which is then exactly what is reported after `' at '`. -/
theorem collapse_at_spec (v : View R) (tgt : Clps.Target R) (tols : List R) (g : Int) (mask : Clps.SetMask) :
    (Prim.collapseAt tgt tols g mask).eval v = true ↔
      g < v.hist.length ∧ ∃ l, Clps.collapseAt v.steps tgt tols (some g) mask = .ok l ∧ l ≠ [] ∧
        (Prim.collapseAt tgt tols g mask).payload v = l.map (fun i => [i]) := by
  rw [Prim.eval_eq_test v _ rfl]
  exact report_iff rfl (fun l h => by rw [h]) (fun e h => ⟨_, by rw [h]⟩)

/-- **CollapseAs as a termination condition**: the same with `collapse_as` and index pairs. -/
theorem collapse_as_spec (v : View R) (off : Bool) (tol : R) (g : Int) (mask : Clps.SetMask) :
    (Prim.collapseAs off tol g mask).eval v = true ↔
      g < v.hist.length ∧ ∃ l, Clps.collapseAs v.steps off tol (some g) mask = .ok l ∧ l ≠ [] ∧
        (Prim.collapseAs off tol g mask).payload v = l.map (fun p => [p.1, p.2]) := by
  rw [Prim.eval_eq_test v _ rfl]
  exact report_iff rfl (fun l h => by rw [h]) (fun e h => ⟨_, by rw [h]⟩)

/-- a Collapse* condition reports something after `' at '` exactly when it is satisfied (its info is its doc plus
the report: truthy iff satisfied) -/
theorem collapse_report_iff (v : View R) (p : Prim R) (h : p.kind = .collapseAt ∨ p.kind = .collapseAs) :
    p.payload v ≠ [] ↔ p.eval v = true := by
  have key : ∀ l : List (List Nat), l ≠ [] ↔ (!l.isEmpty) = true := fun l => by cases l <;> simp
  cases p with
  | collapseAt | collapseAs =>
    rw [Prim.eval_eq_test v _ rfl]
    exact key _
  | _ => rcases h with h | h <;> cases h

/-- the window guard: while the energy history is not longer than `generations` the detector is not even called
(no exception whatever the mask / monitor) -/
theorem collapse_guard (v : View R) (p : Prim R) (g : Int)
    (hp : (∃ tgt tols mask, p = .collapseAt tgt tols g mask) ∨ (∃ off tol mask, p = .collapseAs off tol g mask))
    (h : (v.hist.length : Int) ≤ g) : p.err v = none ∧ p.eval v = false := by
  rcases hp with ⟨tgt, tols, mask, rfl⟩ | ⟨off, tol, mask, rfl⟩
  all_goals
    rw [Prim.eval_eq_test v _ rfl]
    simp only [Prim.err, Prim.test, Prim.payload, collapsedOf, ← ite_or, if_pos (Or.inr h), List.isEmpty_nil,
      Bool.not_true, and_self]

end CollapseCond

/-! ### non-vacuity (closed terms) -/

section CollapseWitness

/-- energy history of length 3; monitor `x` history: column 0 settles at 1, column 1 keeps moving, column 2 is 1 too -/
def cv : View Int :=
  { hist := [5, 4, 3], pop := [], popE := [], best := [], trial := [], trial2d := false, grad := [],
    gens := 3, fcalls := 7, earlyExit := false, tTime := 0, tPerf := 0, tProc := 0,
    steps := [[9, 0, 1], [1, 5, 1], [1, 9, 1]] }

/-- `CollapseAt(generations=2)` reports `{0, 2}`; masking `{0}` leaves `{2}`; `generations=3` (not shorter than the
history) is not satisfied; a list mask is a TypeError once the window fits and no error before;
`CollapseAs(generations=2)` reports the pair `(0, 2)` -/
example :
    (Prim.collapseAt (R := Int) .none [0] 2 .none).payload cv = [[0], [2]]
    ∧ (Prim.collapseAt (R := Int) .none [0] 2 (.set [.idx 0])).payload cv = [[2]]
    ∧ (Prim.collapseAt (R := Int) .none [0] 2 (.set [.idx 0])).eval cv = true
    ∧ (Prim.collapseAt (R := Int) .none [0] 3 .none).eval cv = false
    ∧ (Prim.collapseAt (R := Int) .none [0] 2 .other).err cv = some .type
    ∧ (Prim.collapseAt (R := Int) .none [0] 3 .other).err cv = none
    ∧ (Prim.collapseAs (R := Int) false 0 2 .none).payload cv = [[0, 2]]
    ∧ (Prim.collapseAs (R := Int) false 0 2 (.set [.seq [2, 0]])).eval cv = false := by
  decide +kernel

/-- the mask round trip: rebuilt from type and state it is the same condition -/
example : Prim.make (Prim.collapseAt (R := Int) .none [0] 2 (.set [.idx 0])).kind
    (Prim.collapseAt (R := Int) .none [0] 2 (.set [.idx 0])).state 0 0 0 0
    = some (Prim.collapseAt .none [0] 2 (.set [.idx 0])) := rfl

end CollapseWitness

end MysticVerif.C10
