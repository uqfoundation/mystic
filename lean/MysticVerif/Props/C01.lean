/-
C01 - the reported optimum is a genuinely evaluated point with its true energy.

Model: Model/Solver.lean (decorated objective, differential evolution 1 and 2), Model/NelderMead.lean,
Model/PowellS.lean.
`Hyp o` = the property's own hypotheses: constraints (coupled with the bounds) idempotent, `inf + p = inf`,
energies totally ordered below `inf` (no NaN).  All statements hold for ANY cost, penalty, constraints, box,
trial vectors (i.e. any strategy and any random draws), population size, dimension and number of steps.
-/
import MysticVerif.Proofs.Solver
import MysticVerif.Proofs.NelderMead
import MysticVerif.Proofs.PowellS

namespace MysticVerif.C01
open MysticVerif.Solver

variable {X E R : Type}

/-- **DE / DE2, member clause.** After any number of iterations every member with a finite stored energy
stores exactly cost + penalty at that member, which is a point the user's cost was called at, left unchanged by
the constraints. -/
theorem de_member_inv [LinearOrder E] (o : Obj X E) (h : Hyp o) (pop : List X) (x0 : X) (trialss : List (List X))
    (i : Nat) (y : X) (e : E)
    (hy : (DE.run1 o trialss (DE.init o pop x0)).pop[i]? = some y)
    (he : (DE.run1 o trialss (DE.init o pop x0)).popE[i]? = some e) (hfin : e ≠ o.top) :
    e = o.add (o.raw y) (o.pen y) ∧ (y, o.raw y) ∈ (DE.run1 o trialss (DE.init o pop x0)).log ∧ o.K y = y :=
  let inv := DE.run1_inv h trialss _ (DE.init_inv pop x0)
  let g := inv.mem i y e hy he hfin
  ⟨g.1, g.2.1, g.2.2.1⟩

/-- **DE / DE2, reported best.** A finite reported best energy is cost + penalty at the reported best solution,
and the user's cost was called at exactly that vector. -/
theorem de_best_inv [LinearOrder E] (o : Obj X E) (h : Hyp o) (pop : List X) (x0 : X) (trialss : List (List X))
    (hfin : (DE.run1 o trialss (DE.init o pop x0)).bestE ≠ o.top) :
    let s := DE.run1 o trialss (DE.init o pop x0)
    s.bestE = o.add (o.raw s.best) (o.pen s.best) ∧ (s.best, o.raw s.best) ∈ s.log ∧ o.K s.best = s.best :=
  let inv := DE.run1_inv h trialss _ (DE.init_inv pop x0)
  let g := inv.best hfin
  ⟨g.1, g.2.1, g.2.2.1⟩

/-- **DE / DE2.** The reported best energy is never above any member's stored energy. -/
theorem de_best_le_members [LinearOrder E] (o : Obj X E) (h : Hyp o) (pop : List X) (x0 : X)
    (trialss : List (List X)) :
    ∀ e ∈ (DE.run1 o trialss (DE.init o pop x0)).popE, (DE.run1 o trialss (DE.init o pop x0)).bestE ≤ e :=
  (DE.run1_inv h trialss _ (DE.init_inv pop x0)).bestLe

/-- **DE2 = DE1.** With a map that returns results in input order, the map-based solver produces exactly the
state (population, energies, best, evaluation log, step log) of the sequential one: every theorem above holds
for DifferentialEvolutionSolver2 verbatim. -/
theorem de2_step_eq_de1_step [LinearOrder E] (o : Obj X E) (trials : List X) (s : DE X E) :
    DE.step2 o trials s = DE.step1 o trials s := DE.step2_eq_step1 o trials s

/-- the best is never worse than the energy of the first member (the initial guess) once one iteration ran -/
theorem de_best_le_initial_guess [LinearOrder E] (o : Obj X E) (h : Hyp o) (x0 : X) (rest : List X)
    (trialss : List (List X)) :
    (DE.run1 o trialss (DE.step1 o (x0 :: rest) (DE.init o (x0 :: rest) x0))).bestE ≤ o.energy (o.K x0) := by
  -- after the first candidate of generation 0 the best is at most its energy; it only decreases afterwards
  refine le_trans (DE.run1_bestE_le o trialss _) ?_
  unfold DE.step1
  simp only
  unfold DE.candidates1
  refine le_trans (DE.candidates1_bestE_le o rest 1 _) ?_
  -- selection of candidate 0 against the initial energy `inf`
  unfold DE.select
  simp only [DE.init, List.map_cons, List.getElem?_cons_zero]
  rw [objAt_fst]
  by_cases hlt : o.energy (o.K x0) < o.top
  · rw [if_pos hlt, if_pos hlt]
  · -- rejected: its energy is `inf`, the initial best
    rw [if_neg hlt, le_antisymm (h.leTop _) (not_lt.mp hlt)]

/-- **Nelder-Mead, member clause** (the objective the solver minimises: cost plus penalty AFTER bounds and
constraints).  Every stored (vertex, energy) pair with a finite energy satisfies energy = objective(K vertex), and
`K vertex` was passed to the user's cost. Holds for pure and for in-place constraints functions (`st`). -/
theorem nm_member_inv [Add R] [Sub R] [Mul R] [Div R] [LinearOrder E] (o : Obj (Pt R) E) (h : Hyp o) (c : Coef R)
    (st : Pt R → Pt R) (hst : ∀ x, o.K (st x) = o.K x) (s : NM R E) (hs : NMInv o s) :
    ∀ p ∈ (NM.update o c st s).1.simplex, p.2 ≠ o.top →
      p.2 = o.energy (o.K p.1) ∧ (o.K p.1, o.raw (o.K p.1)) ∈ (NM.update o c st s).1.log := by
  intro p hp hne
  have := (NM.update_inv h c st hst s hs).good p hp hne
  exact ⟨this.1, this.2.1⟩

/-- the invariant is established by generation 0 and kept by generation 1 and every later iteration -/
theorem nm_inv_reachable [Add R] [Sub R] [Mul R] [Div R] [LinearOrder E] (o : Obj (Pt R) E) (h : Hyp o) (c : Coef R)
    (st : Pt R → Pt R) (hst : ∀ x, o.K (st x) = o.K x) (zero : R) (x0 : Pt R) (clip0 mkVal : Pt R → Pt R)
    (hclip : ∀ x, (o.useRange = true → o.inBox x = true) → clip0 x = x) (n : Nat) :
    NMInv o (Nat.iterate (fun s => (NM.update o c st s).1) n (NM.gen1 o clip0 mkVal (NM.gen0 o zero x0))) := by
  induction n with
  | zero => exact NM.gen1_gen0_inv h zero x0 clip0 mkVal hclip
  | succ n ih =>
    rw [Function.iterate_succ_apply']
    exact NM.update_inv h c st hst _ ih

/-- **Nelder-Mead, reported best, when the constraints do not move it.** If `K` leaves the stored best vertex
unchanged (in particular: no constraints), a finite best energy is cost + penalty at the reported best solution,
which is an evaluated point. -/
theorem nm_best_evaluated_of_fixed [LinearOrder E] (o : Obj (Pt R) E) (s : NM R E) (hs : NMInv o s)
    (x : Pt R) (e : E) (tl : List (Pt R × E)) (hsx : s.simplex = (x, e) :: tl) (hfix : o.K x = x) (hne : e ≠ o.top) :
    e = o.add (o.raw x) (o.pen x) ∧ (x, o.raw x) ∈ s.log := by
  have hg := hs.good (x, e) (hsx ▸ List.mem_cons_self) hne
  simp only [hfix] at hg
  exact ⟨hg.1.trans (energy_of_inBox o hg.2.2), hg.2.1⟩

/-- **the best is sorted first**: the first vertex carries the least energy -/
theorem nm_best_le_members [LinearOrder E] (o : Obj (Pt R) E) (s : NM R E) (hs : NMInv o s)
    (b : Pt R × E) (tl : List (Pt R × E)) (hsx : s.simplex = b :: tl) : ∀ q ∈ s.simplex, b.2 ≤ q.2 := by
  intro q hq
  have := hs.sorted
  rw [hsx] at this hq
  unfold SortedE at this
  rw [List.pairwise_cons] at this
  rcases List.mem_cons.mp hq with rfl | hq
  · exact le_refl _
  · exact this.1 q hq

/-! ### known finding F3: with constraints that move the best vertex the first clause is FALSE of the code

One-dimensional instance over `Int`: cost `x ↦ x*x`, constraints `x ↦ max x 1` (idempotent), guess `[5]`.
After the simplex is built and updated once the solver reports the vertex `[-1]`... -/

def f3Obj : Obj (Pt Int) Int :=
  { raw := fun x => (x.headD 0) * (x.headD 0), pen := fun _ => 0, K := fun x => x.map (fun v => max v 1),
    inBox := fun _ => true, useRange := false, top := 1000000, add := (· + ·) }

def f3Run : NM Int Int :=
  (NM.update f3Obj { one := 1, rho := 1, chi := 2, psi := 1, sigma := 1, n := 1 } id
    (NM.gen1 f3Obj id (fun x => x.map (· - 3)) (NM.gen0 f3Obj 0 [5]))).1

/-- the reported best vertex is `[-1]` with finite energy `1` = cost at `K [-1] = [1]`; the user's cost was never
called at `[-1]` (only at `[5]`, `[2]`, `[1]`), and `[-1]` violates the constraints. -/
theorem nm_best_not_evaluated_witness :
    f3Run.simplex.head? = some ([-1], 1) ∧ ([-1], f3Obj.raw [-1]) ∉ f3Run.log ∧ f3Obj.K [-1] ≠ [-1]
      ∧ (∀ x, f3Obj.K (f3Obj.K x) = f3Obj.K x) := by
  refine ⟨by decide, by decide, by decide, ?_⟩
  intro x
  simp only [f3Obj, List.map_map]
  congr 1
  funext v
  simp only [Function.comp]
  omega

/-- a concrete DE run over `Int` (two members, one iteration with real replacements): what the model computes -/
def exObj : Obj Int Int :=
  { raw := fun x => x * x, pen := fun x => if x < 0 then 5 else 0, K := fun x => max x (-2),
    inBox := fun x => decide (-3 ≤ x ∧ x ≤ 9), useRange := true, top := 1000000, add := (· + ·) }

example : (DE.run1 exObj [[7, 3], [1, -8]] (DE.init exObj [7, 3] 7)).pop = [1, 3]
    ∧ (DE.run1 exObj [[7, 3], [1, -8]] (DE.init exObj [7, 3] 7)).popE = [1, 9]
    ∧ (DE.run1 exObj [[7, 3], [1, -8]] (DE.init exObj [7, 3] 7)).bestE = 1 := by decide

/-! ## Powell's direction-set solver on the decorated objective (Model/PowellS.lean)

`ls` is an ARBITRARY line-search oracle (any Brent implementation, any tolerance): for the k-th search it names the
points the decorated cost is called at and the one it returns.  `reach .. n` is the state after generation 0,
generation 1 and `n` further `_Step`s. -/
open MysticVerif.PowellS

/-- **Powell, reported best and its only member.** At every `_Step` boundary a finite best energy is cost + penalty
at the reported best solution, which is a point the user's cost was called at and which the constraints leave
unchanged (the direction loop re-applies them to every new point). -/
theorem pw_best_inv [Sub R] [Mul R] [LinearOrder E] (o : Obj (Pt R) E) (h : Hyp o) (c : PwCfg R E)
    (ls : Nat → Pt R → Pt R → LsRec R) (record : Bool) (x0 : Pt R) (direc : List (Pt R)) (hd : direc ≠ []) (n : Nat)
    (hfin : (reach o c ls record x0 direc n).fval ≠ o.top) :
    let s := reach o c ls record x0 direc n
    s.fval = o.add (o.raw s.x) (o.pen s.x) ∧ (s.x, o.raw s.x) ∈ s.log ∧ o.K s.x = s.x := by
  intro s
  have g := (reach_inv h c ls record x0 direc hd n).best hfin
  exact ⟨g.1, g.2.1, g.2.2.1⟩

/-- the same at generation 0 (the initial evaluation) -/
theorem pw_best_inv_gen0 [LinearOrder E] (o : Obj (Pt R) E) (h : Hyp o) (c : PwCfg R E) (record : Bool) (x0 : Pt R)
    (direc : List (Pt R)) (hd : direc ≠ []) (hfin : (gen0 o c record x0 direc).fval ≠ o.top) :
    let s := gen0 o c record x0 direc
    s.fval = o.add (o.raw s.x) (o.pen s.x) ∧ (s.x, o.raw s.x) ∈ s.log ∧ o.K s.x = s.x := by
  intro s
  have g := (gen0_inv h c record x0 direc hd).best hfin
  exact ⟨g.1, g.2.1, g.2.2.1⟩

/-- **Powell: the best is never worse than the energy of the initial guess**, given the contract of the line search
(Brent's bracket starts at `alpha = 0` and returns the best point it evaluated: `LsMono`, checked on every
recorded search of every real run by the correspondence). -/
theorem pw_best_le_initial_guess [Sub R] [Mul R] [LinearOrder E] (o : Obj (Pt R) E) (h : Hyp o) (c : PwCfg R E)
    (ls : Nat → Pt R → Pt R → LsRec R) (hm : LsMono o ls) (record : Bool) (x0 : Pt R) (direc : List (Pt R))
    (hd : direc ≠ []) (n : Nat) :
    (reach o c ls record x0 direc n).fval ≤ (gen0 o c record x0 direc).fval := by
  have h0 := gen0_inv h c record x0 direc hd
  have h1 := gen1_inv h c ls _ h0.toPwInvK
  refine le_trans (run_fval_le h c ls hm n _ h1) ?_
  exact sweep_fval_le h c ls hm _ (h0.toPwInvK.withInternals _ _ _ _ _)

/-! non-vacuity: a concrete one-dimensional Powell run over `Int` (cost `x^2`, constraints `x ↦ max x 1`) -/

def pwObj : Obj (Pt Int) Int :=
  { raw := fun x => (x.headD 0) * (x.headD 0), pen := fun _ => 0, K := fun x => x.map (fun v => max v 1),
    inBox := fun _ => true, useRange := false, top := 1000000, add := (· + ·) }

/-- the energy arithmetic of the code on `Int` -/
def pwCfg : PwCfg Int Int :=
  { diff := fun a b => a - b, gain := fun fx2 fval delta => decide (delta < fx2 - fval),
    tneg := fun fx fx2 fval delta =>
      decide (2 * (fx + fx2 - 2 * fval) * ((fx - fval - delta) * (fx - fval - delta)) - delta * (fx - fx2) * (fx - fx2) < 0),
    zeroE := 0, two := 2 }

/-- a scripted oracle: three searches -/
def pwLs : Nat → Pt Int → Pt Int → LsRec Int
  | 0, _, _ => { pre := [[5], [4]], y := [2], post := [], xi := [-3] }
  | 1, _, _ => { pre := [[2]], y := [-1], post := [], xi := [-3] }
  | _, p, _ => { pre := [], y := p, post := [], xi := [0] }

example : (reach pwObj pwCfg pwLs true [5] [[-1]] 1).x = [1] ∧ (reach pwObj pwCfg pwLs true [5] [[-1]] 1).fval = 1 ∧
    (reach pwObj pwCfg pwLs true [5] [[-1]] 1).log = [([5], 25), ([5], 25), ([4], 16), ([2], 4), ([1], 1), ([2], 4), ([1], 1), ([1], 1)] ∧
    (reach pwObj pwCfg pwLs true [5] [[-1]] 1).stepLog = [([5], 25), ([-1], 1)] := by decide

end MysticVerif.C01
