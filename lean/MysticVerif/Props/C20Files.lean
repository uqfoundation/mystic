/-
C20 - file formats on trajectories that are not rectangular, iteration numbers with gaps, id tuples:
property theorems about Model/MungeFormats.lean.  Imported by Props/C20.lean.
-/
import MysticVerif.Proofs.Monitor
import MysticVerif.Model.MungeFormats

namespace MysticVerif.C20
open MysticVerif.Mon

variable {R : Type}

private theorem mapM_wrap (xs : List (List R)) :
    (xs.map PV.vec).mapM wrapStep = .ok (xs.map (·.map ([·]))) := by
  induction xs with
  | nil => rfl
  | cons a t ih =>
    simp only [List.map_cons, List.mapM_cons, wrapStep, ih]
    rfl

/-- **`raw_to_converge` on flat vectors is `rawToConverge` / `rawToSupport` of Model/Monitor.lean** (so `converge_roundtrip` /
`support_roundtrip` apply): whenever the first recorded vector is not empty, every parameter of every step
becomes a 1-tuple - also when the steps have different lengths. -/
theorem raw_to_converge_flat (x : List R) (xs : List (List R)) (hx : x ≠ []) :
    rawToConvergePV ((x :: xs).map PV.vec) = .ok (rawToConverge (x :: xs)) ∧
    rawToSupportPV ((x :: xs).map PV.vec) = .ok (rawToSupport (x :: xs)) := by
  have h1 : rawToConvergePV ((x :: xs).map PV.vec) = .ok (rawToConverge (x :: xs)) := by
    cases x with
    | nil => exact absurd rfl hx
    | cons a t =>
      have := mapM_wrap ((a :: t) :: xs)
      simp only [List.map_cons] at this
      simp only [rawToConvergePV, List.map_cons, this, rawToConverge]
  exact ⟨h1, by simp only [rawToSupportPV, h1, rawToSupport]⟩

/-- the decision is taken from the FIRST step alone: an empty first vector is an `IndexError`, a scalar first
step a `TypeError`, whatever follows -/
theorem raw_to_converge_first (rest : List (PV R)) (v : R) :
    rawToConvergePV (.vec [] :: rest) = .error .index ∧ rawToConvergePV (.sc v :: rest) = .error .type :=
  ⟨rfl, rfl⟩

/-- **support format, records of different dimension** (the code as it is; `support_roundtrip` holds under the
rectangular hypothesis only): the transposition keeps the first `min` parameters of
every record - here `3` is lost - while the converge format keeps everything. -/
theorem support_ragged_witness :
    rawToSupport [[1, 2, 3], [4, 5]] = [[[1], [4]], [[2], [5]]] ∧
    supportToRaw (rawToSupport [[1, 2, 3], [4, 5]]) = [[1, 2], [4, 5]] ∧
    (rawToConverge [[1, 2, 3], [4, 5]]).map List.flatten = [[1, 2, 3], [4, 5]] := by decide +kernel

/-- **id tuples pass through** (`read_history(logfile, iter=True)`): a non-empty list of `(iteration[, id])`
tuples read from a log file comes back unchanged - gaps in the iteration numbers included. -/
theorem process_ids_tuples (ids : List Step) (h : ids ≠ []) : processIdsT ids ids.length = ids := by
  cases ids with
  | nil => exact absurd rfl h
  | cons a t => simp [processIdsT]

/-- **iteration numbers with gaps.** Over any call sequence a `LoggingMonitor` with interval `iv > 0` that
already holds `len m` records writes exactly one row for every iteration number in `len m .. len m + cs.length - 1`
divisible by `iv`, in order (`interval = 3`: 0, 3, 6, ...). -/
theorem log_gaps_spec [Mul R] [Div R] (iv : Nat) (hiv : 0 < iv) (cs : List (PV R × PV R × Option Int)) :
    ∀ (m : Mon R), m.interval = some iv →
      (logRun m cs).map (·.step) = (List.range' m.len cs.length).filter (· % iv = 0) := by
  induction cs with
  | nil => intro m _; rfl
  | cons c cs ih =>
    intro m hm
    have hlen : (m.call c.1 c.2.1 c.2.2).len = m.len + 1 := List.length_append
    have hhit : hitIv m.len (some iv) = decide (m.len % iv = 0) := by
      rw [hitIv, bne_iff_ne.mpr (Nat.pos_iff_ne_zero.mp hiv), Bool.true_and]; rfl
    -- one call: its row (iff `iv ∣ len m`), then the other calls at length `len m + 1`
    rw [logRun, List.map_append, ih (m.call c.1 c.2.1 c.2.2) hm, hlen, logOf_eq, hm, hhit]
    rw [List.length_cons, List.range'_succ, List.filter_cons]
    by_cases h1 : m.len % iv = 0 <;> simp [h1]

/-- three calls, interval 2: rows at iterations 0 and 2 -/
example :
    (logRun ({ interval := some 2 } : Mon Int) [(.vec [1, 2], .sc 3, none), (.vec [4, 5], .sc 6, some 1), (.vec [7, 8], .sc 9, some 2)]).map
      (fun r => (r.step, r.id, r.x)) = [(0, none, .vec [1, 2]), (2, some 2, .vec [7, 8])] := by decide +kernel

end MysticVerif.C20
