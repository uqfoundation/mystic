/-
C14, argument SHAPES of `generate_conditions` / `generate_penalty` (model: Model/EmittedPShape.lean, on top of Props/C14.lean).

`conds : Nest (Kind × Expr C)` is ANY nesting of condition functions - the pair `(inequalities, equalities)` that
`generate_conditions` returns for one text, the tuple of pairs it returns for a tuple / list / nesting of texts, a flat list, a
one-element wrapper, one function outside any sequence, groups that are empty; `pt : PArg` is `None`, one penalty type, or a
(nested) list of types of any length. `K` any linearly ordered field, `x` any point, `k' = k*h^n` any multiplier.

Property clause                                             theorem
  every line gets a penalty term                             gp_shape_penalises_every_condition (None / one type / a list covering
                                                             the FLATTENED conditions), gp_shape_default_types (None: the
                                                             quadratic type of the condition's own kind, per condition)
  the nesting is irrelevant                                  gp_shape_nesting_irrelevant
  documented sum                                             gp_shape_is_sum
  zero exactly where every line is satisfied, positive else  gp_shape_zero_iff, gp_shape_default_zero_iff, gp_shape_pos_of_violation
  a type list as long as the OUTER sequence                  gp_shape_short_ptype_drops (closed witness on the code as it is, F60:
                                                             `zip` leaves the tail unpenalised and mismatches the kinds)
  join=and_/or_ over the top-level items (groups)            gp_join_and_zero_iff, gp_join_or_zero_iff (+ the `ptype=None` corollaries
                                                             gp_join_and_default_zero_iff, gp_join_or_default_zero_iff),
                                                             gp_join_runs_dry (fewer types than members: generate_penalty raises)
  the constraint of the same text(s) drives it to zero       gp_shape_constraint_drives_penalty_to_zero (any nesting on both sides)
-/
import MysticVerif.Props.C14
import MysticVerif.Proofs.EmittedPShape

set_option linter.unusedSectionVars false

namespace MysticVerif.C14
open MysticVerif.Emitted

/-- **Every condition gets a penalty term, whatever the nesting.** For `ptype=None`, one penalty type, or a (nested) list whose
flattening has an entry for every condition, the conditions `generate_penalty` stacks are EXACTLY the flattening of the
`conditions` argument: no line is left out and none is added. (The type list is sized by the FLATTENED length, symbolic.py
l.1401-1413; sizing it by the outer length loses the tail in the `zip` of l.1420.) -/
theorem gp_shape_penalises_every_condition {α : Type} (conds : Nest (Kind × α)) (pt : PArg)
    (hcov : pt.covers (Nest.flatL conds.top).length) :
    (gpItems conds pt).map (·.2) = Nest.flatL conds.top := gpItems_snd conds pt hcov

/-- **`ptype=None`: each condition gets the quadratic type of ITS OWN kind** (`quadratic_inequality` for a function named
`inequality`, `quadratic_equality` otherwise), condition by condition over the flattening - so the default types conform. -/
theorem gp_shape_default_types {α : Type} (conds : Nest (Kind × α)) :
    gpItems conds .none = (Nest.flatL conds.top).map (fun c => (c.1.default, c)) ∧
    ∀ w ∈ gpItems conds .none, w.1.kind = w.2.1 :=
  ⟨gpItems_none conds, gpItems_none_conform conds⟩

section
variable {K : Type} [Field K] [LinearOrder K] [IsStrictOrderedRing K] {C : Type}

/-- **The nesting is irrelevant** (`join=None`): the penalty of any nesting is the penalty of the flat list of the same
conditions with the same `ptype`. -/
theorem gp_shape_nesting_irrelevant (env : Env C K) (k' top : K) (conds : Nest (Kind × Expr C)) (pt : PArg) (x : List K) :
    gpShaped env k' top conds pt x = gpShaped env k' top (.node ((Nest.flatL conds.top).map .leaf)) pt x := by
  unfold gpShaped; rw [← gpItems_flat]

/-- **Documented sum, any shape.** The value is the sum of the per-line terms over the `(type, condition)` pairs. -/
theorem gp_shape_is_sum (env : Env C K) (k' top : K) (conds : Nest (Kind × Expr C)) (pt : PArg) (x : List K)
    (hd : ∀ w ∈ gpItems conds pt, w.2.2.defined env x = true) :
    gpShaped env k' top conds pt x = ((gpItems conds pt).map fun w => w.1.term k' (w.2.2.eval env x)).sum := by
  unfold gpShaped
  rw [penalty_is_sum env k' top _ x ?_]
  · unfold stackOf; rw [List.map_map]; rfl
  · intro te hte
    obtain ⟨w, hw, rfl⟩ := mem_stackOf.mp hte
    exact hd w hw

private theorem group_sat_iff (env : Env C K) (x : List K) (m : List (PType × (Kind × Expr C)))
    (hconf : ∀ w ∈ m, w.1.kind = w.2.1) :
    (∀ te ∈ stackOf m, te.1.kind.satisfied (te.2.eval env x)) ↔
      ∀ c ∈ m.map (·.2), c.1.satisfied (c.2.eval env x) := by
  constructor
  · intro h c hc
    obtain ⟨w, hw, rfl⟩ := List.mem_map.mp hc
    have := h (w.1, w.2.2) (mem_stackOf.mpr ⟨w, hw, rfl⟩)
    rw [hconf w hw] at this; exact this
  · intro h te hte
    obtain ⟨w, hw, rfl⟩ := mem_stackOf.mp hte
    have := h w.2 (List.mem_map.mpr ⟨w, hw, rfl⟩)
    simp only; rw [hconf w hw]; exact this

/-- **Zero exactly where every line is satisfied, never negative - for every shape of the arguments.** Positive multiplier,
`ptype` covering the flattened conditions with a type of each condition's own kind: the penalty is `0` iff EVERY condition of
the nesting is satisfied, and `≥ 0` everywhere. -/
theorem gp_shape_zero_iff (env : Env C K) {k' : K} (hk : 0 < k') (top : K) (conds : Nest (Kind × Expr C)) (pt : PArg)
    (x : List K) (hcov : pt.covers (Nest.flatL conds.top).length)
    (hconf : ∀ w ∈ gpItems conds pt, w.1.kind = w.2.1)
    (hd : ∀ c ∈ Nest.flatL conds.top, c.2.defined env x = true) :
    (gpShaped env k' top conds pt x = 0 ↔ ∀ c ∈ Nest.flatL conds.top, c.1.satisfied (c.2.eval env x)) ∧
    0 ≤ gpShaped env k' top conds pt x := by
  have hd' : AllDefined env (stackOf (gpItems conds pt)) x := by
    intro te hte
    obtain ⟨w, hw, rfl⟩ := mem_stackOf.mp hte
    exact hd w.2 (gpItems_snd_mem conds pt w hw)
  unfold gpShaped
  obtain ⟨hz, hnn⟩ := penalty_zero_iff env hk top _ x hd'
  exact ⟨hz.trans ((group_sat_iff env x _ hconf).trans (by rw [gpItems_snd conds pt hcov])), hnn⟩

/-- **`ptype` omitted: zero exactly where every line is satisfied**, for any nesting, with no further hypothesis on the
shape. -/
theorem gp_shape_default_zero_iff (env : Env C K) {k' : K} (hk : 0 < k') (top : K) (conds : Nest (Kind × Expr C))
    (x : List K) (hd : ∀ c ∈ Nest.flatL conds.top, c.2.defined env x = true) :
    (gpShaped env k' top conds .none x = 0 ↔ ∀ c ∈ Nest.flatL conds.top, c.1.satisfied (c.2.eval env x)) ∧
    0 ≤ gpShaped env k' top conds .none x :=
  gp_shape_zero_iff env hk top conds .none x trivial (gpItems_none_conform conds) hd

/-- **Positive elsewhere, any shape.** One violated condition anywhere in the nesting makes the penalty strictly positive. -/
theorem gp_shape_pos_of_violation (env : Env C K) {k' : K} (hk : 0 < k') (top : K) (conds : Nest (Kind × Expr C))
    (pt : PArg) (x : List K) (hcov : pt.covers (Nest.flatL conds.top).length)
    (hconf : ∀ w ∈ gpItems conds pt, w.1.kind = w.2.1)
    (hd : ∀ c ∈ Nest.flatL conds.top, c.2.defined env x = true)
    (c : Kind × Expr C) (hc : c ∈ Nest.flatL conds.top) (hv : ¬ c.1.satisfied (c.2.eval env x)) :
    0 < gpShaped env k' top conds pt x := by
  obtain ⟨hz, hnn⟩ := gp_shape_zero_iff env hk top conds pt x hcov hconf hd
  rcases lt_or_eq_of_le hnn with h | h
  · exact h
  · exact absurd (hz.mp h.symm c hc) hv

section members
variable {ms : List (List (PType × (Kind × Expr C)))} {conds : Nest (Kind × Expr C)}
  (hcov : ms.map (fun g => g.map (·.2)) = conds.top.map (fun c => Nest.flatL c.top))
include hcov -- first argument of the three lemmas

/-- the members hold the conditions of the top-level items, one for one: what holds of every member's conditions holds of
every item's, and what holds of some member's holds of some item's -/
private theorem forall_members (P : List (Kind × Expr C) → Prop) :
    (∀ m ∈ ms, P (m.map (·.2))) ↔ ∀ t ∈ conds.top, P (Nest.flatL t.top) := by
  rw [← List.forall_mem_map (P := P), hcov, List.forall_mem_map]

private theorem exists_members (P : List (Kind × Expr C) → Prop) :
    (∃ m ∈ ms, P (m.map (·.2))) ↔ ∃ t ∈ conds.top, P (Nest.flatL t.top) := by
  have e : ∀ {α : Type} (f : α → List (Kind × Expr C)) (l : List α), (∃ y ∈ l.map f, P y) ↔ ∃ a ∈ l, P (f a) :=
    fun f l => by simp only [List.mem_map, exists_exists_and_eq_and]
  rw [← e, hcov, e]

private theorem members_defined (env : Env C K) (x : List K)
    (hd : ∀ c ∈ Nest.flatL conds.top, c.2.defined env x = true) :
    ∀ g ∈ ms.map stackOf, AllDefined env g x := by
  have := (forall_members hcov fun l => ∀ c ∈ l, c.2.defined env x = true).mpr
    fun t ht c hc => hd c ((Nest.mem_flatL_iff conds.top c).mpr ⟨t, ht, hc⟩)
  intro g hg te hte
  obtain ⟨m, hm, rfl⟩ := List.mem_map.mp hg
  obtain ⟨w, hw, rfl⟩ := mem_stackOf.mp hte
  exact this m hm w.2 (List.mem_map_of_mem hw)

end members

/-- **`join=and_` over any nesting: zero exactly where EVERY line of every group holds.** `ms` = the members the code builds
(`gpMembers`: one per top-level item, with its own entry of `ptype` when `ptype` is nested as deep as the conditions, with the
whole `ptype` otherwise); if every member holds exactly the conditions of its item (`hcov`) under types of their own kind
(`hconf`), the joined penalty is `0` iff every condition of the whole nesting is satisfied. -/
theorem gp_join_and_zero_iff (env : Env C K) {k' kj : K} (hk : 0 < k') (hkj : 0 < kj) (top : K)
    (conds : Nest (Kind × Expr C)) (pt : PArg) (x : List K) (ms : List (List (PType × (Kind × Expr C))))
    (hms : gpMembers conds pt = some ms)
    (hcov : ms.map (fun g => g.map (·.2)) = conds.top.map (fun c => Nest.flatL c.top))
    (hconf : ∀ g ∈ ms, ∀ w ∈ g, w.1.kind = w.2.1)
    (hd : ∀ c ∈ Nest.flatL conds.top, c.2.defined env x = true) :
    ∃ v, gpJoin env k' top kj .and_ conds pt x = some (some v) ∧
      (v = 0 ↔ ∀ c ∈ Nest.flatL conds.top, c.1.satisfied (c.2.eval env x)) := by
  obtain ⟨v, hv, hz⟩ := penjoin_and_zero_iff env hk hkj top (ms.map stackOf) x (members_defined hcov env x hd)
  refine ⟨v, by unfold gpJoin; rw [hms]; exact congrArg some hv, hz.trans ?_⟩
  rw [List.forall_mem_map, forall₂_congr fun m hm => group_sat_iff env x m (hconf m hm),
    forall_members hcov fun l => ∀ c ∈ l, c.1.satisfied (c.2.eval env x)]
  exact ⟨fun h c hc => (Nest.mem_flatL_iff conds.top c).mp hc |>.elim fun t ht => h t ht.1 c ht.2,
    fun h t ht c hc => h c ((Nest.mem_flatL_iff conds.top c).mpr ⟨t, ht, hc⟩)⟩

/-- **`join=or_` over any nesting: zero exactly where all lines of AT LEAST ONE top-level item hold** (an item = one
condition, or a whole group such as the conditions of one text; an EMPTY group - e.g. the equalities of a text without
equality lines - is satisfied everywhere, so the joined penalty is then `0` everywhere). -/
theorem gp_join_or_zero_iff (env : Env C K) {k' kj : K} (hk : 0 < k') (hkj : 0 < kj) (top : K)
    (conds : Nest (Kind × Expr C)) (pt : PArg) (x : List K) (ms : List (List (PType × (Kind × Expr C))))
    (hms : gpMembers conds pt = some ms) (hne : conds.top ≠ [])
    (hcov : ms.map (fun g => g.map (·.2)) = conds.top.map (fun c => Nest.flatL c.top))
    (hconf : ∀ g ∈ ms, ∀ w ∈ g, w.1.kind = w.2.1)
    (hd : ∀ c ∈ Nest.flatL conds.top, c.2.defined env x = true) :
    ∃ v, gpJoin env k' top kj .or_ conds pt x = some (some v) ∧
      (v = 0 ↔ ∃ t ∈ conds.top, ∀ c ∈ Nest.flatL t.top, c.1.satisfied (c.2.eval env x)) := by
  cases ms with
  | nil =>
    have := congrArg List.length hcov
    simp only [List.map_nil, List.length_nil, List.length_map] at this
    exact absurd (List.length_eq_zero_iff.mp this.symm) hne
  | cons m0 ms =>
    have hdef := members_defined hcov env x hd
    rw [List.map_cons] at hdef
    obtain ⟨v, hv, hz⟩ := penjoin_or_zero_iff env hk hkj top (stackOf m0) (ms.map stackOf) x hdef
    refine ⟨v, by unfold gpJoin; rw [hms]; exact congrArg some hv, hz.trans ?_⟩
    rw [← List.map_cons, ← exists_members hcov fun l => ∀ c ∈ l, c.1.satisfied (c.2.eval env x)]
    constructor
    · rintro ⟨g, hg, h⟩
      obtain ⟨m, hm, rfl⟩ := List.mem_map.mp hg
      exact ⟨m, hm, (group_sat_iff env x m (hconf m hm)).mp h⟩
    · rintro ⟨m, hm, h⟩
      exact ⟨stackOf m, List.mem_map_of_mem hm, (group_sat_iff env x m (hconf m hm)).mpr h⟩

/-- `join=and_`, `ptype` omitted: no hypothesis on the shape is needed -/
theorem gp_join_and_default_zero_iff (env : Env C K) {k' kj : K} (hk : 0 < k') (hkj : 0 < kj) (top : K)
    (conds : Nest (Kind × Expr C)) (x : List K) (hd : ∀ c ∈ Nest.flatL conds.top, c.2.defined env x = true) :
    ∃ v, gpJoin env k' top kj .and_ conds .none x = some (some v) ∧
      (v = 0 ↔ ∀ c ∈ Nest.flatL conds.top, c.1.satisfied (c.2.eval env x)) :=
  gp_join_and_zero_iff env hk hkj top conds .none x _ (gpMembers_none conds) (gpMembers_none_snd conds)
    (by intro g hg
        obtain ⟨c, _, rfl⟩ := List.mem_map.mp hg
        exact gpItems_none_conform c) hd

/-- `join=or_`, `ptype` omitted -/
theorem gp_join_or_default_zero_iff (env : Env C K) {k' kj : K} (hk : 0 < k') (hkj : 0 < kj) (top : K)
    (conds : Nest (Kind × Expr C)) (x : List K) (hne : conds.top ≠ [])
    (hd : ∀ c ∈ Nest.flatL conds.top, c.2.defined env x = true) :
    ∃ v, gpJoin env k' top kj .or_ conds .none x = some (some v) ∧
      (v = 0 ↔ ∃ t ∈ conds.top, ∀ c ∈ Nest.flatL t.top, c.1.satisfied (c.2.eval env x)) :=
  gp_join_or_zero_iff env hk hkj top conds .none x _ (gpMembers_none conds) hne (gpMembers_none_snd conds)
    (by intro g hg
        obtain ⟨c, _, rfl⟩ := List.mem_map.mp hg
        exact gpItems_none_conform c) hd

/-- **Fewer `ptype` entries than members** (a list nested as deep as the conditions but shorter than their outer sequence):
`generate_penalty(.., join=..)` itself raises, whatever the point. -/
theorem gp_join_runs_dry (env : Env C K) (k' top kj : K) (j : PJoin) (cs : List (Nest (Kind × Expr C)))
    (ts : List (Nest PType)) (x : List K) (hdeep : Nest.depthL cs ≤ Nest.depthL ts) (hshort : ts.length < cs.length) :
    gpJoin env k' top kj j (.node cs) (.many ts) x = none := by
  unfold gpJoin gpMembers
  simp only [Nest.top, perMemberP, hdeep, decide_true, if_true]
  rw [zipMembersP_short cs ts hshort]; rfl

/-- **The constraint drives the penalty to zero, for every way of handing the text over.** `rels` = the lines of an
independent isolated-form system (hypotheses of `constraint_drives_penalty_to_zero`), `solvers` = ANY nesting of accepted
solver statements whose flattening is `codes` (one text, a tuple of texts, hand-made groups), `conds` = ANY nesting of the
conditions of those lines (in any order, every line any number of times): the penalty `generate_penalty(conds)` (default
types, any positive multiplier) vanishes at the output of `generate_constraint(solvers)`. -/
theorem gp_shape_constraint_drives_penalty_to_zero [DecidableEq C] (env : Env C K) (isPos : C → Bool) (d : C)
    (hpos : ∀ c, isPos c = true → 0 < env.ι c) (htol : 0 ≤ env.tol) (hrel : 0 ≤ env.rel)
    {k' : K} (hk : 0 < k') (top : K)
    (rels : List (Rel C)) (solvers : Nest (Assign C)) (conds : Nest (Kind × Expr C)) (x : List K)
    (hrec : List.Forall₂ (fun r c => recognise isPos d r c = true) rels (Nest.flatL solvers.top))
    (hconds : ∀ c ∈ Nest.flatL conds.top, ∃ r ∈ rels, c = condEmit r.toRel2)
    (hlen : ∀ r ∈ rels, r.i < x.length)
    (hnodup : (rels.map (·.i)).Nodup)
    (hfree : ∀ r ∈ rels, ∀ r' ∈ rels, r'.rhs.mentions r.i = false)
    (hB : ∀ c ∈ Nest.flatL solvers.top, ∀ r ∈ rels, c.factor.mentions r.i = false)
    (hne : ∀ r ∈ rels, r.cmp = .ne → 0 < env.tol)
    (hd : ∀ c ∈ Nest.flatL conds.top, c.2.defined env (gcShaped env solvers .none x) = true) :
    gpShaped env k' top conds .none (gcShaped env solvers .none x) = 0 := by
  rw [(gp_shape_default_zero_iff env hk top conds _ hd).1]
  intro c hc
  obtain ⟨r, hr, rfl⟩ := hconds c hc
  rw [C13.gc_shape_default_eq_chain]
  have hm := chain_enforces_margin env isPos d hpos htol hrel rels _ x hrec hlen hnodup hfree hB hne r hr
  have hrc : recogniseCond r.toRel2 (condEmit r.toRel2).1 (condEmit r.toRel2).2 = true := decide_eq_true rfl
  exact (condition_exact env r.toRel2 _ _ _ hrc).mpr hm

end

/-- **A type list as long as the OUTER sequence loses lines (closed witness; the code as it is, F60).** The conditions of
`x0 <= 1 ; x1 <= 2 ; x2 = 3` as `generate_conditions` returns them - the pair `((c0, c1), (c2,))` - with
`ptype=[quadratic_inequality, quadratic_equality]`, "a list of the same length as conditions" read literally: both arguments are
flattened, `zip` pairs the two types with the first two of three conditions, so the equality line gets NO term and the second
inequality gets the equality type. At `[0, 2, 0]` (third line violated) the penalty is `0`; at `[0, 0, 3]` (every line
satisfied) it is `400`. -/
theorem gp_shape_short_ptype_drops :
    ∃ (env : Env Nat ℚ) (r0 r1 r2 : Rel2 Nat) (c0 c1 c2 : Kind × Expr Nat),
      c0 = condEmit r0 ∧ c1 = condEmit r1 ∧ c2 = condEmit r2 ∧
      (gpItems (.node [.node [.leaf c0, .leaf c1], .node [.leaf c2]]) (.many [.leaf .qIneq, .leaf .qEq])).map (·.2)
        = [c0, c1] ∧
      gpShaped env 100 0 (.node [.node [.leaf c0, .leaf c1], .node [.leaf c2]]) (.many [.leaf .qIneq, .leaf .qEq]) [0, 2, 0]
        = 0 ∧ ¬ r2.holds env [0, 2, 0] ∧
      gpShaped env 100 0 (.node [.node [.leaf c0, .leaf c1], .node [.leaf c2]]) (.many [.leaf .qIneq, .leaf .qEq]) [0, 0, 3]
        = 400 ∧ r0.holds env [0, 0, 3] ∧ r1.holds env [0, 0, 3] ∧ r2.holds env [0, 0, 3] := by
  refine ⟨{ ι := fun n => (n : ℚ), tol := 0, rel := 0 }, ⟨.var 0, .le, .num 1⟩, ⟨.var 1, .le, .num 2⟩, ⟨.var 2, .eq, .num 3⟩,
    _, _, _, rfl, rfl, rfl, by decide +kernel, by decide +kernel, ?_, by decide +kernel, ?_, ?_, ?_⟩
  all_goals simp only [Rel2.holds, Cmp.holds]; decide +kernel

/-- two texts `x0 <= 1 ; x0 = x1` and `x1 >= 3` as `generate_conditions` returns them - `(((c0,), (c1,)), ((c2,), ()))` - with
`ptype=None`: three `(type, condition)` pairs of the conditions' own kinds; at `[1, 1]` only `x1 >= 3` fails (`2*100*2^2 = 800`),
at `[0, 3]` only `x0 = x1` fails (`100*3^2 = 900`); `join=or_` over the two texts is `0` at both points (the first resp. the
second text holds there), `join=and_` is not -/
example :
    let env : Env Nat ℚ := { ι := fun n => (n : ℚ), tol := 0, rel := 0 }
    let c0 := condEmit (⟨.var 0, .le, .num 1⟩ : Rel2 Nat)
    let c1 := condEmit (⟨.var 0, .eq, .var 1⟩ : Rel2 Nat)
    let c2 := condEmit (⟨.var 1, .ge, .num 3⟩ : Rel2 Nat)
    let conds : Nest (Kind × Expr Nat) :=
      .node [.node [.node [.leaf c0], .node [.leaf c1]], .node [.node [.leaf c2], .node []]]
    (gpItems conds .none).map (·.1) = [.qIneq, .qEq, .qIneq] ∧
    gpShaped env 100 0 conds .none [1, 1] = 800 ∧ gpShaped env 100 0 conds .none [0, 3] = 900 ∧
    gpJoin env 100 0 1 .or_ conds .none [1, 1] = some (some 0) ∧ gpJoin env 100 0 1 .or_ conds .none [0, 3] = some (some 0) ∧
    gpJoin env 100 0 1 .and_ conds .none [1, 1] = some (some 800) ∧
    (∀ c ∈ Nest.flatL conds.top, c.2.defined env [1, 1] = true) := by
  decide +kernel

end MysticVerif.C14
