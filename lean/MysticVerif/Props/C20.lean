/-
C20 - monitors and log files give back exactly what was recorded.
Property theorems only (helper lemmas live in Proofs/Monitor.lean and Proofs/MonitorField.lean).

The model (Model/Monitor.lean) is generic in the scalar; here it is instantiated at an arbitrary field `K`
(cost scaling by `k` is a statement about exact arithmetic: in binary64 `(y*k)/k = y` holds only up to
rounding, finding F13).  `Mon.calls m cs` = the calls `cs` applied in order to the monitor `m`.

"+, extend, prepend, slicing never alter the monitor passed to them" is a statement about aliasing; it is proved
in Props/C20Heap.lean about the heap model Model/MonitorHeap.lean (monitor objects = pointers to list cells),
which refines this functional model (`Heap.view`).  Tuple indices, CustomMonitor, `all=False`, the verbose
intervals and the measure views are in Props/C20Views.lean; non-rectangular trajectories, id tuples and
iteration numbers with gaps in Props/C20Files.lean; the ids of a trajectory through the three parameter files and
the matching readers (`read_support_file`, `read_converge_file`) in Props/C20Ids.lean.
-/
import MysticVerif.Proofs.MonitorField
import MysticVerif.Props.C20Views
import MysticVerif.Props.C20Heap
import MysticVerif.Props.C20Files
import MysticVerif.Props.C20Ids
import Mathlib.Tactic.NormNum

namespace MysticVerif.C20
open MysticVerif.Mon

variable {R : Type} {K : Type} [Field K]

/-- **length.** A monitor that has been called `n` more times is `n` longer (`len` = `len(self.x)`),
and the three lists keep one common length. -/
theorem len_after_calls [Mul R] (m : Mon R) (cs : List (Call R)) :
    (m.calls cs).len = m.len + cs.length ∧ (m.WF → (m.calls cs).WF) := by
  rw [calls_eq]
  refine ⟨by simp [Mon.len], fun ⟨h1, h2⟩ => ?_⟩
  constructor <;> simp [h1, h2]

/-- **cost scaling by `k` is transparent** (field statement): what `get_y` / the log line divide out is
exactly what `__call__` multiplied in. -/
theorem y_transparent (k : Option K) (hk : k ≠ some 0) (y : PV K) : cdiv k (cmul k y) = y :=
  cdiv_cmul k hk y

/-- **the i-th record.** After the calls `cs` on a well-formed monitor `m` (with `k ≠ 0`), entry `len m + i`
holds exactly the parameters, the cost and the id of the `i`-th call; `m[j]` and `m[j - len]` (Python's
negative index) both return it, and its id is `m.id[j]`. -/
theorem get_ith (m : Mon K) (hk : m.k ≠ some 0) (hwf : m.WF) (cs : List (Call K)) (i : Nat) (hi : i < cs.length) :
    let m' := m.calls cs
    let j := m.len + i
    m'.getItem (j : Int) = some (cs[i].x, cs[i].y) ∧
    m'.getItem ((j : Int) - m'.len) = some (cs[i].x, cs[i].y) ∧
    m'.id[j]? = some cs[i].id := by
  intro m' j
  have hj : j < m'.len := (len_after_calls m cs).1 ▸ Nat.add_lt_add_left hi _
  have hx : m'.x[j]? = some cs[i].x := by
    show (m.calls cs).x[m.len + i]? = _
    rw [calls_eq]
    exact getElem?_append_map rfl _ cs i hi
  have hy : m'.getY[j]? = some cs[i].y := by
    show (m.calls cs).getY[m.len + i]? = _
    rw [calls_getY m hk]
    exact getElem?_append_map (by rw [Mon.getY, List.length_map, hwf.1]; rfl) _ cs i hi
  have hid : m'.id[j]? = some cs[i].id := by
    show (m.calls cs).id[m.len + i]? = _
    rw [calls_eq]
    exact getElem?_append_map hwf.2 _ cs i hi
  have h1 : m'.getItem (j : Int) = some (cs[i].x, cs[i].y) := by rw [getItem_natCast, hx, hy]
  exact ⟨h1, (getItem_of_pyIdx (pyIdx_sub_len hj)).trans h1, hid⟩

/-- **index bounds.** `m[i]` is defined exactly for `-len ≤ i < len` (otherwise `IndexError`). -/
theorem getItem_spec (m : Mon K) (hwf : m.WF) (i : Int) :
    (m.getItem i).isSome = true ↔ (-(m.len : Int) ≤ i ∧ i < m.len) := by
  rw [← pyIdx_isSome]
  unfold Mon.getItem
  cases h : pyIdx m.len i with
  | none => rfl
  | some j =>
    have hj : j < m.x.length := pyIdx_lt h
    have hy : j < m.getY.length := by rw [Mon.getY, List.length_map, hwf.1]; exact hj
    simp only [List.getElem?_eq_getElem hj, List.getElem?_eq_getElem hy]
    rfl

/-- **no invented entries.** Every index selected by `m[start:stop:step]` (any bounds, any non-zero step,
`None` allowed) is a valid position of `m`. -/
theorem sliceIdx_valid (n : Nat) (start stop : Option Int) (step : Int) (hstep : step ≠ 0) :
    ∀ j ∈ sliceIdx n start stop step, j < n := by
  intro j hj
  unfold sliceIdx at hj
  have hs := sliceStart_range n start step
  have he := sliceStop_range n stop step
  split at hj
  · rename_i hpos
    have hneg : ¬ step < 0 := Int.not_lt.mpr (Int.le_of_lt hpos)
    simp only [hneg, if_false] at hs he
    exact rangeUp_lt n _ step hpos he.2 n _ hs.1 j hj
  · rename_i hpos
    have hneg : step < 0 := Int.lt_iff_le_and_ne.mpr ⟨Int.not_lt.mp hpos, hstep⟩
    simp only [hneg, if_true] at hs he
    exact rangeDown_lt n _ step hneg he.1 n _ hs.2 j hj

/-- **`m[a:b]`** (`0 ≤ a ≤ b ≤ len`, step 1) is the contiguous block of entries `a .. b-1` of each of the
three lists; `k` is kept, so the costs read back are the same block of `m.y`. -/
theorem slice_spec (m : Mon K) (hwf : m.WF) (a b : Nat) (hab : a ≤ b) (hb : b ≤ m.len) :
    let s := m.slice (some (a : Int)) (some (b : Int)) 1
    s.x = (m.x.drop a).take (b - a) ∧ s.getY = (m.getY.drop a).take (b - a) ∧
    s.id = (m.id.drop a).take (b - a) ∧ s.k = m.k ∧ s.len = b - a := by
  intro s
  have e : s = _ := slice_step_one m hwf (adjBound_natCast (Nat.le_trans hab hb)) (adjBound_natCast hb) hb
  rw [e]
  refine ⟨rfl, ?_, rfl, rfl, ?_⟩
  · simp only [Mon.getY, List.map_take, List.map_drop]
  · exact List.length_take_of_le (by rw [List.length_drop]; exact Nat.sub_le_sub_right hb a)

/-- **`m[:i]` and `m[i:]` split `m`**: concatenating the two slices gives back the three lists of `m`. -/
theorem slice_split (m : Mon R) (hwf : m.WF) (i : Nat) (hi : i ≤ m.len) :
    let p := m.slice none (some (i : Int)) 1
    let q := m.slice (some (i : Int)) none 1
    p.x ++ q.x = m.x ∧ p.y ++ q.y = m.y ∧ p.id ++ q.id = m.id := by
  intro p q
  have hp : p = _ := slice_step_one m hwf (a := 0) rfl (adjBound_natCast hi) hi
  have hq : q = _ := slice_step_one m hwf (b := m.len) (adjBound_natCast hi) rfl (Nat.le_refl _)
  -- `drop 0`, `i - 0`: `slice_step_one` at `a := 0`
  have glue : ∀ {β : Type} (l : List β), l.length = m.len →
      (l.drop 0).take (i - 0) ++ (l.drop i).take (m.len - i) = l := by
    intro β l hl
    rw [List.drop_zero, Nat.sub_zero, ← hl, ← List.length_drop, List.take_length, List.take_append_drop]
  rw [hp, hq]
  exact ⟨glue m.x rfl, glue m.y hwf.1, glue m.id hwf.2⟩

/-- **`a.extend(b)`** is the concatenation `a ++ b` of parameters, costs (as read back through `get_y`, the two
`k`'s reconciled) and ids; `k` stays `a.k`. -/
theorem extend_spec (a b : Mon K) (ha : a.k ≠ some 0) (hb : b.k ≠ some 0) :
    (a.extend b).x = a.x ++ b.x ∧ (a.extend b).getY = a.getY ++ b.getY ∧
    (a.extend b).id = a.id ++ b.id ∧ (a.extend b).k = a.k ∧ (a.extend b).len = a.len + b.len := by
  refine ⟨rfl, ?_, rfl, rfl, List.length_append⟩
  rw [← yFor_getY a b ha]
  exact List.map_append

/-- **`a + b`** (a deep copy of `a` extended by `b`) is the same concatenation. -/
theorem add_spec (a b : Mon K) (ha : a.k ≠ some 0) (hb : b.k ≠ some 0) :
    (a.add b).x = a.x ++ b.x ∧ (a.add b).getY = a.getY ++ b.getY ∧
    (a.add b).id = a.id ++ b.id ∧ (a.add b).k = a.k ∧ (a.add b).len = a.len + b.len :=
  extend_spec a b ha hb

/-- **`a.prepend(b)`** (`insert(i, item)` for `i, item in enumerate(b)`) is the concatenation `b ++ a`:
the order of `b`'s records is kept and they come first. -/
theorem prepend_spec (a b : Mon K) (ha : a.k ≠ some 0) (hb : b.k ≠ some 0) :
    (a.prepend b).x = b.x ++ a.x ∧ (a.prepend b).getY = b.getY ++ a.getY ∧
    (a.prepend b).id = b.id ++ a.id ∧ (a.prepend b).k = a.k ∧ (a.prepend b).len = b.len + a.len := by
  rw [prepend_eq]
  refine ⟨rfl, ?_, rfl, rfl, List.length_append⟩
  rw [← yFor_getY a b ha]
  exact List.map_append

/-- **one log line.** `LoggingMonitor` writes a line exactly when `interval` divides the number of earlier
records; the line carries that number as the iteration, the id, the parameters (a scalar wrapped in a list)
and the cost as it was passed in (`k` divided out again). -/
theorem log_record_spec (m : Mon K) (hk : m.k ≠ some 0) (x y : PV K) (id : Option Int) :
    (∀ r, m.logOf x y id = some r → r.step = m.len ∧ r.id = id ∧ r.y = y ∧ r.x = logX x) ∧
    ((m.logOf x y id).isSome = true ↔ ∃ n, m.interval = some n ∧ 0 < n ∧ m.len % n = 0) := by
  rw [logOf_eq, ← hitIv_iff]
  cases hitIv m.len m.interval with
  | false => exact ⟨fun r hr => (nomatch hr), by simp⟩
  | true =>
    refine ⟨fun r hr => ?_, by simp⟩
    cases hr
    exact ⟨rfl, rfl, cdiv_cmul m.k hk y, rfl⟩

/-- **text round trip at token level.** If the three printed fields are well-formed (`tokOK`: non-empty, no
leading or trailing space, no three consecutive spaces - true of every `repr` of a tuple, number or list;
`tailOK`: no three consecutive spaces), then `line.split("   ")` of `"  %s     %s   %s" % (step, y, x)` gives
back exactly the three fields (the first two with their two leading blanks, which `eval` ignores). -/
theorem logline_roundtrip (s y x : List Char) (hs : tokOK s = true) (hy : tokOK y = true) (hx : tailOK x = true) :
    split3 (printLine s y x) = [[sp, sp] ++ s, [sp, sp] ++ y, x] ∧
    parseLine (printLine s y x) = some ([sp, sp] ++ s, [sp, sp] ++ y, x) := by
  have tok : ∀ t, tokOK t = true → scan 2 t = some 0 := fun t ht => by
    simp only [tokOK, Bool.and_eq_true, beq_iff_eq] at ht; exact ht.2
  have main : split3 (printLine s y x) = [[sp, sp] ++ s, [sp, sp] ++ y, x] := by
    -- the five blanks are a separator followed by the two leading blanks of the cost field
    simp only [split3, printLine, List.append_assoc, List.cons_append, List.nil_append]
    rw [splitGo_tok s _ (tok s hs), splitGo_tok y _ (tok y hy), splitGo_tail x hx]
  exact ⟨main, by rw [parseLine, main]⟩

/-- **`split3` is a split on `"   "`**: joining the pieces with three blanks gives back the string, and no
piece contains three consecutive blanks (this is what ties the model's scanner to the meaning of
`str.split("   ")`; agreement with CPython on concrete strings is checked by the correspondence). -/
theorem split3_spec (s : List Char) :
    List.intercalate [sp, sp, sp] (split3 s) = s ∧ ∀ p ∈ split3 s, tailOK p = true :=
  ⟨splitGo_join s 0 [] (Nat.zero_le 2), splitGo_pieces s 0 [] rfl⟩

/-- **converge format round trip**: unwrapping the 1-tuples of `raw_to_converge` gives back every step. -/
theorem converge_roundtrip {α : Type} (xs : List (List α)) : (rawToConverge xs).map List.flatten = xs := by
  rw [rawToConverge, List.map_map]
  exact List.map_id'' (fun row => List.flatMap_singleton' row) xs

/-- **support format round trip.** For a rectangular, non-empty trajectory (`r > 0` iterations of `c > 0`
parameters) the table written by `write_support_file` (`raw_to_support`: every parameter a 1-tuple, then
transposed) decodes - transpose back, unwrap - to the same trajectory. -/
theorem support_roundtrip {α : Type} (xs : List (List α)) (c : Nat) (hrect : Rect xs c) (hne : xs ≠ []) (hc : 0 < c) :
    supportToRaw (rawToSupport xs) = xs := by
  -- transposition commutes with the wrapping, so the two transpositions meet and cancel
  rw [supportToRaw, rawToSupport, convergeToSupport, rawToConverge, zipStar_map, zipStar_map,
    (zipStar_rect_involutive hrect hne hc).2.2]
  exact converge_roundtrip xs

/-- **raw file.** `write_raw_file` of a fresh monitor (any `k ≠ 0`) after the calls `cs` stores exactly the
recorded parameters and the recorded costs. -/
theorem raw_file_spec (k : Option K) (hk : k ≠ some 0) (iv : Option Nat) (cs : List (Call K)) :
    let m := Mon.calls ({ k := k, interval := iv } : Mon K) cs
    m.writeRaw.params = cs.map (·.x) ∧ m.writeRaw.cost = cs.map (·.y) := by
  intro m
  refine ⟨by simp [m, Mon.writeRaw, calls_eq], ?_⟩
  simp only [m, Mon.writeRaw]
  rw [calls_getY _ hk]
  rfl

/-- **support / converge file costs.** `write_support_file` and `write_converge_file` of a fresh monitor (any
`k ≠ 0`) after the calls `cs` store exactly the recorded costs: the copy they write from is built with
`write_monitor(..., k=mon.k)`, which multiplies the un-scaled costs by `k` before `write_raw_file` divides them
again (field statement; in binary64 each of these steps rounds - finding F13). -/
theorem support_cost_spec (k : Option K) (hk : k ≠ some 0) (iv : Option Nat) (cs : List (Call K)) :
    let m := Mon.calls ({ k := k, interval := iv } : Mon K) cs
    m.costViaCopy = cs.map (·.y) := by
  intro m
  simp only [m, Mon.costViaCopy]
  rw [calls_getY _ hk, calls_eq]
  simp only [Mon.getY, List.map_nil, List.nil_append, List.map_map]
  exact List.map_congr_left (fun c _ => cdiv_cmul k hk c.y)

/-- **the accessors are projections of the record list.** After the calls `cs` on a new monitor (any `k ≠ 0`),
`get_x` / `get_y` / `get_id` (and the properties `x`, `y`, `id`, `ix`, `iy`) are the lists of recorded parameters,
costs and ids, and `m[i]` is the pair of their `i`-th entries; `get_ax` / `get_ay` return the same lists whenever
numpy can build an array from them. -/
theorem views_spec (k : Option K) (hk : k ≠ some 0) (iv : Option Nat) (cs : List (Call K)) :
    let m := Mon.calls ({ k := k, interval := iv } : Mon K) cs
    m.getX = cs.map (·.x) ∧ m.getY = cs.map (·.y) ∧ m.getId = cs.map (·.id) ∧
    (∀ i : Nat, m.getItem (i : Int) = (match m.getX[i]?, m.getY[i]? with
        | some a, some b => some (a, b)
        | _, _ => none)) ∧
    (∀ l, m.getAx = .ok l → l = m.getX) ∧ (∀ l, m.getAy = .ok l → l = m.getY) := by
  intro m
  have hy : m.getY = cs.map (·.y) := by
    simp only [m]; rw [calls_getY _ hk]; rfl
  have e : m = _ := calls_eq cs _
  refine ⟨by rw [e]; rfl, hy, by rw [e]; rfl, fun i => getItem_natCast m i, ?_, ?_⟩
  · intro l h
    unfold Mon.getAx at h
    split at h
    · exact (Except.ok.inj h).symm
    · cases h
  · intro l h
    unfold Mon.getAy at h
    split at h
    · exact (Except.ok.inj h).symm
    · cases h

/-! ## non-vacuity: the hypotheses are met by concrete, non-trivial instances -/

/-- three calls with `k = 3` on ℚ, the middle record read back with a non-negative and a negative index -/
example :
    let m := Mon.calls ({ k := some (3 : ℚ) } : Mon ℚ) [⟨.vec [1, 2], .sc (1 / 10), none⟩, ⟨.vec [3, 4], .vec [5, 7], some 1⟩, ⟨.sc 9, .sc 0, none⟩]
    m.len = 3 ∧ m.getItem 1 = some (.vec [3, 4], .vec [5, 7]) ∧ m.getItem (-2) = some (.vec [3, 4], .vec [5, 7]) := by
  have h := get_ith ({ k := some (3 : ℚ) } : Mon ℚ) (by simp) ⟨rfl, rfl⟩
    [⟨.vec [1, 2], .sc (1 / 10), none⟩, ⟨.vec [3, 4], .vec [5, 7], some 1⟩, ⟨.sc 9, .sc 0, none⟩] 1 (by decide)
  exact ⟨rfl, h.1, h.2.1⟩

/-- slices with every kind of bound -/
example : sliceIdx 5 none none (-1) = [4, 3, 2, 1, 0] ∧ sliceIdx 5 (some (-2)) none 1 = [3, 4] ∧
    sliceIdx 5 (some 7) (some (-9)) (-2) = [4, 2, 0] ∧ sliceIdx 5 (some 1) (some 4) 2 = [1, 3] := by decide +kernel

/-- a real line: step `(0, 3)`, cost `-1.5`, parameters `[1.0, inf]` -/
example : tokOK "(0, 3)".toList = true ∧ tokOK "-1.5".toList = true ∧ tailOK "[1.0, inf]".toList = true ∧
    printLine "(0, 3)".toList "-1.5".toList "[1.0, inf]".toList = "  (0, 3)     -1.5   [1.0, inf]".toList := by decide +kernel

/-- the hypotheses of `logline_roundtrip` are needed: a field ending in a blank is not recovered -/
example : split3 (printLine "a ".toList "b".toList "c".toList) ≠ ["  a ".toList, "  b".toList, "c".toList] := by decide +kernel

/-- a 2 x 3 trajectory in support format -/
example : rawToSupport [[1, 2, 3], [4, 5, 6]] = [[[1], [4]], [[2], [5]], [[3], [6]]] ∧
    supportToRaw (rawToSupport [[1, 2, 3], [4, 5, 6]]) = [[1, 2, 3], [4, 5, 6]] := by decide +kernel

/-- prepending keeps the order of the prepended records (the literal `insert` loop) -/
example : insertAll [7, 8] 0 [1, 2, 3] = [1, 2, 3, 7, 8] := by decide +kernel

/-- a support/converge file of a monitor with `k = 2` and one record of cost `3` holds the cost `3` -/
example : (Mon.calls ({ k := some (2 : ℚ) } : Mon ℚ) [⟨.vec [1, 2], .sc 3, none⟩]).costViaCopy = [.sc 3] := by
  simpa using support_cost_spec (some (2 : ℚ)) (by simp) none [⟨.vec [1, 2], .sc 3, none⟩]

/-- extend with two different scalings: costs 6 (k=2) and 20 (k=4) read back as 3 and 5 -/
example :
    let a := Mon.calls ({ k := some (2 : ℚ) } : Mon ℚ) [⟨.sc 1, .sc 3, none⟩]
    let b := Mon.calls ({ k := some (4 : ℚ) } : Mon ℚ) [⟨.sc 2, .sc 5, none⟩]
    (a.extend b).getY = [.sc 3, .sc 5] := by
  intro a b
  have h := (extend_spec a b (by decide) (by decide)).2.1
  rw [h]
  simp only [a, b, Mon.calls, List.foldl, Mon.call, Mon.getY, cmul, cdiv, PV.map, List.map, List.nil_append,
    List.cons_append]
  norm_num

end MysticVerif.C20
