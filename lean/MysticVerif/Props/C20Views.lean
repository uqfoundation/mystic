/-
C20 - tuple indices, CustomMonitor, `all=False` / `best`, verbose intervals and the measure views of
a monitor: property theorems about Model/MonitorViews.lean.  Imported by Props/C20.lean.
-/
import MysticVerif.Proofs.MonitorField

namespace MysticVerif.C20
open MysticVerif.Mon

variable {α : Type} {R : Type}

/-- **`m[i, :]` is the i-th record** (tuple form of `m[i]`): on a table whose rows have `c` columns, a valid
integer row index `i` (negative allowed) with the full column slice returns row `i` unchanged. -/
theorem tuple_record_spec (X : List (List α)) (c : Nat) (hX : Rect X c) (i : Int) (j : Nat)
    (hi : pyIdx X.length i = some j) :
    ∃ row, X[j]? = some row ∧ full2 X c (.int i) (.slice none none 1) = .ok (.d1 row) := by
  have hj := pyIdx_lt hi
  refine ⟨X[j], List.getElem?_eq_getElem hj, ?_⟩
  have hrow : (X[j]).length = c := hX _ (List.getElem_mem hj)
  unfold full2
  simp only [Sel.adv, pick, hi]
  simp only [Int.reduceEq, if_false, List.getElem?_eq_getElem hj]
  rw [← hrow, gather_all]

/-- **`m[rows, :]` is the slice `m[rows]`** of the record list: the rows `range(*slice(s,e,t).indices(n))`,
every one unchanged. -/
theorem tuple_rows_spec (X : List (List α)) (c : Nat) (hX : Rect X c) (s e : Option Int) (t : Int) (ht : t ≠ 0) :
    full2 X c (.slice s e t) (.slice none none 1) = .ok (.d2 (gather X (sliceIdx X.length s e t))) := by
  unfold full2
  simp only [Sel.adv, pick, ht, if_false, Int.reduceEq]
  congr 2
  have : ∀ r ∈ gather X (sliceIdx X.length s e t), gather r (sliceIdx c none none 1) = r :=
    fun r hr => by rw [← hX r (mem_of_mem_gather hr), gather_all]
  rw [List.map_congr_left this]
  exact List.map_id _

/-- **`m[:, j]` is column `j` of the trajectory** (a projection of the record list): one entry per record, the
`r`-th being `X[r][j]`. -/
theorem tuple_column_spec (X : List (List α)) (c : Nat) (hX : Rect X c) (i : Int) (j : Nat) (hj : pyIdx c i = some j) :
    ∃ col, full2 X c (.slice none none 1) (.int i) = .ok (.d1 col) ∧ col.length = X.length ∧
      ∀ r (hr : r < X.length), col[r]? = (X[r])[j]? := by
  have hrows : ∀ r ∈ X, j < r.length := fun r hr => by rw [hX r hr]; exact pyIdx_lt hj
  refine ⟨X.filterMap (·[j]?), ?_, List.filterMap_length_eq_length.mpr (fun r hr => ?_), fun r hr => ?_⟩
  · unfold full2
    simp only [Sel.adv, pick, hj, Int.reduceEq, if_false, gather_all]
  · rw [List.getElem?_eq_getElem (hrows r hr)]; rfl
  · rw [column_getElem? j X hrows, List.getElem?_eq_getElem hr, Option.bind_some]

/-- **`m[[i0, i1, ...]]` through a 1-tuple** is the gather of those records (the same as the list index). -/
theorem tuple_list_spec (l : List α) (idx : List Int) (js : List Nat) (h : resolveIdx l.length idx = some js) :
    full1 l (.list idx) = .ok (.d1 (gather l js)) := by
  simp [full1, pick, h]

/-- an index outside `-n .. n-1` is an `IndexError`, never a wrong record -/
theorem tuple_record_bounds (X : List (List α)) (c : Nat) (i : Int) (b : Sel) (hb : b.adv = none)
    (hi : pyIdx X.length i = none) : full2 X c (.int i) b = .error .index := by
  unfold full2
  cases b <;> simp_all [Sel.adv, pick]

/-- **CustomMonitor records exactly what it is given.** After the calls `cs`, field `f` holds its earlier
contents followed by the values supplied for `f`, in call order, unchanged; calls that do not supply `f` leave
it alone (so fields may have different lengths). -/
theorem cmon_field_spec {V : Type} (cs : List (List (Option V))) : ∀ (c : CMon V) (f : Nat), f < c.fields.length →
    (c.calls cs).field f = c.field f ++ cs.filterMap (fun vals => (vals[f]?).join) := by
  induction cs with
  | nil => intro c f _; exact (List.append_nil _).symm
  | cons v vs ih =>
    intro c f hf
    have h1 : (c.call v).fields.length = c.fields.length := appendOpt_length _ _
    show ((c.call v).calls vs).field f = _
    rw [ih (c.call v) f (h1 ▸ hf)]
    simp only [CMon.field, CMon.call, appendOpt_getD c.fields v f hf, List.filterMap_cons, List.append_assoc]
    cases (v[f]?).join <;> rfl

/-- a required (positional) field: every call supplies it, so after `n` calls on a new monitor it has length
`n` and its `i`-th entry is the `i`-th value -/
theorem cmon_required_field {V : Type} (nf f : Nat) (hf : f < nf) (cs : List (List (Option V))) (vs : List V)
    (hall : cs.map (fun vals => (vals[f]?).join) = vs.map some) :
    ((CMon.new nf : CMon V).calls cs).field f = vs := by
  rw [cmon_field_spec cs _ f (by simp [CMon.new, hf])]
  have h0 : (CMon.new nf : CMon V).field f = [] := by
    simp [CMon.field, CMon.new, List.getD, hf]
  rw [h0, List.nil_append]
  have : cs.filterMap (fun vals => (vals[f]?).join) = (cs.map (fun vals => (vals[f]?).join)).filterMap id := by
    rw [List.filterMap_map]; rfl
  rw [this, hall]
  simp [List.filterMap_map]

/-- **`all=True` (the default) with `k=False`** is `Mon.logOf` of Model/Monitor.lean (see `log_record_spec`),
whatever `best` is. -/
theorem logOfB_all [Mul R] [Div R] (m : Mon R) (best : Int) (x y : PV R) (id : Option Int) :
    m.logOfB true best false x y id = .ok (m.logOf x y id) := by
  unfold Mon.logOfB Mon.logOf shownY shownX
  cases m.interval with
  | none => rfl
  | some n =>
    by_cases h0 : n = 0
    · simp [h0]
    · by_cases h1 : m.len % n = 0 <;> simp [h0, h1]

/-- **`all=False`** (complete characterisation; `k ≠ 0`, field statement for the division).  Of a vector cost
and a parameter vector the log line shows entry `best` of each - the cost as it was passed in, the parameter
wrapped in a list - at the iteration `len m`, and only when `interval` divides it; an out-of-range `best`
(`pyIdx = none`: outside `-len .. len-1`) is an `IndexError`, never another entry.  (`pyIdx .. = some j`
implies `j < length`, so the inner `none` branches are unreachable.) -/
theorem log_best_spec {K : Type} [Field K] (m : Mon K) (hk : m.k ≠ some 0) (best : Int) (xs ys : List K) (id : Option Int) :
    m.logOfB false best false (.vec xs) (.vec ys) id =
      match m.interval with
      | none => .ok none
      | some n =>
        if n = 0 ∨ m.len % n ≠ 0 then .ok none else
        match pyIdx ys.length best, pyIdx xs.length best with
        | some jy, some jx =>
          (match ys[jy]?, xs[jx]? with
           | some vy, some vx => .ok (some { step := m.len, id := id, y := .sc vy, x := .vec [vx] })
           | _, _ => .error .index)
        | _, _ => .error .index := by
  unfold Mon.logOfB
  have hX : ∀ l : List K, shownX false best (PV.vec l) = (PV.vec l).at best := fun _ => rfl
  rw [shownY_eq_shownX m hk, hX, hX, PV.at, PV.at]
  cases m.interval with
  | none => rfl
  | some n =>
    dsimp only
    by_cases h0 : n = 0
    · rw [if_pos h0, if_pos (Or.inl h0)]
    · by_cases h1 : m.len % n = 0
      · rw [if_neg h0, if_pos h1, if_neg (fun h => h.elim h0 (fun h => h h1))]
        cases pyIdx ys.length best with
        | none => rfl
        | some jy =>
          cases pyIdx xs.length best with
          | none => dsimp only; cases ys[jy]? <;> rfl
          | some jx => dsimp only; cases ys[jy]? <;> cases xs[jx]? <;> rfl
      · rw [if_neg h0, if_neg h1, if_pos (Or.inr h1)]

private theorem evPart_ok (hit : Bool) (r : Except Err (PV R)) (mk : PV R → VEv R) (l : List (VEv R))
    (h : evPart hit r mk = .ok l) : (∀ e ∈ l, ∃ v, e = mk v) ∧ (l ≠ [] ↔ hit = true) ∧ l.length ≤ 1 := by
  unfold evPart at h
  cases hit with
  | false => cases h; exact ⟨fun _ he => (nomatch he), by simp, Nat.zero_le _⟩
  | true =>
    cases r with
    | error e => cases h
    | ok v => cases h; exact ⟨fun e he => ⟨v, List.mem_singleton.mp he⟩, by simp, Nat.le_refl _⟩

/-- **verbose intervals.** Whatever a verbose monitor prints during a call carries the iteration number
`len m` and the id of the call; a cost line is printed exactly when `yinterval` (finite, non-zero) divides
`len m`, a parameter line exactly when `xinterval` does; at most one of each. -/
theorem verb_interval_spec [Mul R] [Div R] (m : Mon R) (yint xint : Option Nat) (all : Bool) (best : Int) (kflag : Bool)
    (x y : PV R) (id : Option Int) (evs : List (VEv R)) (h : m.verbOf yint xint all best kflag x y id = .ok evs) :
    (∀ e ∈ evs, e.gen = m.len ∧ e.id = id) ∧
    ((∃ e ∈ evs, e.isX = false) ↔ ∃ n, yint = some n ∧ 0 < n ∧ m.len % n = 0) ∧
    ((∃ e ∈ evs, e.isX = true) ↔ ∃ n, xint = some n ∧ 0 < n ∧ m.len % n = 0) ∧
    evs.length ≤ 2 := by
  unfold Mon.verbOf at h
  split at h
  · cases h
  · rename_i ey hey
    split at h
    · cases h
    · rename_i ex hex
      cases h
      obtain ⟨my, ny, ly⟩ := evPart_ok _ _ _ _ hey
      obtain ⟨mx, nx, lx⟩ := evPart_ok _ _ _ _ hex
      -- both right-hand sides become: that part is non-empty
      rw [← hitIv_iff, ← hitIv_iff, ← ny, ← nx]
      refine ⟨fun e he => ?_, ⟨?_, fun hne => ?_⟩, ⟨?_, fun hne => ?_⟩, by rw [List.length_append]; exact Nat.add_le_add ly lx⟩
      · rcases List.mem_append.mp he with he | he
        · obtain ⟨v, rfl⟩ := my e he; exact ⟨rfl, rfl⟩
        · obtain ⟨v, rfl⟩ := mx e he; exact ⟨rfl, rfl⟩
      -- cost lines come from the first part only, parameter lines from the second
      · rintro ⟨e, he, hf⟩
        rcases List.mem_append.mp he with he | he
        · exact List.ne_nil_of_mem he
        · obtain ⟨v, rfl⟩ := mx e he; cases hf
      · obtain ⟨e, he⟩ := List.exists_mem_of_ne_nil _ hne
        obtain ⟨v, rfl⟩ := my e he
        exact ⟨_, List.mem_append_left _ he, rfl⟩
      · rintro ⟨e, he, hf⟩
        rcases List.mem_append.mp he with he | he
        · obtain ⟨v, rfl⟩ := my e he; cases hf
        · exact List.ne_nil_of_mem he
      · obtain ⟨e, he⟩ := List.exists_mem_of_ne_nil _ hne
        obtain ⟨v, rfl⟩ := mx e he
        exact ⟨_, List.mem_append_right _ he, rfl⟩

private theorem iposGo_eq_layout (n0 : Nat) : ∀ (l : List Nat) (b : Nat), (∀ n ∈ l, n = n0) →
    iposGo n0 b l = iposLayoutGo b l := by
  intro l
  induction l with
  | nil => intro b _; rfl
  | cons n rest ih =>
    intro b h
    have hn : n = n0 := h n (by simp)
    simp only [iposGo, iposLayoutGo, hn]
    rw [ih (b + n0) (fun q hq => h q (by simp [hq]))]

/-- **position columns, uniform `npts`** (`_partial`: the full statement `ipos npts = iposLayout npts` for ALL
`npts` is false, see `ipos_nonuniform_witness`).  When every measure has the same number of points the
columns `Monitor._pos` selects are the position blocks of the layout `[w_0.., x_0.., w_1.., x_1.., ...]` that
`product_measure.flatten` produces. -/
theorem ipos_uniform_partial (npts : List Nat) (h : ∀ n ∈ npts, n = npts.headD 0) : ipos npts = iposLayout npts :=
  iposGo_eq_layout _ npts 0 h

/-- the code as it is: with `npts = (2, 3)` the position view takes column 6 (a weight of the second measure)
and misses column 9 -/
theorem ipos_nonuniform_witness : ipos [2, 3] = [2, 3, 6, 7, 8] ∧ iposLayout [2, 3] = [2, 3, 7, 8, 9] ∧
    iwts [2, 3] = [0, 1, 4, 5, 6] := by decide +kernel

private theorem blocks_cover : ∀ (l : List Nat) (b : Nat),
    ∃ wb pb : List (List Nat), iwtsGo b l = wb.flatten ∧ iposLayoutGo b l = pb.flatten ∧
      wb.length = l.length ∧ pb.length = l.length ∧
      (List.zipWith (· ++ ·) wb pb).flatten = List.range' (2 * b) (2 * l.sum) := by
  intro l
  induction l with
  | nil => intro b; exact ⟨[], [], rfl, rfl, rfl, rfl, by simp⟩
  | cons n rest ih =>
    intro b
    obtain ⟨wb, pb, h1, h2, h3, h4, h5⟩ := ih (b + n)
    refine ⟨List.range' (2 * b) n :: wb, List.range' (2 * b + n) n :: pb, ?_, ?_, by simp [h3], by simp [h4], ?_⟩
    · simp [iwtsGo, h1]
    · simp [iposLayoutGo, h2]
    · -- three adjacent `range'` blocks make one
      have e : 2 * (b + n) = 2 * b + n + n := by rw [Nat.mul_add, Nat.two_mul n, Nat.add_assoc]
      rw [List.zipWith_cons_cons, List.flatten_cons, h5, List.sum_cons, List.append_assoc, e,
        List.range'_append_1, List.range'_append_1]
      rw [Nat.mul_add, Nat.two_mul n, Nat.add_assoc]

/-- **weights and positions partition the record**: the weight columns `Monitor._wts` and the position
columns of the layout split, measure by measure, the columns `0 .. 2*sum(npts) - 1` of a flattened product
measure (block `i` = weights of measure `i` followed by its positions) - nothing is lost or duplicated. -/
theorem wts_pos_partition (npts : List Nat) :
    ∃ wb pb : List (List Nat), iwts npts = wb.flatten ∧ iposLayout npts = pb.flatten ∧
      wb.length = npts.length ∧ pb.length = npts.length ∧
      (List.zipWith (· ++ ·) wb pb).flatten = List.range' 0 (2 * npts.sum) :=
  blocks_cover npts 0

/-- `m[1:, 0]`, `m[[2, 0], [1, 0]]` (paired), `m[-1, :]`, `m[(0, 1),]` on a 3 x 2 trajectory -/
example :
    let X : List (List Nat) := [[10, 11], [20, 21], [30, 31]]
    full2 X 2 (.slice (some 1) none 1) (.int 0) = .ok (.d1 [20, 30]) ∧
    full2 X 2 (.list [2, 0]) (.list [1, 0]) = .ok (.d1 [31, 10]) ∧
    full2 X 2 (.int (-1)) (.slice none none 1) = .ok (.d1 [30, 31]) ∧
    first (.d2 X) (.tup [0, 1]) = .ok (.d0 11) ∧
    full2 X 2 (.list [0, 1]) (.list [0, 1, 0]) = .error .index := by decide +kernel

/-- three records with ids `None, 1, None` -/
def exMon : Mon Nat :=
  { x := [.vec [1, 2], .vec [3, 4], .vec [5, 6]], y := [.sc 7, .sc 8, .sc 9], id := [none, some 1, none] }

/-- `m[1:, 1]` keeps costs and ids of the selected records -/
example : (exMon.tuple [.slice (some 1) none 1, .int 1]).toOption.map (fun t => (t.x, t.y, t.id)) =
    some (.d1 [4, 6], .d1 [8, 9], .d1 [some 1, none]) := by decide +kernel

/-- `m[0, 0]` needs integer ids -/
example : (exMon.tuple [.int 0, .int 0]).toOption.isNone = true ∧
    (({ exMon with id := [some 4, some 1, some 0] } : Mon Nat).tuple [.int 0, .int 0]).toOption.map (fun t => (t.x, t.y, t.id)) =
      some (.d0 1, .d0 7, .d0 (some 4)) := by decide +kernel

/-- a CustomMonitor with fields (x, y, e): `e` is supplied by the second call only -/
example : ((CMon.new 3 : CMon Nat).calls [[some 1, some 2, none], [some 3, some 4, some 5]]).fields = [[1, 3], [2, 4], [5]] := by
  decide +kernel

/-- `all=False`, `best=1`, interval 2, third record (iteration 2): entry 1 of cost and parameters -/
example :
    let m : Mon ℚ := { x := [.sc 0, .sc 0], y := [.sc 0, .sc 0], id := [none, none], interval := some 2 }
    (match m.logOfB false 1 false (.vec [5, 6]) (.vec [7, 8]) none with
      | .ok (some r) => r.step = 2 ∧ r.x = .vec [6] ∧ r.y = .sc 8
      | _ => False) := by
  simp [Mon.logOfB, Mon.len, shownY, shownX, cmul, cdiv, PV.at, PV.isSeq, pyIdx, logX]

/-- uniform `npts = (2, 2)`: weights `[0,1,4,5]`, positions `[2,3,6,7]` -/
example : iwts [2, 2] = [0, 1, 4, 5] ∧ ipos [2, 2] = [2, 3, 6, 7] ∧ ipos [2, 2] = iposLayout [2, 2] := by decide +kernel

end MysticVerif.C20
