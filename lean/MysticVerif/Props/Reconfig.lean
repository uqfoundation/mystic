/-
C02 / C03 / C04 for RECONFIGURED differential-evolution runs (Model/Reconfig.lean): penalty, constraints and strict
ranges may change between any two iterations (Set* between Steps, settings handed to Step, a Step after a stop); DE and
DE2 may even alternate.  For every such history, every list of trial vectors and every population surgery done by the
re-decoration:

  * the evaluation monitor is append-only and splits into one segment per iteration, and every record of segment k is
    `(x, cost_k x)` at a point that the constraints in force AT ITERATION k leave unchanged and that lies in the box in
    force at iteration k (`reconfigured_evaluations_segmented`);
  * hence every evaluated point lies in any region containing all the boxes that were in force (C02), and satisfies any
    predicate implied by each iteration's constraints (C03);
  * the best energy never increases and the step monitor gets exactly one record per iteration, whose energies are
    non-increasing (C04) - the settings can change what an energy MEANS (C01 known class `penalty-changed-mid-run`),
    never the order of the history.
-/
import MysticVerif.Proofs.Reconfig
import MysticVerif.Proofs.ReconfigNM

namespace MysticVerif.Reconfig
open MysticVerif.Solver

section DE
variable {X E : Type}

private theorem mem_segment {G : Type} (ob : G → Obj X E) {gs : List G} {segs : List (List (X × E))}
    (f : List.Forall₂ (fun g t => LogOK (ob g) t) gs segs) {p : X × E} (hp : p ∈ segs.flatten) :
    ∃ g ∈ gs, p.2 = (ob g).raw p.1 ∧ (ob g).K p.1 = p.1 ∧ ((ob g).useRange = true → (ob g).inBox p.1 = true) := by
  induction f with
  | nil => cases hp
  | @cons g t gs segs hgt _ ih =>
    rw [List.flatten_cons] at hp
    rcases List.mem_append.mp hp with hp | hp
    · exact ⟨g, List.mem_cons_self, hgt p hp⟩
    · obtain ⟨g', hg', hk⟩ := ih hp
      exact ⟨g', List.mem_cons_of_mem _ hg', hk⟩

/-- **the evaluation monitor, segment by segment** -/
theorem reconfigured_evaluations_segmented [LinearOrder E] :
    ∀ (gs : List (DEGen X E)) (s : DE X E), (∀ g ∈ gs, Hyp g.o) →
      ∃ segs : List (List (X × E)), List.Forall₂ (fun g t => LogOK g.o t) gs segs ∧
        (DE.runCfg gs s).log = s.log ++ segs.flatten := by
  intro gs
  induction gs with
  | nil => intro s _; exact ⟨[], List.Forall₂.nil, (List.append_nil _).symm⟩
  | cons g gs ih =>
    intro s h
    obtain ⟨t, et, kt⟩ := (DE.genStep_appended g s).segment (h g List.mem_cons_self)
    obtain ⟨segs, f2, e⟩ := ih (DE.genStep g s) (fun g' hg' => h g' (List.mem_cons_of_mem _ hg'))
    refine ⟨t :: segs, List.Forall₂.cons kt f2, ?_⟩
    rw [DE.runCfg_cons, e, et, List.flatten_cons, List.append_assoc]

/-- every record of a reconfigured run is an old one or was made under some iteration's objective -/
theorem reconfigured_record_origin [LinearOrder E] (gs : List (DEGen X E)) (s : DE X E) (h : ∀ g ∈ gs, Hyp g.o) :
    ∀ p ∈ (DE.runCfg gs s).log, p ∈ s.log ∨ ∃ g ∈ gs, p.2 = g.o.raw p.1 ∧ g.o.K p.1 = p.1 ∧
      (g.o.useRange = true → g.o.inBox p.1 = true) := by
  obtain ⟨segs, f2, e⟩ := reconfigured_evaluations_segmented gs s h
  intro p hp
  rw [e] at hp
  exact (List.mem_append.mp hp).imp_right (mem_segment DEGen.o f2)

/-- **C02 under reconfiguration**: if strict ranges are in force at every iteration and every box that was in force
lies inside `B`, every point the cost was called at during the run lies in `B` -/
theorem reconfigured_evaluations_in_box [LinearOrder E] (gs : List (DEGen X E)) (s : DE X E) (h : ∀ g ∈ gs, Hyp g.o)
    (B : X → Prop) (hB : ∀ g ∈ gs, g.o.useRange = true ∧ ∀ x, g.o.inBox x = true → B x) :
    ∀ p ∈ (DE.runCfg gs s).log, p ∈ s.log ∨ B p.1 := by
  intro p hp
  rcases reconfigured_record_origin gs s h p hp with h0 | ⟨g, hg, _, _, hbox⟩
  · exact Or.inl h0
  · exact Or.inr ((hB g hg).2 _ (hbox (hB g hg).1))

/-- **C03 under reconfiguration**: a predicate that every iteration's constraints establish on their fixed points
holds at every point the cost was called at -/
theorem reconfigured_evaluations_constrained [LinearOrder E] (gs : List (DEGen X E)) (s : DE X E)
    (h : ∀ g ∈ gs, Hyp g.o) (C : X → Prop) (hC : ∀ g ∈ gs, ∀ x, g.o.K x = x → C x) :
    ∀ p ∈ (DE.runCfg gs s).log, p ∈ s.log ∨ C p.1 := by
  intro p hp
  rcases reconfigured_record_origin gs s h p hp with h0 | ⟨g, hg, _, hk, _⟩
  · exact Or.inl h0
  · exact Or.inr (hC g hg _ hk)

/-- **C04 under reconfiguration: the evaluation monitor is append-only** -/
theorem reconfigured_log_prefix [LinearOrder E] (gs : List (DEGen X E)) (s : DE X E) (h : ∀ g ∈ gs, Hyp g.o) :
    s.log <+: (DE.runCfg gs s).log := by
  obtain ⟨segs, _, e⟩ := reconfigured_evaluations_segmented gs s h
  rw [e]
  exact List.prefix_append _ _

/-- **C04 under reconfiguration: the best energy never increases** -/
theorem reconfigured_bestE_le [LinearOrder E] : ∀ (gs : List (DEGen X E)) (s : DE X E),
    (DE.runCfg gs s).bestE ≤ s.bestE := by
  intro gs
  induction gs with
  | nil => intro s; exact le_refl _
  | cons g gs ih =>
    intro s
    exact le_trans (ih (DE.genStep g s)) (DE.genStep_bestE_le g s)

/-- **C04 under reconfiguration: one step-monitor record per iteration** -/
theorem reconfigured_one_record_per_iteration [LinearOrder E] : ∀ (gs : List (DEGen X E)) (s : DE X E),
    (DE.runCfg gs s).stepLog.length = s.stepLog.length + gs.length := by
  intro gs
  induction gs with
  | nil => intro s; rfl
  | cons g gs ih =>
    intro s
    rw [DE.runCfg_cons, ih, DE.genStep_stepLog, List.length_append, List.length_singleton, List.length_cons, Nat.add_assoc,
      Nat.add_comm 1]

/-- the history invariant: non-increasing, and bounded below by the current best energy -/
def HistOK [LinearOrder E] (s : DE X E) : Prop :=
  (s.stepLog.map Prod.snd).Pairwise (· ≥ ·) ∧ ∀ e ∈ s.stepLog.map Prod.snd, s.bestE ≤ e

theorem genStep_histOK [LinearOrder E] (g : DEGen X E) (s : DE X E) (hs : HistOK s) : HistOK (DE.genStep g s) := by
  have hh := hist_snoc hs.1 (fun a ha => le_trans (DE.genStep_bestE_le g s) (hs.2 a ha))
  unfold HistOK
  rw [DE.genStep_stepLog, List.map_append]
  exact hh

/-- **C04 under reconfiguration: the best-energy history is non-increasing and bounded below by the reported best energy**,
whatever happens to penalty, constraints and ranges between the iterations -/
theorem reconfigured_history_antitone [LinearOrder E] : ∀ (gs : List (DEGen X E)) (s : DE X E), HistOK s →
    HistOK (DE.runCfg gs s) := by
  intro gs
  induction gs with
  | nil => intro s hs; exact hs
  | cons g gs ih => intro s hs; exact ih _ (genStep_histOK g s hs)

theorem init_histOK [LinearOrder E] (o : Obj X E) (pop : List X) (x0 : X) : HistOK (DE.init o pop x0) := by
  exact ⟨List.Pairwise.nil, (fun _ he => nomatch he)⟩

/-! non-vacuity: a two-iteration run over `Int` whose penalty and box change in between -/

def o1 : Obj Int Int :=
  { raw := fun x => x * x, pen := fun _ => 0, K := fun x => x, inBox := fun x => decide (-10 ≤ x ∧ x ≤ 10),
    useRange := true, top := 1000000, add := (· + ·) }
def o2 : Obj Int Int :=
  { raw := fun x => x * x, pen := fun x => if x < 2 then 100 else 0, K := fun x => max x 1,
    inBox := fun x => decide (0 ≤ x ∧ x ≤ 5), useRange := true, top := 1000000, add := (· + ·) }

example :
    let r := DE.runCfg [{ o := o1, pre := id, trials := [7, -3], two := false },
                        { o := o2, pre := id, trials := [-4, 3], two := true }] (DE.init o1 [7, -3] 7)
    r.log = [(7, 49), (-3, 9), (1, 1), (3, 9)] ∧ r.pop = [7, -3] ∧ r.bestE = 9 ∧ r.stepLog.map Prod.snd = [9, 9] := by
  decide

end DE

/-! ### Nelder-Mead: what a re-decoration under strict ranges does to the simplex (known finding F20) -/

section NM
variable {R E : Type}

/-- the energies are kept, position by position, whatever happens to the vertices -/
theorem nm_redecorate_keeps_energies (clip0 mkVal : Pt R → Pt R) (zero : R) (k : Nat) (sx : List (Pt R × E)) :
    (NM.redecorate clip0 mkVal zero k sx).map Prod.snd = sx.map Prod.snd := by
  unfold NM.redecorate
  cases sx with
  | nil => rfl
  | cons p tl =>
    obtain ⟨x0', f0⟩ := p
    simp only
    split
    · rfl
    · -- the rebuilt rows keep the energy component of the rows they replace
      rw [List.map_cons, List.map_cons, List.map_map]
      exact congrArg (f0 :: ·) ((List.map_map (f := Prod.fst) (g := Prod.snd) (l := tl.zipIdx)).symm.trans
        (congrArg (List.map Prod.snd) (List.zipIdx_map_fst 0 tl)))

/-- the best vertex is only clipped into the box; if it already lies inside it (`clip0` leaves it alone) it survives -/
theorem nm_redecorate_head (clip0 mkVal : Pt R → Pt R) (zero : R) (k : Nat) (x0 : Pt R) (f0 : E) (tl : List (Pt R × E)) :
    (NM.redecorate clip0 mkVal zero k ((x0, f0) :: tl)).head? = some (clip0 x0, f0) := by
  unfold NM.redecorate
  simp only
  split <;> rfl

/-- **F20, kernel-checked**: after generation 1 a re-decoration replaces every other vertex and keeps its energy - the
member `([5, 9], 106)` of a simplex whose energies are `x² + y²` becomes `([6, 0], 106)`: it no longer carries its own
energy (`6² + 0² = 36`) -/
theorem nm_redecoration_breaks_member_energy_witness :
    let cost : Pt Int → Int := fun x => (x.getD 0 0) * (x.getD 0 0) + (x.getD 1 0) * (x.getD 1 0)
    let sx : List (Pt Int × Int) := [([5, 0], 25), ([5, 9], 106), ([7, 0], 49)]
    (∀ p ∈ sx, p.2 = cost p.1) ∧
    NM.redecorate (fun x => x) (fun x => x.map (· + 1)) 0 2 sx = [([5, 0], 25), ([6, 0], 106), ([5, 1], 49)] ∧
    ¬ (∀ p ∈ NM.redecorate (fun x => x) (fun x => x.map (· + 1)) 0 2 sx, p.2 = cost p.1) := by
  decide

theorem nm_genStep_appended [Add R] [Sub R] [Mul R] [Div R] [LinearOrder E] (g : NMGen R E) (k : Nat)
    (s : NM R E) : Appended g.o s.log (NM.genStep g k s).log := by
  unfold NM.genStep
  split
  · exact NM.gen1_appended g.o g.clip0 g.mkVal { s with simplex := g.pre s.simplex }
  · exact NM.update_appended g.o g.coef g.st { s with simplex := g.pre s.simplex }

/-- **C02/C03/C04 for reconfigured Nelder-Mead runs**: whatever the re-decorations did to the simplex (rebuilt vertices,
stale energies - known finding F20), the evaluation monitor is append-only and splits into one segment per iteration
whose records are `(x, cost x)` at points fixed by the constraints, and inside the box, in force at that iteration -/
theorem nm_reconfigured_evaluations_segmented [Add R] [Sub R] [Mul R] [Div R] [LinearOrder E] :
    ∀ (gs : List (NMGen R E)) (k : Nat) (s : NM R E), (∀ g ∈ gs, Hyp g.o) →
      ∃ segs : List (List (Pt R × E)), List.Forall₂ (fun g t => LogOK g.o t) gs segs ∧
        (NM.runFrom gs k s).log = s.log ++ segs.flatten := by
  intro gs
  induction gs with
  | nil => intro k s _; exact ⟨[], List.Forall₂.nil, (List.append_nil _).symm⟩
  | cons g gs ih =>
    intro k s h
    obtain ⟨t, et, kt⟩ := (nm_genStep_appended g k s).segment (h g List.mem_cons_self)
    obtain ⟨segs, f2, e⟩ := ih (k + 1) (NM.genStep g k s) (fun g' hg' => h g' (List.mem_cons_of_mem _ hg'))
    refine ⟨t :: segs, List.Forall₂.cons kt f2, ?_⟩
    simp only [NM.runFrom]
    rw [e, et, List.flatten_cons, List.append_assoc]

private theorem nm_reconfigured_record_origin [Add R] [Sub R] [Mul R] [Div R] [LinearOrder E] (gs : List (NMGen R E))
    (k : Nat) (s : NM R E) (h : ∀ g ∈ gs, Hyp g.o) :
    ∀ p ∈ (NM.runFrom gs k s).log, p ∈ s.log ∨ ∃ g ∈ gs, p.2 = g.o.raw p.1 ∧ g.o.K p.1 = p.1 ∧
      (g.o.useRange = true → g.o.inBox p.1 = true) := by
  obtain ⟨segs, f2, e⟩ := nm_reconfigured_evaluations_segmented gs k s h
  intro p hp
  rw [e] at hp
  exact (List.mem_append.mp hp).imp_right (mem_segment NMGen.o f2)

/-- **C02 under reconfiguration, Nelder-Mead**: every point the cost is called at lies in any region that contains
all the boxes that were in force -/
theorem nm_reconfigured_evaluations_in_box [Add R] [Sub R] [Mul R] [Div R] [LinearOrder E] (gs : List (NMGen R E))
    (k : Nat) (s : NM R E) (h : ∀ g ∈ gs, Hyp g.o) (B : Pt R → Prop)
    (hB : ∀ g ∈ gs, g.o.useRange = true ∧ ∀ x, g.o.inBox x = true → B x) :
    ∀ p ∈ (NM.runFrom gs k s).log, p ∈ s.log ∨ B p.1 := by
  intro p hp
  rcases nm_reconfigured_record_origin gs k s h p hp with h0 | ⟨g, hg, _, _, hbox⟩
  · exact Or.inl h0
  · exact Or.inr ((hB g hg).2 _ (hbox (hB g hg).1))

/-- **C03 under reconfiguration, Nelder-Mead** -/
theorem nm_reconfigured_evaluations_constrained [Add R] [Sub R] [Mul R] [Div R] [LinearOrder E] (gs : List (NMGen R E))
    (k : Nat) (s : NM R E) (h : ∀ g ∈ gs, Hyp g.o) (C : Pt R → Prop) (hC : ∀ g ∈ gs, ∀ x, g.o.K x = x → C x) :
    ∀ p ∈ (NM.runFrom gs k s).log, p ∈ s.log ∨ C p.1 := by
  intro p hp
  rcases nm_reconfigured_record_origin gs k s h p hp with h0 | ⟨g, hg, _, hk, _⟩
  · exact Or.inl h0
  · exact Or.inr (hC g hg _ hk)

end NM

/-! ### C01 under reconfiguration: where the reported best comes from -/

section Best
variable {X E : Type}

/-- **C01 for reconfigured differential-evolution runs.** A finite reported best energy is cost + penalty at the reported
best solution UNDER THE SETTINGS OF SOME ITERATION OF THE RUN (the one that found it), and the reported best solution was
passed to the user's cost, is left unchanged by that iteration's constraints and lies in that iteration's box.  (With a
penalty switched later the stored energy is NOT re-evaluated: the monitors' known class `penalty-changed-mid-run`.) -/
theorem reconfigured_best_origin [LinearOrder E] (T : E) :
    ∀ (gs : List (DEGen X E)) (s : DE X E), (∀ g ∈ gs, Hyp g.o ∧ g.o.top = T) →
      GoodAny (fun o => ∃ g ∈ gs, g.o = o) T s.log s.best s.bestE →
      GoodAny (fun o => ∃ g ∈ gs, g.o = o) T (DE.runCfg gs s).log (DE.runCfg gs s).best (DE.runCfg gs s).bestE := by
  -- for any family `S` of admissible objectives
  have gen : ∀ (S : Obj X E → Prop) (gs : List (DEGen X E)) (s : DE X E), (∀ g ∈ gs, Hyp g.o ∧ g.o.top = T ∧ S g.o) →
      GoodAny S T s.log s.best s.bestE →
      GoodAny S T (DE.runCfg gs s).log (DE.runCfg gs s).best (DE.runCfg gs s).bestE := by
    intro S gs
    induction gs with
    | nil => intro s _ hs; exact hs
    | cons g gs ih =>
      intro s h hs
      have hg := h g List.mem_cons_self
      rw [DE.runCfg_cons]
      apply ih _ (fun g' hg' => h g' (List.mem_cons_of_mem _ hg'))
      have := DE.genStep_bestAny (S := S) g hg.1 hg.2.2 s (by rw [hg.2.1]; exact hs)
      rw [hg.2.1] at this
      exact this
  intro gs s h hs
  exact gen _ gs s (fun g hg => ⟨(h g hg).1, (h g hg).2, g, hg, rfl⟩) hs

/-- the start of a run: best decoupled with energy `inf` -/
theorem init_bestAny (S : Obj X E → Prop) (o : Obj X E) (pop : List X) (x0 : X) :
    GoodAny S o.top (DE.init o pop x0).log (DE.init o pop x0).best (DE.init o pop x0).bestE := by
  intro he
  exact absurd rfl he

end Best

end MysticVerif.Reconfig
