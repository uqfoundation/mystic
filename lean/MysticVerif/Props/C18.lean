/-
C18 - moment-imposing transforms hit their target and keep what they promise to keep; the statistical
definitions, the L-p norms and the point-to-point metrics equal their textbook (weighted) definitions.
Property theorems; the lemmas they rest on are in Proofs/Measures.lean, Trimmed.lean and MeasuresX.lean. The examples on
concrete inputs stand together at the end.

`K` is an arbitrary linearly ordered field; `C : Consts K` carries the constants a field need not have
(`inf`, `nan`, `sqrt`, p-th roots) - every statement holds for ALL choices of them, the square root /
p-th root enter only through the stated hypothesis (e.g. `C.sqrt t * C.sqrt t = t` at the one argument used).
Bare `l.N` are lines of mystic/math/measures.py. `ws : Option (List K)` is the `weights=None` / `weights=[...]` argument.  `Valid xs ws` is the property's own
"for which the operation is defined": a non-empty sample list, resp. equally many weights with `∑ w ≠ 0`.
`gmean`, `gmom`, `wsum` are the textbook sums (Proofs/Measures.lean):
  gmean xs none = (∑ xᵢ)/n,  gmean xs (some w) = (∑ xᵢ wᵢ)/(∑ wᵢ),  gmom xs ws k = gmean ((xᵢ - gmean xs ws)^k) ws.
-/
import MysticVerif.Proofs.Measures
import MysticVerif.Proofs.Trimmed
import MysticVerif.Proofs.MeasuresX
-- not used below: the check builds this module for all of C18
import MysticVerif.Props.C18X
import MysticVerif.Props.C18Dist

-- the statements keep every instance binder on `K`
set_option linter.unusedSectionVars false

namespace MysticVerif.C18
open MysticVerif.Meas

section
variable {K : Type} [Field K] [LinearOrder K] [IsStrictOrderedRing K]

/-- **mean** (measures.py l.276) is the textbook (weighted) mean. -/
theorem mean_def (C : Consts K) (xs : List K) (ws : Option (List K)) (h : Valid xs ws) :
    mean C xs ws 0 = gmean xs ws := mean_eq C xs ws h

/-- **mean, tolerance cut**: the result is the textbook mean, or `0` when that is within `tol`. -/
theorem mean_tol_def (C : Consts K) (xs : List K) (ws : Option (List K)) (tol : K) (h : Valid xs ws) :
    mean C xs ws tol = if |gmean xs ws| ≤ tol then 0 else gmean xs ws := mean_tol_eq C xs ws tol h

/-- **moment** (l.326): order 0 is 1, order 1 is 0, order `n ≥ 2` is the textbook central moment. -/
theorem moment_def (C : Consts K) (xs : List K) (ws : Option (List K)) (n : Nat) (h : Valid xs ws) :
    moment C xs ws n 0 = if n = 0 then 1 else if n = 1 then 0 else gmom xs ws n := by
  split
  · subst n; rfl
  · split
    · subst n; rfl
    · exact moment_eq C xs ws n h ((Nat.two_le_iff n).mpr ⟨‹_›, ‹_›⟩)

/-- **variance** (l.362) is the textbook (weighted) variance `∑ wᵢ (xᵢ - mean)² / ∑ wᵢ`. -/
theorem variance_def (C : Consts K) (xs : List K) (ws : Option (List K)) (h : Valid xs ws) :
    variance C xs ws = gmom xs ws 2 := moment_eq C xs ws 2 h (le_refl _)

/-- **spread** (l.62) of a non-empty list is (greatest element) - (least element). -/
theorem spread_def (x : K) (l : List K) :
    ∃ M m, M ∈ x :: l ∧ m ∈ x :: l ∧ (∀ y ∈ x :: l, m ≤ y ∧ y ≤ M) ∧ spread (x :: l) = M - m :=
  ⟨pymaxFrom x l, pyminFrom x l, (pymax_spec x l).1, (pymin_spec x l).1,
    fun y hy => ⟨(pymin_spec x l).2 y hy, (pymax_spec x l).2 y hy⟩, rfl⟩

/-- **support_index / support** (l.301, l.313): exactly the positions whose weight exceeds `tol`. -/
theorem support_def {X : Type} (xs : List X) (ws : List K) (tol : K) :
    (∀ i, i ∈ supportIndex ws tol ↔ ∃ h : i < ws.length, tol < ws[i]) ∧
    support xs ws tol = ((xs.zip ws).filter fun p => decide (tol < p.2)).map Prod.fst := by
  refine ⟨fun i => ?_, ?_⟩
  · unfold supportIndex
    simp only [List.mem_filterMap]
    constructor
    · rintro ⟨⟨j, w⟩, hmem, hp⟩
      simp only at hp
      split at hp
      · rename_i hlt
        simp only [Option.some.injEq] at hp
        subst hp
        obtain ⟨k, hk, hget⟩ := List.mem_iff_getElem.mp hmem
        simp only [List.getElem_zip, List.getElem_range, Prod.mk.injEq] at hget
        obtain ⟨rfl, rfl⟩ := hget
        simp at hk
        exact ⟨hk, hlt⟩
      · simp at hp
    · rintro ⟨h, hlt⟩
      refine ⟨(i, ws[i]), ?_, by simp [hlt]⟩
      apply List.mem_iff_getElem.mpr
      exact ⟨i, by simp [h], by simp⟩
  · unfold support
    rw [← List.filterMap_eq_map, List.filterMap_filter]
    simp only [decide_eq_true_eq, Function.comp]

/-- **ess_maximum / ess_minimum / ess_ptp** (l.103-185): the greatest / least value of `f` over the support
(all samples without weights), and their difference; `none` (Python: `ValueError`) iff the support is empty. -/
theorem ess_def {X : Type} (f : X → K) (xs : List X) (ws : Option (List K)) (tol : K) :
    let S := match ws with | none => xs | some w => support xs w tol
    (S = [] → essMaximum f xs ws tol = none ∧ essMinimum f xs ws tol = none ∧ essPtp f xs ws tol = none) ∧
    (S ≠ [] → ∃ M m, M ∈ S.map f ∧ m ∈ S.map f ∧ (∀ y ∈ S.map f, m ≤ y ∧ y ≤ M) ∧
      essMaximum f xs ws tol = some M ∧ essMinimum f xs ws tol = some m ∧ essPtp f xs ws tol = some (M - m)) := by
  intro S
  have hmax : essMaximum f xs ws tol = pymax? (S.map f) := by cases ws <;> rfl
  have hmin : essMinimum f xs ws tol = pymin? (S.map f) := by cases ws <;> rfl
  have hptp : essPtp f xs ws tol = ptp f S := by cases ws <;> rfl
  constructor
  · intro hS
    rw [hmax, hmin, hptp, hS]; exact ⟨rfl, rfl, rfl⟩
  · intro hS
    rw [hmax, hmin, hptp]
    unfold ptp
    cases hc : S.map f with
    | nil => simp at hc; exact absurd hc hS
    | cons y ys =>
      exact ⟨pymaxFrom y ys, pyminFrom y ys, (pymax_spec y ys).1, (pymin_spec y ys).1,
        fun z hz => ⟨(pymin_spec y ys).2 z hz, (pymax_spec y ys).2 z hz⟩, rfl, rfl, rfl⟩

/-- **expectation** (l.187): without weights the plain mean of `f`; with weights the weighted mean of `f`
over the points whose weight has `|w| > tol` (when their total weight is non-zero). -/
theorem expectation_def {X : Type} (C : Consts K) (f : X → K) (xs : List X) (w : List K) (tol : K)
    (hs : ((heavy xs w tol).map (·.2)).sum ≠ 0) :
    expectation C f xs (some w) tol =
      wsum ((heavy xs w tol).map fun p => f p.1) ((heavy xs w tol).map (·.2)) / ((heavy xs w tol).map (·.2)).sum ∧
    heavy xs w tol = (xs.zip w).filter (fun p => decide (tol < |p.2|)) ∧
    expectation C f xs none tol = gmean (xs.map f) none := by
  refine ⟨?_, ?_, mean_plain C _⟩
  · unfold expectation
    dsimp only
    rw [if_neg (heavy_filter_ne_zero xs w tol hs)]
    exact mean_weighted C _ _ hs
  · unfold heavy
    apply List.filter_congr; intro p _
    rw [absR_eq]

/-- **_expected_moment** (l.218): for order `n ≥ 2` the textbook central moment of `f` over the `|w| > tol` points. -/
theorem expected_moment_def {X : Type} (C : Consts K) (f : X → K) (xs : List X) (w : List K) (tol : K) (n : Nat)
    (hn : 2 ≤ n) (hs : ((heavy xs w tol).map (·.2)).sum ≠ 0) :
    expectedMoment C f xs (some w) n tol =
      gmom ((heavy xs w tol).map fun p => f p.1) (some ((heavy xs w tol).map (·.2))) n := by
  unfold expectedMoment
  dsimp only
  rw [if_neg (heavy_filter_ne_zero xs w tol hs)]
  exact moment_eq C _ _ n ⟨(List.length_map _).trans (List.length_map _).symm, hs⟩ hn

/-- **expected_variance / expected_std** (l.245, l.260): the textbook variance of `f` over the `|w| > tol` points, and
its square root. -/
theorem expected_variance_def {X : Type} (C : Consts K) (f : X → K) (xs : List X) (w : List K) (tol : K)
    (hs : ((heavy xs w tol).map (·.2)).sum ≠ 0) :
    expectedVariance C f xs (some w) tol =
      gmom ((heavy xs w tol).map fun p => f p.1) (some ((heavy xs w tol).map (·.2))) 2 ∧
    expectedStd C f xs (some w) tol = C.sqrt (expectedVariance C f xs (some w) tol) :=
  ⟨expected_moment_def C f xs w tol 2 (le_refl _) hs, rfl⟩

/-- **impose_mean / target** (l.414): the result has the requested (weighted) mean. -/
theorem impose_mean_mean (C : Consts K) (m : K) (xs : List K) (ws : Option (List K)) (h : Valid xs ws) :
    gmean (imposeMean C m xs ws) ws = m := by
  unfold imposeMean
  simp only [gmean_map_add_const xs ws _ h, mean_eq C xs ws h, add_sub_cancel]

private theorem mean_kept (C : Consts K) (xs xs' : List K) (ws ws' : Option (List K)) (h : Valid xs ws)
    (h' : Valid xs' ws') : gmean (imposeMean C (mean C xs ws 0) xs' ws') ws' = gmean xs ws := by
  simp only [impose_mean_mean C _ xs' _ h', mean_eq C xs _ h]

/-- **impose_mean / keeps**: spread and every central moment (in particular the variance) are unchanged. -/
theorem impose_mean_keeps (C : Consts K) (m : K) (xs : List K) (ws : Option (List K)) (h : Valid xs ws) :
    spread (imposeMean C m xs ws) = spread xs ∧ ∀ n, gmom (imposeMean C m xs ws) ws n = gmom xs ws n := by
  unfold imposeMean
  exact ⟨spread_map_add_const xs _, fun n => gmom_map_add_const xs ws _ n h⟩

/-- **impose_variance** (l.436): for a non-degenerate input (variance ≠ 0) and a target `v` for which the
supplied square root is a square root of `v / variance`, the result has variance `v` and the old mean. -/
theorem impose_variance_spec (C : Consts K) (v : K) (xs : List K) (ws : Option (List K)) (h : Valid xs ws)
    (hv : gmom xs ws 2 ≠ 0) (hs : C.sqrt (v / gmom xs ws 2) * C.sqrt (v / gmom xs ws 2) = v / gmom xs ws 2) :
    gmom (imposeVariance C v xs ws) ws 2 = v ∧ gmean (imposeVariance C v xs ws) ws = gmean xs ws := by
  unfold imposeVariance
  simp only [variance_def C xs ws h, if_pos ((truthy_iff _).mpr hv)]
  constructor
  · simp only [(impose_mean_keeps C _ _ ws (h.map _)).2 2, gmom_map_mul_const, pow_two, hs, div_mul_cancel₀ v hv]
  · exact mean_kept C xs _ ws ws h (h.map _)

/-- **impose_std** (l.469): target standard deviation `s`, i.e. variance `s²`; mean kept. -/
theorem impose_std_spec (C : Consts K) (s : K) (xs : List K) (ws : Option (List K)) (h : Valid xs ws)
    (hv : gmom xs ws 2 ≠ 0)
    (hs : C.sqrt (s * s / gmom xs ws 2) * C.sqrt (s * s / gmom xs ws 2) = s * s / gmom xs ws 2) :
    gmom (imposeStd C s xs ws) ws 2 = s * s ∧ gmean (imposeStd C s xs ws) ws = gmean xs ws :=
  impose_variance_spec C (s * s) xs ws h hv hs

/-- **impose_variance, degenerate input** (l.453-457): zero variance and target 0 returns the samples,
zero variance and a non-zero target returns `nan`s (the property excludes this case). -/
theorem impose_variance_degenerate (C : Consts K) (v : K) (xs : List K) (ws : Option (List K)) (h : Valid xs ws)
    (hv : gmom xs ws 2 = 0) :
    imposeVariance C v xs ws = if v = 0 then xs else List.replicate xs.length C.nan := by
  unfold imposeVariance
  rw [variance_def C xs ws h, if_neg ((truthy_false_iff _).mpr hv)]
  by_cases h0 : v = 0
  · rw [if_neg ((truthy_false_iff _).mpr h0), if_pos h0]
  · rw [if_pos ((truthy_iff _).mpr h0), if_neg h0]

/-- **impose_spread** (l.548): for a non-degenerate input (spread ≠ 0) and a target `r ≥ 0` the result has
spread `r` and the old mean. -/
theorem impose_spread_spec (C : Consts K) (r : K) (xs : List K) (ws : Option (List K)) (h : Valid xs ws)
    (hr : 0 ≤ r) (hsp : spread xs ≠ 0) :
    spread (imposeSpread C r xs ws) = r ∧ gmean (imposeSpread C r xs ws) ws = gmean xs ws := by
  unfold imposeSpread
  simp only [if_pos ((truthy_iff _).mpr hsp)]
  constructor
  · rw [(impose_mean_keeps C _ _ ws (h.map _)).1, spread_map_mul_const _ _ (div_nonneg hr (spread_nonneg xs)),
      mul_div_cancel₀ r hsp]
  · exact mean_kept C xs _ ws ws h (h.map _)

/-- **normalize / impose_sum, value** (l.1329, l.1807): for `∑ w ≠ 0` (and `mass ≠ 0` or no `zsum`)
every weight is rescaled by the same factor `mass / ∑ w`. -/
theorem normalize_proportional (C : Consts K) (ws : List K) (mass zmass : K) (zsum : Bool)
    (hs : ws.sum ≠ 0) (hz : mass ≠ 0 ∨ zsum = false) :
    normalize C ws mass zsum zmass = ws.map (fun w => mass * w / ws.sum) :=
  normalize_eq C ws mass zmass zsum hs hz

/-- **normalize / impose_sum, total**: the result sums to the requested `mass`. -/
theorem normalize_total (C : Consts K) (ws : List K) (mass zmass : K) (zsum : Bool)
    (hs : ws.sum ≠ 0) (hz : mass ≠ 0 ∨ zsum = false) :
    (normalize C ws mass zsum zmass).sum = mass :=
  normalize_sum C ws mass zmass zsum hs hz

/-- **normalize, counterbalance** (`mass = 0`, `zsum=True`, l.1376-1379): the result sums to 0. -/
theorem normalize_zsum_total (C : Consts K) (ws : List K) (zmass : K) (hW : (ws.map fun x => |x|).sum ≠ 0) :
    (normalize C ws 0 true zmass).sum = 0 := by
  rw [← List.map_congr_left (fun x _ => absR_eq x)] at hW
  have hne : ws ≠ [] := by rintro rfl; exact hW rfl
  have hsum := congrArg List.sum (List.dropLast_append_getLast hne)
  rw [List.sum_append, List.sum_singleton] at hsum
  unfold normalize
  simp only [lsum_eq]
  rw [if_pos ((truthy_iff _).mpr hW), if_neg (by simp [truthy]), sum_map_mul_div, List.sum_append, List.sum_singleton]
  -- the last weight has been replaced by minus the sum of the others
  rw [List.getLastD_eq_getLast?, List.getLast?_eq_some_getLast hne, Option.getD_some, ← hsum, add_sub_cancel_right,
    add_neg_cancel, mul_zero, zero_div]

/-- **impose_weight_norm** (l.1315): the new weights sum to `mass` and the weighted mean is kept. -/
theorem impose_weight_norm_spec (C : Consts K) (xs ws : List K) (mass : K)
    (hl : xs.length = ws.length) (hs : ws.sum ≠ 0) (hm : mass ≠ 0) :
    (imposeWeightNorm C xs ws mass).2.sum = mass ∧
    gmean (imposeWeightNorm C xs ws mass).1 (some (imposeWeightNorm C xs ws mass).2) = gmean xs (some ws) := by
  have h1 := normalize_sum C ws mass 1 false hs (Or.inl hm)
  exact ⟨h1, mean_kept C xs xs (some ws) _ ⟨hl, hs⟩
    ⟨hl.trans (normalize_length C ws mass 1 false hs (Or.inl hm)).symm, ne_of_eq_of_ne h1 hm⟩⟩

/-- **impose_support** (l.1702): with `kept = ∑_{i ∈ index} wᵢ ≠ 0`: (1) the new weights are exactly
`0` off the index and the old weight times `∑w / kept` on it - so exactly the designated weights are zeroed;
(2) the total weight is kept; (3) the weighted mean is kept. -/
theorem impose_support_spec (C : Consts K) (index : List Int) (xs ws : List K)
    (hl : xs.length = ws.length) (hk : (keptW index ws).sum ≠ 0) (hs : ws.sum ≠ 0) :
    (imposeSupport C index xs ws).2 =
      (mapIdx ws fun i w => if inIndex ws.length index i = true then ws.sum * w / (keptW index ws).sum else 0) ∧
    (imposeSupport C index xs ws).2.sum = ws.sum ∧
    gmean (imposeSupport C index xs ws).1 (some (imposeSupport C index xs ws).2) = gmean xs (some ws) := by
  have hw := imposeSupport_weights C index xs ws hk
  have hlen := (congrArg List.length hw).trans (mapIdx_length _ _)
  refine ⟨hw, ?hsum, mean_kept C xs xs (some ws) _ ⟨hl, hs⟩ ⟨hl.trans hlen.symm, ne_of_eq_of_ne ?hsum hs⟩⟩
  rw [imposeSupport_snd]; exact normalize_sum C _ _ _ _ hk (Or.inr rfl)

/-- **impose_support / zero set**, pointwise form of (1): weight `i` of the result is `0` iff `i` is off
the index or the old weight was `0`. -/
theorem impose_support_zero_iff (C : Consts K) (index : List Int) (xs ws : List K)
    (hk : (keptW index ws).sum ≠ 0) (hs : ws.sum ≠ 0) (i : Nat) (hi : i < ws.length) :
    ∃ w', (imposeSupport C index xs ws).2[i]? = some w' ∧
      (w' = 0 ↔ (inIndex ws.length index i = false ∨ ws[i] = 0)) := by
  rw [imposeSupport_weights C index xs ws hk, mapIdx_getElem?, List.getElem?_eq_getElem hi]
  refine ⟨_, rfl, ?_⟩
  by_cases hin : inIndex ws.length index i = true
  · simp only [hin, if_true, Bool.true_eq_false, false_or, div_eq_zero_iff, mul_eq_zero, hs, hk, or_false]
  · simp [hin]

/-- **impose_unweighted** (l.1733): with `rest = ∑_{i ∉ index} wᵢ ≠ 0` (any `nullable`): the new weights are
exactly `0` on the index and rescaled by `∑w / rest` off it; total weight and weighted mean are kept. -/
theorem impose_unweighted_spec (C : Consts K) (index : List Int) (xs ws : List K) (nullable : Bool)
    (hl : xs.length = ws.length) (hk : (droppedW index ws).sum ≠ 0) (hs : ws.sum ≠ 0) :
    (imposeUnweighted C index xs ws nullable).2 =
      (mapIdx ws fun i w => if inIndex ws.length index i = true then 0 else ws.sum * w / (droppedW index ws).sum) ∧
    (imposeUnweighted C index xs ws nullable).2.sum = ws.sum ∧
    gmean (imposeUnweighted C index xs ws nullable).1 (some (imposeUnweighted C index xs ws nullable).2)
      = gmean xs (some ws) := by
  -- with a non-zero rest `nullable` plays no role
  unfold droppedW at hk ⊢
  unfold imposeUnweighted
  simp only [lsum_eq, (truthy_iff _).mpr hk, Bool.not_true, Bool.and_false, Bool.false_eq_true, if_false]
  have hsum := normalize_sum C _ ws.sum 1 false hk (Or.inr rfl)
  have hlen := (normalize_length C _ ws.sum 1 false hk (Or.inr rfl)).trans (mapIdx_length _ _)
  refine ⟨?_, hsum, mean_kept C xs xs (some ws) _ ⟨hl, hs⟩ ⟨hl.trans hlen.symm, ne_of_eq_of_ne hsum hs⟩⟩
  rw [normalize_eq C _ _ _ _ hk (Or.inr rfl), mapIdx_map]
  simp only [mul_ite, ite_div, mul_zero, zero_div]

/-- **impose_collapse** (l.1763): when every group that `tools.connected` builds from the pairs has its
indices in range and does not contain its own key (`GroupOK`; expected for acyclic pair selections, not proved: see the end of the file), the
total weight is kept, and (for `∑ w ≠ 0`) so is the weighted mean. -/
theorem impose_collapse_spec (C : Consts K) (pairs : List (Int × Int)) (xs ws : List K)
    (hl : xs.length = ws.length) (hs : ws.sum ≠ 0)
    (hok : ∀ g ∈ collapseGroups ws.length pairs, GroupOK ws.length g) :
    (imposeCollapse C pairs xs ws).2.sum = ws.sum ∧
    gmean (imposeCollapse C pairs xs ws).1 (some (imposeCollapse C pairs xs ws).2) = gmean xs (some ws) := by
  have hsum := collapse_groups_sum (collapseGroups ws.length pairs) (xs, ws) hok
  obtain ⟨hl1, hl2⟩ := collapse_groups_length (collapseGroups ws.length pairs) (xs, ws)
  exact ⟨hsum, mean_kept C xs _ (some ws) _ ⟨hl, hs⟩ ⟨hl1.trans (hl.trans hl2.symm), ne_of_eq_of_ne hsum hs⟩⟩

/-- **impose_collapse / exactly the designated weights are zeroed** (l.1790-1796): when the groups built by
`tools.connected` are in range, list every member once, do not contain their own key (`GroupOK`) and have pairwise no
node in common (expected when the selection is acyclic and no pair joins two groups that both already exist),
then for every group: the key is the ONE survivor and carries the group's weight, every other member has weight
exactly `0` and is moved onto the key's position, and every weight outside all groups is unchanged. -/
theorem impose_collapse_survivor_spec (C : Consts K) (pairs : List (Int × Int)) (xs ws : List K)
    (hl : xs.length = ws.length)
    (hok : ∀ g ∈ collapseGroups ws.length pairs, GroupOK ws.length g)
    (hnd : ∀ g ∈ collapseGroups ws.length pairs, g.2.Nodup)
    (hdis : (collapseGroups ws.length pairs).Pairwise fun a b => ∀ t ∈ gnodes a, t ∉ gnodes b) :
    (∀ g ∈ collapseGroups ws.length pairs,
      (imposeCollapse C pairs xs ws).2.getD g.1 0 = ws.getD g.1 0 + (g.2.map (ws.getD · 0)).sum ∧
      ∀ k ∈ g.2, (imposeCollapse C pairs xs ws).2.getD k 0 = 0 ∧
        (imposeCollapse C pairs xs ws).1[k]? = (imposeCollapse C pairs xs ws).1[g.1]?) ∧
    (∀ t, (∀ g ∈ collapseGroups ws.length pairs, t ∉ gnodes g) →
      (imposeCollapse C pairs xs ws).2.getD t 0 = ws.getD t 0) := by
  have hs := collapse_groups_spec (collapseGroups ws.length pairs) xs ws hl hok hnd hdis
  have hlen := (collapse_groups_length (collapseGroups ws.length pairs) (xs, ws)).1.trans hl
  refine ⟨?_, ?_⟩
  · intro g hg
    have h := hs g hg
    refine ⟨h.1, ?_⟩
    intro k hk
    refine ⟨(h.2.2 k hk).1, ?_⟩
    have hk' := lt_of_lt_of_eq ((hok g hg).2 k hk).1 hlen.symm
    have hg' := lt_of_lt_of_eq (hok g hg).1 hlen.symm
    have e := (h.2.2 k hk).2.trans h.2.1.symm
    simp only [List.getD_eq_getElem?_getD, List.getElem?_eq_getElem hk', List.getElem?_eq_getElem hg',
      Option.getD_some] at e
    simp only [imposeCollapse, imposeMean, List.getElem?_map, List.getElem?_eq_getElem hk',
      List.getElem?_eq_getElem hg', Option.map_some, e]
  · intro t ht
    exact (collapse_groups_untouched (collapseGroups ws.length pairs) xs ws hl hok hnd t ht).1

private theorem absdiff_eq (x y : List K) : absdiff x y = List.zipWith (fun a b => |a - b|) x y := by
  unfold absdiff
  congr 1; funext a b; exact absR_eq _

/-- **Lnorm, p = 0** (distance.py l.27): the number of non-zero entries. -/
theorem lnorm_zero (C : Consts K) (ws : List K) : lnorm C ws 0 = ((ws.filter fun w => decide (w ≠ 0)).length : K) := by
  unfold lnorm
  rw [if_pos rfl]
  congr 2
  exact List.filter_congr fun w _ => truthy_eq w

/-- **Lnorm, general p ≥ 1** (l.35): the `p`-th power of the result is `∑ |wᵢ|^p`, for any root function
that is a `p`-th root at that one argument. -/
theorem lnorm_pow (C : Consts K) (ws : List K) (p : Nat) (hp : 1 ≤ p)
    (hroot : C.root p (ws.map fun w => |w| ^ p).sum ^ p = (ws.map fun w => |w| ^ p).sum) :
    lnorm C ws p ^ p = (ws.map fun w => |w| ^ p).sum := by
  unfold lnorm
  rw [if_neg (Nat.ne_of_gt hp), lsum_eq]
  have e : (ws.map fun x => absR (powN x p)) = ws.map fun w => |w| ^ p := by
    apply List.map_congr_left; intro w _; rw [absR_eq, powN_eq, abs_pow]
  rw [e, hroot]

/-- **Lnorm, p = 1**: `∑ |wᵢ|` (the root of order 1 being the identity). -/
theorem lnorm_one (C : Consts K) (ws : List K) (hroot : ∀ t, C.root 1 t = t) :
    lnorm C ws 1 = (ws.map fun w => |w|).sum := by
  simpa only [pow_one] using lnorm_pow C ws 1 (le_refl _) (by rw [hroot, pow_one])

/-- **Lnorm, p = inf** (l.29): the greatest `|wᵢ|`. -/
theorem lnorm_inf (w : K) (ws : List K) :
    lnormInf (w :: ws) ∈ (w :: ws).map (fun t => |t|) ∧ ∀ t ∈ w :: ws, |t| ≤ lnormInf (w :: ws) := by
  have hspec := pymax_spec (absR w) (ws.map absR)
  rw [← List.map_cons, List.map_congr_left (fun x _ => absR_eq x)] at hspec
  exact ⟨hspec.1, fun t ht => hspec.2 _ (List.mem_map_of_mem ht)⟩

/-- **chebyshev** (l.115): the greatest coordinate distance `|xᵢ - yᵢ|` (points with ≥ 1 coordinate). -/
theorem chebyshev_def (a b : K) (x y : List K) :
    chebyshev (a :: x) (b :: y) ∈ List.zipWith (fun s t => |s - t|) (a :: x) (b :: y) ∧
    ∀ d ∈ List.zipWith (fun s t => |s - t|) (a :: x) (b :: y), d ≤ chebyshev (a :: x) (b :: y) := by
  unfold chebyshev
  rw [absdiff_eq]
  simp only [List.zipWith_cons_cons]
  exact pymax_spec _ _

/-- **hamming** (l.138): the number of coordinates that differ. -/
theorem hamming_def (x y : List K) :
    hamming x y = (((x.zip y).filter fun p => decide (p.1 ≠ p.2)).length : K) := by
  unfold hamming absdiff
  rw [← List.map_uncurry_zip_eq_zipWith, List.filter_map, List.length_map]
  congr 2
  apply List.filter_congr; intro p _
  rw [Function.comp_apply, Function.uncurry_def, truthy_eq]
  beta_reduce
  rw [absR_eq]
  exact decide_eq_decide.mpr (by rw [Ne, abs_eq_zero, sub_eq_zero])

/-- **minkowski** (l.161): the `p`-th power of the result is `∑ |xᵢ - yᵢ|^p` for any `p`-th root at that argument. -/
theorem minkowski_pow (C : Consts K) (p : Nat) (x y : List K)
    (hroot : C.root p (List.zipWith (fun s t => |s - t| ^ p) x y).sum ^ p = (List.zipWith (fun s t => |s - t| ^ p) x y).sum) :
    minkowski C p x y ^ p = (List.zipWith (fun s t => |s - t| ^ p) x y).sum := by
  unfold minkowski minkowskiSum
  have e : (absdiff x y).map (powN · p) = List.zipWith (fun s t => |s - t| ^ p) x y := by
    rw [absdiff_eq, List.map_zipWith]
    congr 1; funext s t; exact powN_eq _ _
  rw [lsum_eq, e, hroot]

/-- **euclidean** (l.193): its square is `∑ (xᵢ - yᵢ)²`. -/
theorem euclidean_sq (C : Consts K) (x y : List K)
    (hroot : C.root 2 (List.zipWith (fun s t => (s - t) ^ 2) x y).sum ^ 2 = (List.zipWith (fun s t => (s - t) ^ 2) x y).sum) :
    euclidean C x y ^ 2 = (List.zipWith (fun s t => (s - t) ^ 2) x y).sum := by
  have e : List.zipWith (fun s t : K => |s - t| ^ 2) x y = List.zipWith (fun s t => (s - t) ^ 2) x y := by
    congr 1; funext s t; exact sq_abs _
  unfold euclidean
  rw [← e] at hroot ⊢
  exact minkowski_pow C 2 x y hroot

/-- **manhattan** (l.215): `∑ |xᵢ - yᵢ|`. -/
theorem manhattan_def (C : Consts K) (x y : List K) (hroot : ∀ t, C.root 1 t = t) :
    manhattan C x y = (List.zipWith (fun s t => |s - t|) x y).sum := by
  simpa only [pow_one, manhattan] using minkowski_pow C 1 x y (by rw [hroot, pow_one])

/-- **approx.tolerance** (approx.py l.124) -/
theorem tolerance_def (x tol rel : K) : tolerance x tol rel = tol + |x| * rel := by
  unfold tolerance; rw [absR_eq]

/-- **almostEqual** (approx.py l.81) -/
theorem almostEqual_def (x y : List K) (tol rel : K) :
    almostEqual x y tol rel = true ↔ ∀ p ∈ x.zip y, |p.1 - p.2| ≤ tol + rel * |p.2| := by
  unfold almostEqual
  rw [← List.map_uncurry_zip_eq_zipWith, List.all_map, List.all_eq_true]
  simp only [Function.comp, Function.uncurry, id, decide_eq_true_eq, absR_eq]

/-- **median is shift-equivariant** (l.1491; `medianSel` = the one or two selected order statistics,
non-empty for `MedValid` inputs, see `median_def`). -/
theorem median_shift_equivariant (C : Consts K) (c : K) (xs : List K) (ws : Option (List K))
    (h : medianSel xs ws ≠ []) : median C (xs.map (· + c)) ws = median C xs ws + c :=
  median_shift C c xs ws h

/-- **impose_median** (l.1516): the result has the requested (weighted) median, and the same spread. -/
theorem impose_median_spec (C : Consts K) (m : K) (xs : List K) (ws : Option (List K))
    (h : medianSel xs ws ≠ []) :
    median C (imposeMedian C m xs ws) ws = m ∧ spread (imposeMedian C m xs ws) = spread xs := by
  unfold imposeMedian
  exact ⟨by rw [median_shift C _ xs ws h, add_sub_cancel], spread_map_add_const xs _⟩

/-! ### median / mad / impose_median / impose_mad for `MedValid` inputs (l.1491-1546)

`MedValid xs ws`: at least one (sample, weight) pair and a NON-NEGATIVE total weight (single weights may be zero or
negative) - then the selection `x[s/2. - cumsum(w) <= 0][0:2-x.size%2]` is never empty.  All statements are about the
model's STABLE sort, for all inputs including ties; which of two EQUAL samples carrying different weights numpy's
`argsort` puts first is outside the model, and in binary64 the rescaling can break an exact tie of two deviations the
other way (finding F18 of the C18 check entry): at such ties the weighted median of an even number of points jumps. -/

/-- **median, as the code defines the weighted median** (l.1499-1501): with the (sample, weight) pairs sorted by sample,
`S` the total weight and `cₖ = w₀ + … + wₖ` the cumulative weights of the sorted pairs, the median is the mean of the
first `2 - n % 2` sorted samples whose cumulative weight reaches `S / 2`; the selection is non-empty, consists of
samples, and the median lies between any bounds of the samples. -/
theorem median_def (C : Consts K) (xs : List K) (ws : Option (List K)) (h : MedValid xs ws) :
    median C xs ws = meanUpTo2 C (((((sortedX xs ws).zip (cumsumFrom 0 ((sortedOf xs ws).map (·.2)))).filter
        fun p => decide (((pairsOf xs ws).map (·.2)).sum / 2 ≤ p.2)).map (·.1)).take (2 - (pairsOf xs ws).length % 2)) ∧
    (∀ k, k < ((sortedOf xs ws).map (·.2)).length →
      (cumsumFrom 0 ((sortedOf xs ws).map (·.2)))[k]? = some ((((sortedOf xs ws).map (·.2)).take (k + 1)).sum)) ∧
    medianSel xs ws ≠ [] ∧ (∀ x ∈ medianSel xs ws, x ∈ xs) ∧
    ∀ lo hi, (∀ x ∈ xs, lo ≤ x ∧ x ≤ hi) → lo ≤ median C xs ws ∧ median C xs ws ≤ hi := by
  refine ⟨?_, ?_, medianSel_ne_nil xs ws h, medianSel_subset xs ws, fun lo hi hb => median_bounds C xs ws h lo hi hb⟩
  · unfold median medianSel sortedX sortedOf
    -- `S/2 - c ≤ 0` is `S/2 ≤ c`; `S` and `n` are those of the unsorted pairs
    rw [lsum_eq, ((sortPairs_perm _).map _).sum_eq, sortPairs_length]
    simp only [sub_nonpos]
  · intro k hk
    rw [cumsumFrom_getElem? _ _ k hk, zero_add]

/-- **impose_median keeps the mad** (docstring l.1518 'mad-preserving'). -/
theorem impose_median_keeps_mad (C : Consts K) (m : K) (xs : List K) (ws : Option (List K)) (h : MedValid xs ws) :
    mad C (imposeMedian C m xs ws) ws = mad C xs ws := by
  unfold imposeMedian
  exact mad_shift C _ xs ws (medianSel_ne_nil xs ws h)

/-- **mad** is non-negative, invariant under shifts and, like the median, equivariant under positive scalings. -/
theorem mad_affine (C : Consts K) (xs : List K) (ws : Option (List K)) (h : MedValid xs ws) (c s : K) (hs : 0 < s) :
    0 ≤ mad C xs ws ∧ mad C (xs.map (· + c)) ws = mad C xs ws ∧ mad C (xs.map (· * s)) ws = mad C xs ws * s ∧
    median C (xs.map (· * s)) ws = median C xs ws * s :=
  ⟨mad_nonneg C xs ws h, mad_shift C c xs ws (medianSel_ne_nil xs ws h), mad_scale C s hs xs ws h,
    median_scale C s hs xs ws (medianSel_ne_nil xs ws h)⟩

/-- **impose_mad** (l.1529): for a non-degenerate input (mad ≠ 0) and a POSITIVE target `s`, the result has median
absolute deviation `s` and the old median. -/
theorem impose_mad_spec (C : Consts K) (s : K) (xs : List K) (ws : Option (List K)) (h : MedValid xs ws)
    (hm : mad C xs ws ≠ 0) (hs : 0 < s) :
    mad C (imposeMad C s xs ws) ws = s ∧ median C (imposeMad C s xs ws) ws = median C xs ws := by
  have hc := div_pos hs (lt_of_le_of_ne (mad_nonneg C xs ws h) (Ne.symm hm))
  unfold imposeMad
  simp only [if_pos ((truthy_iff _).mpr hm)]
  constructor
  · simp only [impose_median_keeps_mad C _ _ ws (h.map _), mad_scale C _ hc xs ws h, mul_div_cancel₀ s hm]
  · exact (impose_median_spec C _ _ ws (medianSel_ne_nil _ ws (h.map _))).1

/-- **impose_mad, target 0**: every sample lands on the old median; mad 0, median kept. -/
theorem impose_mad_zero_spec (C : Consts K) (xs : List K) (ws : Option (List K)) (h : MedValid xs ws)
    (hm : mad C xs ws ≠ 0) :
    mad C (imposeMad C 0 xs ws) ws = 0 ∧ median C (imposeMad C 0 xs ws) ws = median C xs ws ∧
    ∀ y ∈ imposeMad C 0 xs ws, y = median C xs ws := by
  unfold imposeMad
  simp only [if_pos ((truthy_iff _).mpr hm), zero_div]
  -- the scaled samples are all 0, so is their median, and the shift puts every sample on the old median
  have hz : ∀ y ∈ xs.map (· * (0 : K)), y = 0 := fun y hy => by
    obtain ⟨x, _, rfl⟩ := List.mem_map.mp hy; exact mul_zero x
  refine ⟨mad_const C _ ws ?v _ ?all, median_const C _ ws ?v _ ?all, ?all⟩
  case v => exact (h.map _).map _
  case all =>
    intro y hy
    obtain ⟨z, hz', rfl⟩ := List.mem_map.mp hy
    rw [median_const C _ ws (h.map _) 0 hz, hz z hz', sub_zero, zero_add]

/-- **impose_mad, degenerate input** (l.1542-1543): zero mad returns `nan`s (excluded by the property). -/
theorem impose_mad_degenerate (C : Consts K) (s : K) (xs : List K) (ws : Option (List K)) (hm : mad C xs ws = 0) :
    imposeMad C s xs ws = List.replicate xs.length C.nan := by
  unfold imposeMad
  rw [if_neg ((truthy_false_iff _).mpr hm)]

/-! ## trimmed / winsorised variants: `_sort`, `_k`, tmean, tvariance, tstd and their imposers (l.1480, l.1549-1697)

`T : TConsts K` carries `ndarray.round(15)`, the literal `.01` and `isfinite`: every statement holds for ALL choices.
`sortedX xs ws` are the sorted samples, `trimW T xs ws klo khi clip` the trimmed (`clip = false`) or winsorised
(`clip = true`) weights `_k` gives to them (`klo`, `khi` in percent; a number `k` is `klo = khi = k`).
The hypothesis `(trimW ..).sum ≠ 0` is the docstring's "if all samples are excluded, will return nan". -/

/-- **_sort** (l.1480): the (sample, weight) pairs are permuted, and the samples are in non-decreasing order. -/
theorem sort_def (xs : List K) (ws : Option (List K)) :
    (sortedOf xs ws).Perm (pairsOf xs ws) ∧ (sortedOf xs ws).Pairwise (fun a b => a.1 ≤ b.1) :=
  ⟨sortPairs_perm _, sortPairs_sorted _⟩

/-- **the trimmed weights depend only on the ORDER of the samples and on the weights**: a shift of all samples, and
a scaling of all samples by a positive factor, leave the weights `_k` attaches to the sorted samples unchanged
(and move the sorted samples along). -/
theorem trim_weights_order_only (T : TConsts K) (xs : List K) (ws : Option (List K)) (klo khi : K) (clip : Bool)
    (c s : K) (hs : 0 < s) :
    trimW T (xs.map (· + c)) ws klo khi clip = trimW T xs ws klo khi clip ∧
    sortedX (xs.map (· + c)) ws = (sortedX xs ws).map (· + c) ∧
    trimW T (xs.map (· * s)) ws klo khi clip = trimW T xs ws klo khi clip ∧
    sortedX (xs.map (· * s)) ws = (sortedX xs ws).map (· * s) ∧
    (trimW T xs ws klo khi clip).length = (sortedX xs ws).length :=
  ⟨trimW_map T (shift_strictMono c) xs ws klo khi clip, sortedX_map (shift_strictMono c) xs ws,
    trimW_map T (scale_strictMono hs) xs ws klo khi clip, sortedX_map (scale_strictMono hs) xs ws,
    trimW_length T xs ws klo khi clip⟩

/-- **tmean** (l.1599) is the weighted mean of the sorted samples under the trimmed weights. -/
theorem tmean_def (T : TConsts K) (xs : List K) (ws : Option (List K)) (klo khi : K) (clip : Bool) :
    tmean T xs ws klo khi clip =
      wsum (sortedX xs ws) (trimW T xs ws klo khi clip) / (trimW T xs ws klo khi clip).sum :=
  tmean_eq T xs ws klo khi clip

/-- **tvariance / tstd** (l.1615, l.1632): the weighted variance `∑ w'ᵢ (xᵢ - m)² / ∑ w'ᵢ` of the sorted samples
under the trimmed weights `w'`, about the trimmed mean `m` OF THE SAME trimmed weights; `tstd` is its root. -/
theorem tvariance_def (C : Consts K) (T : TConsts K) (xs : List K) (ws : Option (List K)) (klo khi : K) (clip : Bool)
    (h : (trimW T xs ws klo khi clip).sum ≠ 0) :
    tvariance C T xs ws klo khi clip =
      wsum ((sortedX xs ws).map fun x => (x - tmean T xs ws klo khi clip) ^ 2) (trimW T xs ws klo khi clip)
        / (trimW T xs ws klo khi clip).sum ∧
    tstd C T xs ws klo khi clip = C.sqrt (tvariance C T xs ws klo khi clip) := by
  refine ⟨?_, rfl⟩
  simp only [tvariance_eq C T xs ws klo khi clip h, tmean_eq]
  rfl

/-- `_k(weights, 0)` on strictly positive weights is the identity (l.1549-1596 with `lo = 0`, `hi = len(w)-1`). -/
theorem k_zero_cut (T : TConsts K) (hr : ∀ x : K, 0 < T.rnd x ↔ 0 < x) (ws : List K) (hpos : ∀ x ∈ ws, 0 < x)
    (hne : ws ≠ []) (clip : Bool) : kTrim T ws 0 0 clip false = ws :=
  kTrim_zero T hr ws hpos hne clip

/-- **_k, tmean, tvariance at the default cut `k = 0`** (strictly positive weights or none, trimming or winsorising,
any `round` that keeps the sign of its argument): `_k` returns the weights unchanged, `tmean` is the textbook weighted
mean and `tvariance` the textbook weighted variance of the samples AS GIVEN (sorting does not matter). -/
theorem trimmed_k0_def (C : Consts K) (T : TConsts K) (hr : ∀ x : K, 0 < T.rnd x ↔ 0 < x) (xs : List K)
    (ws : Option (List K)) (h : PosValid xs ws) (clip : Bool) :
    trimW T xs ws 0 0 clip = (sortedOf xs ws).map (·.2) ∧
    tmean T xs ws 0 0 clip = gmean xs ws ∧
    tvariance C T xs ws 0 0 clip = gmom xs ws 2 := by
  have hwpos : ∀ x ∈ (sortedOf xs ws).map (·.2), 0 < x := fun x hx => by
    obtain ⟨p, hp, rfl⟩ := List.mem_map.mp hx
    exact pairsOf_pos xs ws h p ((sortPairs_perm _).subset hp)
  have hwne : (sortedOf xs ws).map (·.2) ≠ [] := fun h0 => by
    have hlen := congrArg List.length h0
    rw [List.length_map, sortedOf, sortPairs_length] at hlen
    exact pairsOf_ne_nil xs ws h (List.length_eq_zero_iff.mp hlen)
  have hw : trimW T xs ws 0 0 clip = (sortedOf xs ws).map (·.2) := kTrim_zero T hr _ hwpos hwne clip
  have hlen : ∀ w, ws = some w → xs.length = w.length := fun w e => by subst e; exact h.1
  have hm := gmean_sorted (fun x => x) xs ws hlen
  simp only [List.map_id'] at hm
  have hpos := sum_pos_of_pos _ hwpos hwne
  refine ⟨hw, by rw [tmean_eq, hw, hm], ?_⟩
  rw [tvariance_eq C T xs ws 0 0 clip (by rw [hw]; exact ne_of_gt hpos), hw]
  unfold gmom
  rw [hm]
  exact gmean_sorted (fun x => (x - gmean xs ws) ^ 2) xs ws hlen

/-- **impose_tmean** (l.1648): the result has the requested trimmed mean, and the trimmed variance is kept. -/
theorem impose_tmean_spec (C : Consts K) (T : TConsts K) (m : K) (xs : List K) (ws : Option (List K)) (klo khi : K)
    (clip : Bool) (h : (trimW T xs ws klo khi clip).sum ≠ 0) :
    tmean T (imposeTmean T m xs ws klo khi clip) ws klo khi clip = m ∧
    tvariance C T (imposeTmean T m xs ws klo khi clip) ws klo khi clip = tvariance C T xs ws klo khi clip := by
  unfold imposeTmean
  exact ⟨by rw [tmean_shift T _ xs ws klo khi clip h, add_sub_cancel], tvariance_shift C T _ xs ws klo khi clip h⟩

/-- **impose_tvariance** (l.1663): for a non-degenerate input (trimmed variance ≠ 0) and a target `v` for which the
supplied square root is a positive square root of `v / tvariance`, the result has trimmed variance `v` and the old
trimmed mean. -/
theorem impose_tvariance_spec (C : Consts K) (T : TConsts K) (v : K) (xs : List K) (ws : Option (List K))
    (klo khi : K) (clip : Bool) (h : (trimW T xs ws klo khi clip).sum ≠ 0)
    (hv : tvariance C T xs ws klo khi clip ≠ 0)
    (hs : C.sqrt (v / tvariance C T xs ws klo khi clip) * C.sqrt (v / tvariance C T xs ws klo khi clip)
            = v / tvariance C T xs ws klo khi clip)
    (hpos : 0 < C.sqrt (v / tvariance C T xs ws klo khi clip)) :
    tvariance C T (imposeTvariance C T v xs ws klo khi clip) ws klo khi clip = v ∧
    tmean T (imposeTvariance C T v xs ws klo khi clip) ws klo khi clip = tmean T xs ws klo khi clip := by
  unfold imposeTvariance
  simp only [if_pos ((truthy_iff _).mpr hv)]
  have h' := trimW_map_sum_ne (T := T) (scale_strictMono hpos) h
  refine ⟨?_, (impose_tmean_spec C T _ _ ws klo khi clip h').1⟩
  rw [(impose_tmean_spec C T _ _ ws klo khi clip h').2, tvariance_scale C T hpos xs ws klo khi clip h, pow_two, hs,
    div_mul_cancel₀ v hv]

/-- **impose_tstd** (l.1686): target trimmed standard deviation `s`, i.e. trimmed variance `s²`; trimmed mean kept. -/
theorem impose_tstd_spec (C : Consts K) (T : TConsts K) (s : K) (xs : List K) (ws : Option (List K))
    (klo khi : K) (clip : Bool) (h : (trimW T xs ws klo khi clip).sum ≠ 0)
    (hv : tvariance C T xs ws klo khi clip ≠ 0)
    (hs : C.sqrt (s * s / tvariance C T xs ws klo khi clip) * C.sqrt (s * s / tvariance C T xs ws klo khi clip)
            = s * s / tvariance C T xs ws klo khi clip)
    (hpos : 0 < C.sqrt (s * s / tvariance C T xs ws klo khi clip)) :
    tvariance C T (imposeTstd C T s xs ws klo khi clip) ws klo khi clip = s * s ∧
    tmean T (imposeTstd C T s xs ws klo khi clip) ws klo khi clip = tmean T xs ws klo khi clip :=
  impose_tvariance_spec C T (s * s) xs ws klo khi clip h hv hs hpos

/-- **impose_tvariance, degenerate input** (l.1679-1680): zero trimmed variance returns `nan`s (excluded by the
property). -/
theorem impose_tvariance_degenerate (C : Consts K) (T : TConsts K) (v : K) (xs : List K) (ws : Option (List K))
    (klo khi : K) (clip : Bool) (hv : tvariance C T xs ws klo khi clip = 0) :
    imposeTvariance C T v xs ws klo khi clip = List.replicate xs.length C.nan := by
  unfold imposeTvariance
  rw [if_neg ((truthy_false_iff _).mpr hv)]

end

/-! ## concrete inputs -/

example : Valid [(1 : ℚ), 2, 4] (some [1, 0, 3]) := ⟨rfl, by decide +kernel⟩

example : Valid [(1 : ℚ), 2, 4] none := by simp [Valid]

/-- non-vacuity: a weighted sample with non-zero variance and spread -/
example : gmom [(0 : ℚ), 2] (some [1, 1]) 2 = 1 ∧ spread [(0 : ℚ), 2] = 2 := by
  decide +kernel

example : keptW [0, -1] [(1 : ℚ), 2, 0, 5] = [1, 0, 0, 5] := by decide

example : droppedW [0, -1] [(1 : ℚ), 2, 0, 5] = [0, 2, 0, 0] := by decide

/-- non-vacuity: the groups of a chain and a star written with negative indices in both slots -/
example : collapseGroups 6 [(0, -1), (5, 2), (3, -2)] = [(0, [5, 2]), (3, [4])] := by decide

example : (collapseGroups 6 [(0, -1), (5, 2), (3, -2)]).Pairwise fun a b => ∀ t ∈ gnodes a, t ∉ gnodes b := by
  decide

/-- non-vacuity: a chain and a star (with a negative index) give `GroupOK` groups -/
example : collapseGroups 5 [(0, 1), (1, 2), (3, -1)] = [(0, [1, 2]), (3, [4])] := by decide

example : ∀ g ∈ collapseGroups 5 [(0, 1), (1, 2), (3, -1)], GroupOK 5 g := by
  unfold GroupOK; decide

/-- **F16 witness (the clause fails on the code as it is)**: a reversed duplicate pair makes `connected`
put key 0 into its own member set; the collapse then counts `w₀` twice: total weight 6 becomes 7. -/
theorem collapse_total_not_kept_witness :
    collapseGroups 6 [(0, 1), (1, 0)] = [(0, [1, 0])] ∧
    ((collapseGroups 6 [(0, 1), (1, 0)]).foldl collapseGroup
      ([(1 : Int), 2, 3, 4, 5, 6], [(1 : Int), 1, 1, 1, 1, 1])).2 = [3, 0, 1, 1, 1, 1] := by decide

/-- **F17 witness**: `connected` does not merge the groups `0:{5}` and `1:{2}` that the later pair `(0,1)`
joins; the selected pair `(0,1)` keeps two non-zero weights (3 and 1). -/
theorem collapse_pair_not_zeroed_witness :
    collapseGroups 6 [(0, 5), (1, 2), (0, 1)] = [(0, [5, 1]), (1, [2])] ∧
    ((collapseGroups 6 [(0, 5), (1, 2), (0, 1)]).foldl collapseGroup
      ([(1 : Int), 2, 3, 4, 5, 6], [(1 : Int), 1, 1, 1, 1, 1])).2 = [3, 1, 0, 1, 1, 0] := by decide

example : medianSel [(3 : ℚ), 1, 2, 5] (some [1, 1, 2, 1]) = [2, 3] := by decide +kernel

example : medianSel [(3 : ℚ), 1, 2] none = [2] := by decide +kernel

/-- rational constants for the examples -/
def CQ0 : Consts ℚ := { inf := 0, nan := 0, sqrt := id, root := fun _ x => x }

/-- non-vacuity: weighted samples with a tie of two deviations carrying different weights (the F18 input) -/
example : MedValid [(1 / 4 : ℚ), -15 / 4, 25 / 4, -2] (some [4, 1, 2, 1]) := by
  exact ⟨by decide +kernel, by decide +kernel⟩

example : median CQ0 [(1 / 4 : ℚ), -15 / 4, 25 / 4, -2] (some [4, 1, 2, 1]) = 13 / 4 ∧
    mad CQ0 [(1 / 4 : ℚ), -15 / 4, 25 / 4, -2] (some [4, 1, 2, 1]) = 3 := by decide +kernel

/-- in exact arithmetic (stable sort) the F18 input DOES reach its target 7/2: the defect is one of rounding at the tie -/
example : mad CQ0 (imposeMad CQ0 (7 / 2) [(1 / 4 : ℚ), -15 / 4, 25 / 4, -2] (some [4, 1, 2, 1])) (some [4, 1, 2, 1]) = 7 / 2 := by
  decide +kernel

example : PosValid [(3 : ℚ), 1, 2, 5] (some [1, 1, 2, 4]) := by
  exact ⟨rfl, List.cons_ne_nil _ _, by decide +kernel⟩

/-- non-vacuity: rationals with `round = id`, `.01 = 1/100`. Trimming 25% from each tail of four unit weights keeps
the two middle samples; winsorising weighted samples moves the tail mass onto the boundary samples; a tuple `k`
that cuts inside a sample keeps the fraction of its weight inside the cut. -/
def TQ : TConsts ℚ := { rnd := id, c01 := 1 / 100, fin := fun _ => true }

def CQ : Consts ℚ := { inf := 0, nan := 0, sqrt := id, root := fun _ x => x }

example : sortedX [3, 1, 2, (5 : ℚ)] (some [1, 1, 2, 4]) = [1, 2, 3, 5] := by decide +kernel

example : trimW TQ [3, 1, 2, 5] none 25 25 false = [0, 1, 1, 0] := by decide +kernel

example : trimW TQ [3, 1, 2, 5] (some [1, 1, 2, 4]) 25 25 true = [0, 3, 1, 4] := by decide +kernel

example : trimW TQ [3, 1, 2, 5] (some [1, 1, 2, 4]) 10 30 false = [1 / 5, 2, 1, 8 / 5] := by decide +kernel

example : (trimW TQ [3, 1, 2, 5] (some [1, 1, 2, 4]) 10 30 false).sum ≠ 0 := by decide +kernel

example : tmean TQ [3, 1, 2, 5] none 25 25 false = 5 / 2 ∧ tvariance CQ TQ [3, 1, 2, 5] none 25 25 false = 1 / 4 := by
  decide +kernel

example : tvariance CQ TQ [3, 1, 2, 5] (some [1, 1, 2, 4]) 10 30 false = 17 / 9 := by decide +kernel

/-
NOT PROVED:
  a closed form of `_k` for a general cut (retained mass `max 0 (min Wᵢ b - max Wᵢ₋₁ a)` of the sorted sample `i`):
                         the model `kTrim` is the code as written and is compared bit-exactly; the closed form is what the
                         harness monitor computes independently in exact rationals (harness/c18.py `tb_trim`);
  `connected`-level characterisation of `GroupOK` (acyclic pair selections give `GroupOK` groups);
  impose_mad for a NEGATIVE target (the code then reflects the samples; with ties the stable selection is not symmetric).
-/

end MysticVerif.C18
