/-
C18 - standardised moments, impose_moment, impose_product, normalize with an 'l<p>' mass (measures.py, modelled in
Model/MeasuresX.lean).
Same conventions as Props/C18.lean: `K` an arbitrary linearly ordered field, roots enter as parameters with the one
hypothesis that they are roots at the argument used.  The witnesses on ℚ come first.
-/
import MysticVerif.Proofs.MeasuresX
import Mathlib.Tactic.NormNum

-- some statements carry instance binders they do not use
set_option linter.unusedSectionVars false

namespace MysticVerif.C18
open MysticVerif.Meas

/-- rational constants for the witnesses: `sqrt = id`; `root 2 4 = 2`, the identity elsewhere -/
def CQX : Consts ℚ := { inf := 0, nan := 0, sqrt := id, root := fun n x => if n = 2 ∧ x = 4 then 2 else x }

/-- non-vacuity of `skewness_kurtosis_def`: weights (4, 1) on (-1/2, 2): mean 0, variance 1, third moment 3/2,
fourth 13/4 -/
example : skewness CQX [(-1 / 2 : ℚ), 2] (some [4, 1]) = 3 / 2 ∧ kurtosis CQX [(-1 / 2 : ℚ), 2] (some [4, 1]) = 13 / 4 := by
  decide +kernel

/-- non-vacuity of `impose_moment_spec`: order 2 without skew (variance 9/4 -> 9, root 2) and order 3 with the
default skew and a reflected target -/
example : imposeMoment CQX 9 [(0 : ℚ), 3] none 2 0 none = [-3 / 2, 9 / 2] ∧
    gmom (imposeMoment CQX 9 [(0 : ℚ), 3] none 2 0 none) none 2 = 9 := by decide +kernel
example : gmom (momentSamples none 3 [(0 : ℚ), 1, 1, 2]) none 3 = 3 ∧
    imposeMoment CQX (-3) [(0 : ℚ), 1, 1, 2] none 3 0 none = [5 / 2, 3 / 2, 3 / 2, -3 / 2] ∧
    gmom (imposeMoment CQX (-3) [(0 : ℚ), 1, 1, 2] none 3 0 none) none 3 = -3 ∧
    gmean (imposeMoment CQX (-3) [(0 : ℚ), 1, 1, 2] none 3 0 none) none = 1 := by decide +kernel

/-- **witness (C18-K1)**: `impose_product(-1, [1, 1])` is `[-1, -1]`, whose product is `1`, not `-1`. -/
theorem impose_product_even_sign_witness :
    imposeProduct CQX (-1) [(1 : ℚ), 1] false 1 = [-1, -1] ∧ (imposeProduct CQX (-1) [(1 : ℚ), 1] false 1).prod ≠ -1 := by
  decide +kernel

example : imposeProduct CQX 8 [(1 : ℚ), 2, 1 / 2] false 1 = [8, 16, 4] := by decide +kernel

example : normalizeL CQX [(1 : ℚ), -3, 0, 4] 1 false = [1 / 8, -3 / 8, 0, 1 / 2] := by decide +kernel

variable {K : Type} [Field K] [LinearOrder K] [IsStrictOrderedRing K]

/-- **standard_moment** (measures.py l.345): for order `n ≥ 3` the central moment of order `n` (cut to `0` when within
`tol`) divided by the `n`-th power of the standard deviation; `1` for order 2. -/
theorem standard_moment_def (C : Consts K) (xs : List K) (ws : Option (List K)) (n : Nat) (tol : K)
    (h : Valid xs ws) (hn : 3 ≤ n) :
    standardMoment C xs ws n tol =
      (if |gmom xs ws n| ≤ tol then 0 else gmom xs ws n) / (C.sqrt (gmom xs ws 2)) ^ n ∧
    standardMoment C xs ws 2 tol = 1 := by
  refine ⟨?_, if_pos rfl⟩
  unfold standardMoment std variance
  rw [if_neg (by omega), moment_tol_eq C xs ws n tol h (by omega), moment_eq C xs ws 2 h (le_refl _), powN_eq]

/-- **skewness / kurtosis** (l.387, l.399): with `σ² = variance` (the supplied square root being one at the variance),
skewness is `μ₃ / (σ² σ)` and kurtosis is `μ₄ / (σ²)²`. -/
theorem skewness_kurtosis_def (C : Consts K) (xs : List K) (ws : Option (List K)) (h : Valid xs ws)
    (hs : C.sqrt (gmom xs ws 2) * C.sqrt (gmom xs ws 2) = gmom xs ws 2) :
    skewness C xs ws = gmom xs ws 3 / (gmom xs ws 2 * C.sqrt (gmom xs ws 2)) ∧
    kurtosis C xs ws = gmom xs ws 4 / (gmom xs ws 2) ^ 2 := by
  unfold skewness kurtosis standardMoment std variance
  rw [if_neg (by decide), if_neg (by decide), moment_eq C xs ws 3 h (by decide), moment_eq C xs ws 4 h (by decide),
    moment_eq C xs ws 2 h le_rfl, powN_eq, powN_eq]
  constructor
  · rw [pow_succ, pow_two, hs]
  · rw [show (4 : ℕ) = 2 * 2 from rfl, pow_mul, pow_two (C.sqrt (gmom xs ws 2)), hs]

/-- **impose_moment** (l.486), orders 0 and 1 (l.506-515): nothing can be imposed; the samples come back when the
target is the only possible value (1 resp. 0), `nan`s otherwise. -/
theorem impose_moment_order01 (C : Consts K) (m : K) (xs : List K) (ws : Option (List K)) (tol : K)
    (skew : Option Bool) :
    imposeMoment C m xs ws 0 tol skew = (if m = 1 then xs else List.replicate xs.length C.nan) ∧
    imposeMoment C m xs ws 1 tol skew = (if m = 0 then xs else List.replicate xs.length C.nan) := by
  unfold imposeMoment nans
  rw [if_pos rfl, if_neg Nat.one_ne_zero, if_pos rfl]
  simp only [beq_iff_eq, truthy_iff, ne_eq, ite_not, and_self]

/-- **impose_moment** (l.486), order `n ≥ 2`, `samples' = samples` or their squares (`skew`, default: odd orders):
when the `n`-th central moment `sv` of `samples'` is non-zero and outside the `tol` cut, the target is reachable
(even order: `m ≥ 0` and `m / sv ≥ 0`) and the supplied `n`-th root is one at `|m / sv|`, the result has `n`-th central
moment `m` and the weighted mean OF THE ORIGINAL samples (for an odd order and `m / sv < 0` the samples are reflected
first, l.535-542). -/
theorem impose_moment_spec (C : Consts K) (m : K) (xs : List K) (ws : Option (List K)) (n : Nat) (tol : K)
    (skew : Option Bool) (h : Valid xs ws) (hn : 2 ≤ n)
    (hsv : gmom (momentSamples skew n xs) ws n ≠ 0)
    (htol : ¬ |gmom (momentSamples skew n xs) ws n| ≤ tol)
    (heven : n % 2 = 0 → 0 ≤ m ∧ 0 ≤ m / gmom (momentSamples skew n xs) ws n)
    (hroot : C.root n |m / gmom (momentSamples skew n xs) ws n| ^ n = |m / gmom (momentSamples skew n xs) ws n|) :
    gmom (imposeMoment C m xs ws n tol skew) ws n = m ∧
    gmean (imposeMoment C m xs ws n tol skew) ws = gmean xs ws := by
  have hys : Valid (momentSamples skew n xs) ws := by
    unfold momentSamples
    split_ifs
    · exact h.map _
    · exact h
  unfold imposeMoment
  -- order ≠ 0, ≠ 1; not (even order ∧ m < 0); the moment, outside the `tol` cut, is non-zero
  rw [if_neg (by omega), if_neg (by omega),
    if_neg (by rintro ⟨he, hm⟩; exact absurd (heven he).1 (not_le.mpr hm)),
    moment_tol_eq C _ ws n tol hys hn, if_neg htol, if_pos ((truthy_iff _).mpr hsv), absR_eq]
  obtain ⟨σ, zs, hzs, hσ, hz, hmz⟩ :=
    gmom_ite_flipSamples (momentSamples skew n xs) ws n _ hys fun he => (heven he).2
  have hv := hz.map (· * C.root n |m / gmom (momentSamples skew n xs) ws n|)
  -- scaling by `r = root |f|` gives `rⁿ·σ·sv = |f|·σ·sv = f·sv = m`; the final shift restores the mean
  unfold imposeMean
  rw [hzs, gmom_map_add_const _ ws _ n hv, gmean_map_add_const _ ws _ hv, mean_eq C _ ws hv]
  rw [gmom_map_mul_const, hroot, hmz, ← mul_assoc, mul_comm _ σ, hσ, div_mul_cancel₀ m hsv]
  exact ⟨rfl, (add_sub_cancel _ _).trans (mean_eq C xs ws h)⟩

/-- **impose_product** (l.1818): for a non-zero product `w` of the weights and a non-zero target, when the sign can be
reached (`w / mass < 0` only with an ODD number of weights) and the supplied root is an `n`-th root at `|w / mass|`,
the result has product `mass`. -/
theorem impose_product_spec (C : Consts K) (mass : K) (ws : List K) (zsum : Bool) (zmass : K)
    (hw : ws.prod ≠ 0) (hm : mass ≠ 0) (hsign : ws.prod / mass < 0 → ws.length % 2 = 1)
    (hroot : C.root ws.length |ws.prod / mass| ^ ws.length = |ws.prod / mass|) :
    (imposeProduct C mass ws zsum zmass).prod = mass := by
  rw [imposeProduct_prod C mass ws zsum zmass hw hm hroot]
  split
  · rename_i hneg
    rw [Odd.neg_one_pow (Nat.odd_iff.mpr (hsign hneg)), neg_neg, one_mul]
  · rfl

/-- **impose_product, the clause FAILS for an even number of weights and a target of the opposite sign** (`_partial`:
what holds instead): the result has product `-mass`. Full statement `(imposeProduct ..).prod = mass` is false there,
see `impose_product_even_sign_witness`. -/
theorem impose_product_even_sign_partial (C : Consts K) (mass : K) (ws : List K) (zsum : Bool) (zmass : K)
    (hw : ws.prod ≠ 0) (hm : mass ≠ 0) (hneg : ws.prod / mass < 0) (heven : ws.length % 2 = 0)
    (hroot : C.root ws.length |ws.prod / mass| ^ ws.length = |ws.prod / mass|) :
    (imposeProduct C mass ws zsum zmass).prod = -mass := by
  rw [imposeProduct_prod C mass ws zsum zmass hw hm hroot, if_pos hneg, Even.neg_one_pow (Nat.even_iff.mpr heven),
    neg_one_mul]

/-- **impose_product, target 0** (l.1838-1848): with or without the counterbalance the result has product `0`. -/
theorem impose_product_zero (C : Consts K) (ws : List K) (zsum : Bool) (zmass : K) (hw : ws.prod ≠ 0) (hne : ws ≠ []) :
    (imposeProduct C 0 ws zsum zmass).prod = 0 := by
  unfold imposeProduct
  rw [lprod_eq, if_pos ((truthy_iff _).mpr hw), if_neg ((truthy_false_iff _).mpr rfl)]
  cases zsum with
  | true =>
    rw [if_pos rfl, apply_ite List.prod, List.prod_append, List.prod_append, List.prod_singleton, mul_zero, mul_zero,
      ite_self]
  | false =>
    rw [if_neg Bool.false_ne_true]
    cases ws with
    | nil => exact absurd rfl hne
    | cons w t => rw [List.map_cons, List.prod_cons, mul_zero, zero_mul]

/-- **impose_product, target 0 with the counterbalance** (`zsum=True`, l.1841-1848): the last weight is zeroed and,
when the sign can be reached and the supplied root is an `(n-1)`-th root at `|w' / zmass|` (`w'` the product of the
other weights), the other weights are rescaled to the product `zmass`. -/
theorem impose_product_zsum_spec (C : Consts K) (hd : List K) (last zmass : K)
    (hw : (hd ++ [last]).prod ≠ 0) (hz : zmass ≠ 0)
    (hsign : hd.prod / zmass < 0 → hd.length % 2 = 1)
    (hroot : C.root hd.length |hd.prod / zmass| ^ hd.length = |hd.prod / zmass|) :
    ∃ hd', imposeProduct C 0 (hd ++ [last]) true zmass = hd' ++ [0] ∧ hd'.length = hd.length ∧ hd'.prod = zmass := by
  unfold imposeProduct
  rw [lprod_eq, if_pos ((truthy_iff _).mpr hw), if_neg ((truthy_false_iff _).mpr rfl), if_pos rfl]
  rw [List.prod_append, List.prod_singleton] at hw
  have hh : hd.prod ≠ 0 := left_ne_zero_of_mul hw
  simp only [List.getLastD_concat, List.dropLast_concat, List.length_append, List.length_singleton,
    Nat.add_sub_cancel, List.prod_append, List.prod_singleton, mul_div_cancel_right₀ _ (right_ne_zero_of_mul hw)]
  split
  · rename_i hpos
    exact ⟨_, rfl, List.length_map _, (prod_rescaled C hd zmass hh hz hroot).2 hpos⟩
  · rename_i hneg
    have hneg' : hd.prod / zmass < 0 := not_le.mp hneg
    refine ⟨_, rfl, List.length_map _, ?_⟩
    rw [(prod_rescaled C hd zmass hh hz hroot).1 hneg', Odd.neg_one_pow (Nat.odd_iff.mpr (hsign hneg')), neg_neg,
      one_mul]

private theorem lnorm_pow' (C : Consts K) (ws : List K) (q : Nat) (hq : 1 ≤ q)
    (hroot : C.root q (ws.map fun w => |w| ^ q).sum ^ q = (ws.map fun w => |w| ^ q).sum) :
    lnorm C ws q ^ q = (ws.map fun w => |w| ^ q).sum := by
  unfold lnorm
  rw [if_neg (by omega), lsum_eq]
  have e : (ws.map fun x => absR (powN x q)) = ws.map fun w => |w| ^ q := by
    apply List.map_congr_left; intro w _; rw [absR_eq, powN_eq, abs_pow]
  rw [e, hroot]

/-- **normalize(weights, 'l<p>')** (l.1341, l.1351-1353, l.1362-1363), `q = min(200, p) ≥ 1`: every weight is divided
by the L-q norm of the weights, and (for a non-negative q-th root that is one at `∑ |wᵢ|^q`) the L-q norm of the result
is 1: `∑ |wᵢ'|^q = 1`. -/
theorem normalize_lp_spec (C : Consts K) (ws : List K) (p : Nat) (zsum : Bool) (hq : 1 ≤ min 200 p)
    (hW : lnorm C ws (min 200 p) ≠ 0) (hnn : 0 ≤ lnorm C ws (min 200 p))
    (hroot : C.root (min 200 p) (ws.map fun w => |w| ^ (min 200 p)).sum ^ (min 200 p) =
      (ws.map fun w => |w| ^ (min 200 p)).sum) :
    normalizeL C ws p zsum = ws.map (· / lnorm C ws (min 200 p)) ∧
    ((normalizeL C ws p zsum).map fun w => |w| ^ (min 200 p)).sum = 1 := by
  have e1 : normalizeL C ws p zsum = ws.map (· / lnorm C ws (min 200 p)) := by
    unfold normalizeL
    simp only
    rw [if_pos ((truthy_iff _).mpr hW)]
  refine ⟨e1, ?_⟩
  rw [e1, sum_abs_pow_div ws _ _ hnn, ← lnorm_pow' C ws _ hq hroot]
  exact div_self (pow_ne_zero _ hW)

end MysticVerif.C18
