/-
C17 - combinators claim success only at a fixed point; couplers compose as documented.
Property theorems only (helper lemmas live in Proofs/CombinatorsX.lean).

`c i x = some y` : member `i` maps `x` to `y`;  `none` : it raised `ZeroDivisionError`.
All statements hold for EVERY draw stream `draws` and every replacement function `rand`/`pick`.
-/
import MysticVerif.Props.C17.Ext
import MysticVerif.Props.C17.Pen
import MysticVerif.Props.C17.Cpl
import MysticVerif.Props.C17.Seq
import Mathlib.Algebra.Order.Ring.Abs
import Mathlib.Algebra.Order.BigOperators.Group.List

namespace MysticVerif.C17
open MysticVerif.Comb

variable {X D : Type}

/-- **and_ / links.** On success, each of the newest `min links (n-1)` history links is a member that
leaves the returned vector unchanged: member `(t - m) % n` for `m < links`, `m + 1 < n`.
(`links` is the ghost count of genuine member applications since the last random replacement that
changed a value; it is `≥ n` on every run without such a replacement inside the window.) -/
theorem and_success_links [BEq X] [LawfulBEq X] (c : Nat → X → Option X) (rand : D → X → X)
    (n cap : Nat) (x : X) (draws : List D) (y : X) (t links : Nat) (st : Stats)
    (hr : and_ c rand n cap x draws = (.success y t links, st)) :
    ∀ m, m < links → m + 1 < n → c ((t - m) % n) y = some y := by
  intro m hm hmn
  have hx := CombX.and_ofOpt_success hr
  exact CombX.ofOpt_eq_ret.mp (C17X.and_success_links _ rand n cap x draws y t links st hx m hm hmn)

/-- **and_ / all but one.** With an intact window (`n - 1 ≤ links`) every member except possibly
member `(t + 1) % n` - the one whose *output* the window ends with - leaves the result unchanged. -/
theorem and_success_fixed_all_but_one [BEq X] [LawfulBEq X] (c : Nat → X → Option X) (rand : D → X → X)
    (n cap : Nat) (x : X) (draws : List D) (y : X) (t links : Nat) (st : Stats)
    (hr : and_ c rand n cap x draws = (.success y t links, st)) (hlinks : n - 1 ≤ links) :
    ∀ i, i < n → i ≠ (t + 1) % n → c i y = some y := by
  intro i hi hne
  have hx := CombX.and_ofOpt_success hr
  exact CombX.ofOpt_eq_ret.mp
    (C17X.and_success_fixed_all_but_one _ rand n cap x draws y t links st hx hlinks i hi hne)

/-- a member is idempotent where it is defined -/
def Idem (f : X → Option X) : Prop := ∀ a b, f a = some b → f b = some b

/-- **and_ / fixed point.** With idempotent members and an intact window (`n ≤ links`), a success of
`and_` returns a vector left unchanged by EVERY member. -/
theorem and_success_fixed [BEq X] [LawfulBEq X] (c : Nat → X → Option X) (rand : D → X → X)
    (n cap : Nat) (x : X) (draws : List D) (y : X) (t links : Nat) (st : Stats)
    (hidem : ∀ i, i < n → Idem (c i))
    (hr : and_ c rand n cap x draws = (.success y t links, st)) (hlinks : n ≤ links) :
    ∀ i, i < n → c i y = some y := by
  intro i hi
  have hx := CombX.and_ofOpt_success hr
  have hidemX : ∀ i, i < n → C17X.Idem (fun x => CombX.ofOpt (c i x)) := fun i hi a b hab =>
    CombX.ofOpt_eq_ret.mpr (hidem i hi a b (CombX.ofOpt_eq_ret.mp hab))
  exact CombX.ofOpt_eq_ret.mp (C17X.and_success_fixed _ rand n cap x draws y t links st hidemX hx hlinks i hi)

/-- `and_` makes at most `max n cap` member calls (`cap = maxiter * n`), for every draw stream -/
theorem and_calls_bounded [BEq X] (c : Nat → X → Option X) (rand : D → X → X)
    (n cap : Nat) (x : X) (draws : List D) : (and_ c rand n cap x draws).2.calls ≤ max n cap := by
  have hx := C17X.and_calls_bounded (CombX.detc (fun i x => CombX.ofOpt (c i x)) n) rand n cap x draws
  rwa [CombX.and_ofOpt] at hx

/-! ### the two ways the full claim fails on the code as it is (known findings F7 / F7b) -/

/-- F7: one non-idempotent member (`x ↦ x+1 while x < 2`): `and_(c)([0])` succeeds with `1`, which `c` moves. -/
def witC : Nat → Nat → Option Nat := fun _ x => if x < 2 then some (x + 1) else some x
theorem and_not_fixed_witness :
    (and_ witC (fun (d : Nat) _ => d) 1 100 0 []).1 = .success 1 0 1 ∧ witC 0 1 ≠ some 1 := by
  decide

/-- F7b: three idempotent, conflicting members (identity, clamp to [1,3], clamp to [-4,0]) on `0`, two random
replacements that happen to produce `0` again: `and_` succeeds with `0`, which member 1 moves to `1`. -/
def witC3 : Nat → Int → Option Int := fun i x =>
  if i = 0 then some x else if i = 1 then some (max 1 (min 3 x)) else some (max (-4) (min 0 x))
theorem and_collision_witness :
    (and_ witC3 (fun (d : Int) _ => d) 3 9 0 [0, 0]).1 = .success 0 5 1 ∧ witC3 1 0 ≠ some 0
      ∧ (∀ i a b, witC3 i a = some b → witC3 i b = some b) := by
  refine ⟨by decide, by decide, ?_⟩
  intro i a b h
  unfold witC3 at h ⊢
  by_cases h0 : i = 0
  · rw [if_pos h0]
  · rw [if_neg h0] at h ⊢
    by_cases h1 : i = 1
    · rw [if_pos h1] at h ⊢; cases h; rw [CombX.clamp_idem (by decide)]
    · rw [if_neg h1] at h ⊢; cases h; rw [CombX.clamp_idem (by decide)]

/-- **or_.** A success of `or_` returns a vector left unchanged by at least one member. -/
theorem or_success_fixed [BEq X] [LawfulBEq X] (c : Nat → X → Option X) (pick : D → Nat)
    (n cap : Nat) (x : X) (draws : List D) (y : X) (t links : Nat) (st : Stats)
    (hcap : n = 0 → cap = 0)      -- the code's cap is `maxiter * n`
    (hr : or_ c pick n cap x draws = (.success y t links, st)) : ∃ i, i < n ∧ c i y = some y := by
  have hx := CombX.or_ofOpt_success hr
  obtain ⟨i, hi, hc⟩ := C17X.or_success_fixed _ pick n cap x draws y t links st hcap hx
  exact ⟨i, hi, CombX.ofOpt_eq_ret.mp hc⟩

/-- **not_.** A success of `not_(c)` returns a vector that `c` changes. -/
theorem not_success_moved [BEq X] [LawfulBEq X] (c : X → Option X) (rand : D → X → X)
    (maxiter : Nat) (x : X) (draws : List D) (y : X) (t links : Nat) (st : Stats)
    (hr : not_ c rand maxiter x draws = (.success y t links, st)) : ∃ z, c y = some z ∧ z ≠ y := by
  obtain ⟨t', hx⟩ := CombX.not_ofOpt_success hr
  obtain ⟨z, hz, hne⟩ := C17X.not_success_moved _ rand maxiter x draws y t' links st hx
  exact ⟨z, CombX.ofOpt_eq_ret.mp hz, hne⟩

/-- `not_` makes at most `maxiter` member calls, for every draw stream -/
theorem not_calls_bounded [BEq X] (c : X → Option X) (rand : D → X → X)
    (maxiter : Nat) (x : X) (draws : List D) : (not_ c rand maxiter x draws).2.calls ≤ maxiter := by
  have hx := (C17X.not_calls_bounded (fun _ x => CombX.ofOpt (c x)) rand maxiter x draws).1
  -- same calls in both models (`not_ofOpt`); only the reported step index differs
  rwa [show (CombX.not_ (fun _ x => CombX.ofOpt (c x)) rand maxiter x draws).2 = (not_ c rand maxiter x draws).2
    from congrArg Prod.snd (CombX.not_ofOpt c rand maxiter x draws)] at hx

/-! `coupler.inner / outer / additive` without argument bundles (with them: Props/C17/Cpl.lean) -/

theorem inner_spec {A B C : Type} (c : A → B) (f : B → C) (x : A) : inner c f x = f (c x) := rfl
theorem outer_spec {A B C : Type} (c : B → C) (f : A → B) (x : A) : outer c f x = c (f x) := rfl
theorem additive_spec {A R : Type} [Add R] (p : A → R) (f : A → R) (x : A) : additive p f x = f x + p x := rfl

/-! ## penalty combinators (coupler.and_/or_/not_ with the default linear scaling)

`coupler.and_(p1..pn)` is `k * |Σ p_i x|`, `or_` is `k * |min_i p_i x|`;  `not_(p)` re-wraps `0 - cond`
(inequality types) or `not cond` (equality types) in the member's penalty type, whose term is characterised
by C15 as: zero iff satisfied, positive otherwise. -/

section pen
variable {K : Type} [Field K] [LinearOrder K] [IsStrictOrderedRing K]

def penAnd (k : K) (ps : List K) : K := k * |ps.sum|
def penOr (k : K) (p : K) (ps : List K) : K := k * |ps.foldl min p|

/-- the combined penalty `and_` is zero exactly where all member penalties are zero -/
theorem pen_and_zero (k : K) (hk : 0 < k) (ps : List K) (hnn : ∀ p ∈ ps, 0 ≤ p) :
    penAnd k ps = 0 ↔ ∀ p ∈ ps, p = 0 := by
  unfold penAnd
  rw [mul_eq_zero, or_iff_right (ne_of_gt hk), abs_eq_zero]
  exact ⟨fun h0 _ hp => List.all_zero_of_le_zero_le_of_sum_eq_zero hnn h0 hp, List.sum_eq_zero⟩

/-- the combined penalty `or_` is zero exactly where at least one member penalty is zero -/
theorem pen_or_zero (k : K) (hk : 0 < k) (p : K) (ps : List K) (hp : 0 ≤ p) (hnn : ∀ q ∈ ps, 0 ≤ q) :
    penOr k p ps = 0 ↔ ∃ q ∈ p :: ps, q = 0 := by
  unfold penOr
  rw [mul_eq_zero, or_iff_right (ne_of_gt hk), abs_eq_zero, ← C15.orCond_eq_foldl_min,
    (C15.orCond_zero_iff ps p hp hnn).2, List.exists_mem_cons_iff]

/-- `not_` over an inequality-type member penalises exactly the interior `cond x < 0` of the accepted region -/
theorem pen_not_interior_ineq (term : K → K) (hterm : ∀ v, (term v = 0 ↔ v ≤ 0) ∧ 0 ≤ term v) (cond : K) :
    0 < term (0 - cond) ↔ cond < 0 := by
  obtain ⟨h1, h2⟩ := hterm (0 - cond)
  rw [h2.lt_iff_ne', Ne, h1, sub_nonpos, not_le]

/-- `not_` over an equality-type member (`not cond x`, i.e. 1 iff `cond x = 0`) penalises exactly `cond x = 0` -/
theorem pen_not_interior_eq (term : K → K) (hterm : ∀ v, (term v = 0 ↔ v = 0)) (cond : K) :
    term (if cond = 0 then 1 else 0) ≠ 0 ↔ cond = 0 := by
  by_cases h : cond = 0
  · simp [h, hterm]
  · simp [h, hterm]

end pen

/-! ## non-vacuity: the hypotheses are met by concrete, non-trivial runs -/

/-- a cycling run (two clamps to [1,3] and [2,5] on `0`): success after the first pass failed, links intact,
    both members idempotent and both fix the result -/
def exC : Nat → Int → Option Int := fun i x => if i = 0 then some (max 1 (min 3 x)) else some (max 2 (min 5 x))
example : (and_ exC (fun (d : Int) _ => d) 2 20 0 []).1 = .success 2 2 3 ∧ exC 0 2 = some 2 ∧ exC 1 2 = some 2 := by
  decide

example : (or_ (fun (i : Nat) (x : Int) => if i = 0 then some (x + 1) else some (max 0 x)) (fun (d : Nat) => d)
    2 10 (-3) [1, 1, 1, 1]).1 = .success 0 3 1 := by decide

example : (not_ (fun (x : Int) => some (max 0 x)) (fun (d : Int) _ => d) 5 3 [7, -2]).1 = .success (-2) 0 0 := by
  decide

end MysticVerif.C17
