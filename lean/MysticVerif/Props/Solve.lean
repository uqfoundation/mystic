/-
The closed loop `Solve()` (Model/ClosedLoop.lean): control loop + algorithm step + termination condition, all three
evaluated by the model.  These theorems lift what C01-C05 prove about arbitrary numbers of iterations to WHEREVER a
real run stops: for every termination condition (any And/Or/When tree of the built-in conditions), every limit
setting, every objective and every stream of trial vectors.
-/
import MysticVerif.Proofs.ClosedLoop
import MysticVerif.Proofs.ClosedLoopAlgs
import MysticVerif.Props.C01
import MysticVerif.Props.Reconfig
import MysticVerif.Props.C01Ensemble
import MysticVerif.Props.C05
import MysticVerif.Props.C04
import MysticVerif.Props.C04Brent

namespace MysticVerif.SolveProps
open MysticVerif.Solver MysticVerif.Closed

variable {S : Type}

/-- **C05, Solve always returns**: with a numeric generation limit `g` installed, `_Solve` gets a stop message within
`g - generations + 1` calls of `Step`, for EVERY algorithm step and EVERY termination condition -/
theorem solve_always_returns (a : Alg S) (g j : Nat) (c : Ctl) (s : S) (k n : Nat)
    (hlim : c.maxiter = .val g) (hp : c.powell = false) (hn : c.nstep ≠ 0) (hg : g ≤ c.gens + j) :
    (solve a (j + 1) c s k n).msg.isSome = true :=
  Closed.solve_returns a g j c s k n hlim hp hn hg

/-- **C05, the stop message of `Solve` is true of the state it leaves**, for every algorithm and condition -/
theorem solve_message_truthful (a : Alg S) (fuel : Nat) (c : Ctl) (s : S) (k n : Nat) (m : Msg)
    (h : (solve a fuel c s k n).msg = some m) :
    (m = .lim → (solve a fuel c s k n).ctl.maxfun.reached (solve a fuel c s k n).ctl.evals = true ∨
                (solve a fuel c s k n).ctl.maxiter.reached (solve a fuel c s k n).ctl.gens = true) ∧
    (m = .sig → (solve a fuel c s k n).ctl.earlyExit = true) :=
  Closed.solve_msg_truthful a fuel c s k n m h

/-- **`Solve` only iterates**: the state it leaves is the algorithm's open loop run for exactly `iters` iterations -/
theorem solve_state_is_open_loop (a : Alg S) (fuel : Nat) (c : Ctl) (s : S) :
    (solve a fuel c s 0 0).st = iterate a (solve a fuel c s 0 0).iters s 0 := by
  obtain ⟨m, hi, e⟩ := Closed.solve_is_iterate a fuel c s 0 0
  rw [e, hi, Nat.zero_add]


/-- **C04, the evaluation counter IS the number of calls made to the user's cost**: for every algorithm whose step
only appends to its evaluation log, after `Solve` the counter has grown by exactly the number of records appended -/
theorem solve_evaluations_are_the_log (a : Alg S) (hmono : ∀ s k, a.nlog s ≤ a.nlog (a.step s k))
    (fuel : Nat) (c : Ctl) (s : S) :
    (solve a fuel c s 0 0).ctl.evals + a.nlog s = c.evals + a.nlog (solve a fuel c s 0 0).st :=
  Closed.solve_evals_eq_log a hmono fuel c s 0 0

section DE
variable {R : Type} [Add R] [Sub R] [Mul R] [Div R] [Neg R] [LinearOrder R] [BEq R] [OfNat R 0] [OfNat R 2]

/-- **C01/C02/C03 wherever a differential-evolution `Solve` stops** (DE1 and DE2; any termination condition tree,
limits, strategy / random draws): a finite reported best energy is cost + penalty at the reported best solution, which
was passed to the user's cost, is left unchanged by the constraints and lies in the box; every logged evaluation is a
constrained in-box point logged with the user's cost; the best-energy history is non-increasing. -/
theorem solve_de_inv (two : Bool) (o : Obj (List R) R) (h : Hyp o) (cond : Term.Cond R) (pop0 : List (List R))
    (x0 : List R) (trialss : List (List (List R))) (fuel : Nat) (c : Ctl) :
    DEInv o (solve (deAlg two o cond pop0 trialss) fuel c (DE.init o pop0 x0) 0 0).st := by
  refine Closed.solve_st_mem _ (DEInv o) fuel c _ fun m _ => ?_
  obtain ⟨tss, hr⟩ := Closed.iterate_deAlg two o cond pop0 trialss m (DE.init o pop0 x0) 0
  rw [hr, Closed.run_eq_run1]
  exact DE.run1_inv h tss _ (DE.init_inv pop0 x0)

theorem solve_de_best (two : Bool) (o : Obj (List R) R) (h : Hyp o) (cond : Term.Cond R) (pop0 : List (List R))
    (x0 : List R) (trialss : List (List (List R))) (fuel : Nat) (c : Ctl)
    (hfin : (solve (deAlg two o cond pop0 trialss) fuel c (DE.init o pop0 x0) 0 0).st.bestE ≠ o.top) :
    let s := (solve (deAlg two o cond pop0 trialss) fuel c (DE.init o pop0 x0) 0 0).st
    s.bestE = o.add (o.raw s.best) (o.pen s.best) ∧ (s.best, o.raw s.best) ∈ s.log ∧ o.K s.best = s.best ∧
      (o.useRange = true → o.inBox s.best = true) :=
  (solve_de_inv two o h cond pop0 x0 trialss fuel c).best hfin

theorem deAlg_nlog_mono (two : Bool) (o : Obj (List R) R) (cond : Term.Cond R) (pop0 : List (List R))
    (trialss : List (List (List R))) (s : DE (List R) R) (k : Nat) :
    (deAlg two o cond pop0 trialss).nlog s ≤ (deAlg two o cond pop0 trialss).nlog ((deAlg two o cond pop0 trialss).step s k) := by
  have key : ∀ ts, s.log.length ≤ (DE.step1 o ts s).log.length :=
    fun ts => (DE.step1_appended o ts s).isPrefix.length_le
  show s.log.length ≤ (if two = true then DE.step2 o _ s else DE.step1 o _ s).log.length
  cases two
  · exact key _
  · rw [if_pos rfl, DE.step2_eq_step1]; exact key _

/-- **differential evolution (1 and 2), whole `Solve()` runs**: `evaluations` = number of records in the evaluation
monitor = number of calls made to the user's cost, whatever the termination condition, limits and trial vectors -/
theorem solve_de_evaluations (two : Bool) (o : Obj (List R) R) (cond : Term.Cond R) (pop0 : List (List R))
    (x0 : List R) (trialss : List (List (List R))) (fuel : Nat) (c : Ctl) (hc : c.evals = 0) :
    (solve (deAlg two o cond pop0 trialss) fuel c (DE.init o pop0 x0) 0 0).ctl.evals
      = (solve (deAlg two o cond pop0 trialss) fuel c (DE.init o pop0 x0) 0 0).st.log.length := by
  have h : _ + 0 = c.evals + _ := solve_evaluations_are_the_log _
    (deAlg_nlog_mono two o cond pop0 trialss) fuel c (DE.init o pop0 x0)
  rw [hc, Nat.zero_add] at h
  exact h

end DE


section NMPW
variable {R : Type} [Add R] [Sub R] [Mul R] [Div R] [Neg R] [LinearOrder R] [BEq R] [OfNat R 0] [OfNat R 2]
open MysticVerif.PowellS

/-- **C01-C04 wherever a Nelder-Mead `Solve` stops** (any termination condition tree, limits, coefficients, pure or
in-place constraints `st`): as soon as one `_Step` ran, every stored vertex with a finite energy carries the objective
at its constrained image, which was passed to the user's cost; every logged evaluation is a constrained in-box point
logged with the user's cost; the simplex is sorted, the history non-increasing and its last entry is the best. -/
theorem solve_nm_inv (o : Obj (Pt R) R) (h : Hyp o) (coef : Coef R) (st clip0 mkVal : Pt R → Pt R)
    (hst : ∀ x, o.K (st x) = o.K x) (hclip : ∀ x, (o.useRange = true → o.inBox x = true) → clip0 x = x)
    (cond : Term.Cond R) (x0 : Pt R) (fuel : Nat) (c : Ctl) (s0 : NM R R)
    (hran : 1 ≤ (solve (nmAlg o coef st clip0 mkVal cond x0) fuel c s0 0 0).iters) :
    NMInv o (solve (nmAlg o coef st clip0 mkVal cond x0) fuel c s0 0 0).st := by
  refine Closed.solve_st_mem _ (NMInv o) fuel c s0 fun m hm => ?_
  rw [hm] at hran
  exact Closed.iterate_three_phase_mem _ (NM.gen0 o 0 (clip0 x0)) (NM.gen1 o clip0 mkVal) _ (fun _ => rfl) (fun _ => rfl)
    (Closed.nmAlg_step_ge_two o coef st clip0 mkVal cond x0) (NMInv o) (NM.gen0_inv h 0 _)
    (NM.gen1_gen0_inv h 0 _ clip0 mkVal hclip) (fun s hs => NM.update_inv h coef st hst s hs) m s0 hran

/-- **Nelder-Mead `Solve`: member clause, history clause** read off the invariant -/
theorem solve_nm_members (o : Obj (Pt R) R) (h : Hyp o) (coef : Coef R) (st clip0 mkVal : Pt R → Pt R)
    (hst : ∀ x, o.K (st x) = o.K x) (hclip : ∀ x, (o.useRange = true → o.inBox x = true) → clip0 x = x)
    (cond : Term.Cond R) (x0 : Pt R) (fuel : Nat) (c : Ctl) (s0 : NM R R)
    (hran : 1 ≤ (solve (nmAlg o coef st clip0 mkVal cond x0) fuel c s0 0 0).iters) :
    let s := (solve (nmAlg o coef st clip0 mkVal cond x0) fuel c s0 0 0).st
    (∀ p ∈ s.simplex, p.2 ≠ o.top → p.2 = o.energy (o.K p.1) ∧ (o.K p.1, o.raw (o.K p.1)) ∈ s.log) ∧
    (∀ p ∈ s.log, p.2 = o.raw p.1 ∧ o.K p.1 = p.1 ∧ (o.useRange = true → o.inBox p.1 = true)) ∧
    (s.stepLog.map Prod.snd).Pairwise (· ≥ ·) ∧ s.stepLog.getLast? = s.simplex.head? := by
  intro s
  have hi := solve_nm_inv o h coef st clip0 mkVal hst hclip cond x0 fuel c s0 hran
  refine ⟨?_, hi.logOK, hi.hist, hi.lastIsBest⟩
  intro p hp hne
  have := hi.good p hp hne
  exact ⟨this.1, this.2.1⟩

/-- **C01-C03 wherever a Powell `Solve` stops** (any termination condition tree, limits, line-search oracle): as soon
as one `_Step` ran, a finite best energy is cost + penalty at the reported best solution, which was passed to the
user's cost, is left unchanged by the constraints and lies in the box; every logged evaluation is a constrained in-box
point logged with the user's cost. -/
theorem solve_pw_inv (o : Obj (Pt R) R) (h : Hyp o) (cfg : PwCfg R R) (ls : Nat → Pt R → Pt R → LsRec R)
    (cond : Term.Cond R) (record : Bool) (x0 : Pt R) (direc : List (Pt R)) (hd : direc ≠ []) (fuel : Nat) (c : Ctl)
    (s0 : Pw R R) (hran : 1 ≤ (solve (pwAlg o cfg ls cond record x0 direc) fuel c s0 0 0).iters) :
    PwInv o (solve (pwAlg o cfg ls cond record x0 direc) fuel c s0 0 0).st := by
  refine Closed.solve_st_mem _ (PwInv o) fuel c s0 fun m hm => ?_
  rw [hm] at hran
  exact Closed.iterate_three_phase_mem _ (gen0 o cfg record x0 direc) (gen1 o cfg ls) _ (fun _ => rfl) (fun _ => rfl)
    (Closed.pwAlg_step_ge_two o cfg ls cond record x0 direc) (PwInv o) (gen0_inv h cfg record x0 direc hd)
    (gen1_inv h cfg ls _ (gen0_inv h cfg record x0 direc hd).toPwInvK) (fun s hs => genN_inv h cfg ls s hs.toPwInvK)
    m s0 hran

theorem solve_pw_best (o : Obj (Pt R) R) (h : Hyp o) (cfg : PwCfg R R) (ls : Nat → Pt R → Pt R → LsRec R)
    (cond : Term.Cond R) (record : Bool) (x0 : Pt R) (direc : List (Pt R)) (hd : direc ≠ []) (fuel : Nat) (c : Ctl)
    (s0 : Pw R R) (hran : 1 ≤ (solve (pwAlg o cfg ls cond record x0 direc) fuel c s0 0 0).iters)
    (hfin : (solve (pwAlg o cfg ls cond record x0 direc) fuel c s0 0 0).st.fval ≠ o.top) :
    let s := (solve (pwAlg o cfg ls cond record x0 direc) fuel c s0 0 0).st
    s.fval = o.add (o.raw s.x) (o.pen s.x) ∧ (s.x, o.raw s.x) ∈ s.log ∧ o.K s.x = s.x ∧
      (o.useRange = true → o.inBox s.x = true) :=
  (solve_pw_inv o h cfg ls cond record x0 direc hd fuel c s0 hran).best hfin

/-- **C04 wherever a Powell `Solve` stops**: with a line search that never returns a worse point than its start
(`LsMono`; discharged for the modelled Brent search in Props/C04Brent.lean) the best-energy history is non-increasing
and bounded below by the reported best energy -/
theorem solve_pw_history (o : Obj (Pt R) R) (h : Hyp o) (cfg : PwCfg R R) (ls : Nat → Pt R → Pt R → LsRec R)
    (hm : LsMono o ls) (cond : Term.Cond R) (record : Bool) (x0 : Pt R) (direc : List (Pt R)) (hd : direc ≠ [])
    (fuel : Nat) (c : Ctl) (s0 : Pw R R)
    (hran : 1 ≤ (solve (pwAlg o cfg ls cond record x0 direc) fuel c s0 0 0).iters) :
    let s := (solve (pwAlg o cfg ls cond record x0 direc) fuel c s0 0 0).st
    s.hist.Pairwise (· ≥ ·) ∧ ∀ e ∈ s.hist, s.fval ≤ e := by
  intro s
  have h0 := gen0_inv h cfg record x0 direc hd
  have hh0 := (gen0_hist o cfg record x0 direc).1
  -- the boundary invariant and the history invariant are carried together along the open loop
  have key : PwInv o s ∧ HistInv s := by
    refine Closed.solve_st_mem _ (fun s => PwInv o s ∧ HistInv s) fuel c s0 fun m hiters => ?_
    rw [hiters] at hran
    exact Closed.iterate_three_phase_mem _ (gen0 o cfg record x0 direc) (gen1 o cfg ls) _ (fun _ => rfl) (fun _ => rfl)
      (Closed.pwAlg_step_ge_two o cfg ls cond record x0 direc) (fun s => PwInv o s ∧ HistInv s) ⟨h0, hh0⟩
      ⟨gen1_inv h cfg ls _ h0.toPwInvK, sweep_hist h cfg ls hm _ (h0.toPwInvK.withInternals _ _ _ _ _) ⟨hh0.anti, hh0.le⟩⟩
      (fun s hs => ⟨genN_inv h cfg ls s hs.1.toPwInvK, genN_hist h cfg ls hm s hs.1.toPwInvK hs.2⟩) m s0 hran
  exact ⟨key.2.anti, key.2.le⟩

/-- Powell `Solve()` runs whose step only appends to the evaluation monitor (`hmono`): `evaluations` grows by exactly
the number of records appended (= calls made to the user's cost) -/
theorem solve_pw_evaluations (o : Obj (Pt R) R) (cfg : PwCfg R R) (ls : Nat → Pt R → Pt R → LsRec R)
    (cond : Term.Cond R) (record : Bool) (x0 : Pt R) (direc : List (Pt R)) (fuel : Nat) (c : Ctl) (s0 : Pw R R)
    (hmono : ∀ s k, (pwAlg o cfg ls cond record x0 direc).nlog s ≤
      (pwAlg o cfg ls cond record x0 direc).nlog ((pwAlg o cfg ls cond record x0 direc).step s k)) :
    (solve (pwAlg o cfg ls cond record x0 direc) fuel c s0 0 0).ctl.evals + s0.log.length
      = c.evals + (solve (pwAlg o cfg ls cond record x0 direc) fuel c s0 0 0).st.log.length :=
  solve_evaluations_are_the_log _ hmono fuel c s0

end NMPW

/-! non-vacuity: a closed-loop run of a toy algorithm that is stopped by its generation limit -/

/-- toy algorithm: the state is a counter, each iteration logs 2 evaluations, the condition never holds -/
def toyAlg : Alg Nat := { step := fun s _ => s + 1, nlog := fun s => 2 * s, nrec := fun s => s, term := fun _ _ => false }

example : (solve toyAlg 10 { maxiter := .val 3, maxfun := .val 100 } 0 0 0).iters = 4 ∧
    (solve toyAlg 10 { maxiter := .val 3, maxfun := .val 100 } 0 0 0).steps = 4 ∧
    (solve toyAlg 10 { maxiter := .val 3, maxfun := .val 100 } 0 0 0).msg = some .lim ∧
    (solve toyAlg 10 { maxiter := .val 3, maxfun := .val 100 } 0 0 0).ctl.gens = 3 ∧
    (solve toyAlg 10 { maxiter := .val 3, maxfun := .val 100 } 0 0 0).ctl.evals = 8 := by decide

/-- non-vacuity of the Powell statements: a concrete closed-loop run (cost `x^2`, constraints `x ↦ max x 1`, scripted
line searches, condition `VTR(0,0)`, generation limit 2) performs 4 `_Step`s, stops with a message and reports 1 -/
example :
    let out := solve (pwAlg C01.pwObj C01.pwCfg C01.pwLs (.prim 0 0 (.vtr 0 0)) true [5] [[-1]]) 10
      { maxiter := .val 2, maxfun := .val 100, powell := true } (PowellS.gen0 C01.pwObj C01.pwCfg true [5] [[-1]]) 0 0
    out.iters = 4 ∧ out.st.fval = 1 ∧ out.msg.isSome = true := by decide

end MysticVerif.SolveProps
