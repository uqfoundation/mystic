/-
C03 - hard constraints hold at every evaluation and for the reported result.

`o.K` is the constraints as the solver applies them before an evaluation: the user's constraints, or under
strict ranges `and_(constraints, bounds, onfail=bounds)`.  `K_common_fixpoint` (from C17) is what makes `K`
land on a point left unchanged by BOTH members when the user's constraints are idempotent.
-/
import MysticVerif.Proofs.Solver
import MysticVerif.Proofs.NelderMead
import MysticVerif.Proofs.PowellS
import MysticVerif.Props.C17
import MysticVerif.Props.C01

namespace MysticVerif.C03
open MysticVerif.Solver

variable {X E R : Type}

/-- **DE / DE2**: every point at which the user's cost is evaluated is left unchanged by the constraints -/
theorem de_evaluations_constrained [LinearOrder E] (o : Obj X E) (h : Hyp o) (pop : List X) (x0 : X)
    (trialss : List (List X)) : ∀ p ∈ (DE.run1 o trialss (DE.init o pop x0)).log, o.K p.1 = p.1 := by
  intro p hp
  exact ((DE.run1_inv h trialss _ (DE.init_inv pop x0)).logOK p hp).2.1

/-- **DE / DE2**: the reported solution satisfies the constraints and its reported energy is the energy of that
constrained point (wherever the run is stopped: `trialss` is any prefix of any run) -/
theorem de_reported_constrained [LinearOrder E] (o : Obj X E) (h : Hyp o) (pop : List X) (x0 : X)
    (trialss : List (List X)) (hfin : (DE.run1 o trialss (DE.init o pop x0)).bestE ≠ o.top) :
    let s := DE.run1 o trialss (DE.init o pop x0)
    o.K s.best = s.best ∧ s.bestE = o.add (o.raw s.best) (o.pen s.best) :=
  let g := (DE.run1_inv h trialss _ (DE.init_inv pop x0)).best hfin
  ⟨g.2.2.1, g.1⟩

/-- **Nelder-Mead**: every evaluated point satisfies the constraints, for pure and in-place constraints functions -/
theorem nm_evaluations_constrained [Add R] [Sub R] [Mul R] [Div R] [LinearOrder E] (o : Obj (Pt R) E) (h : Hyp o)
    (c : Coef R) (st : Pt R → Pt R) (hst : ∀ x, o.K (st x) = o.K x) (s : NM R E) (hs : NMInv o s) :
    ∀ p ∈ (NM.update o c st s).1.log, o.K p.1 = p.1 := by
  intro p hp
  exact ((NM.update_inv h c st hst s hs).logOK p hp).2.1

/-- **Nelder-Mead, reported solution (partial)**: the reported energy is the energy of the CONSTRAINED vertex
`K best`, which was evaluated.  That `best` itself satisfies the constraints is false of the code whenever `K`
moves it (known finding F3, witness `C01.nm_best_not_evaluated_witness`). -/
theorem nm_reported_constrained_partial [LinearOrder E] (o : Obj (Pt R) E) (s : NM R E) (hs : NMInv o s)
    (x : Pt R) (e : E) (tl : List (Pt R × E)) (hsx : s.simplex = (x, e) :: tl) (hne : e ≠ o.top) :
    e = o.energy (o.K x) ∧ (o.K x, o.raw (o.K x)) ∈ s.log := by
  have hg := hs.good (x, e) (by rw [hsx]; simp) hne
  exact ⟨hg.1, hg.2.1⟩

/-- **the coupling of constraints and bounds**: when `and_(cons, bnd)` reports success with an intact history
window and both members are idempotent, the returned point is left unchanged by the constraints AND by the
bounds (this is C17.and_success_fixed at n = 2). -/
theorem K_common_fixpoint {D : Type} [BEq X] [LawfulBEq X] (cons bnd : X → X)
    (hc : ∀ x, cons (cons x) = cons x) (hb : ∀ x, bnd (bnd x) = bnd x)
    (rand : D → X → X) (cap : Nat) (x : X) (draws : List D) (y : X) (t links : Nat) (st : Comb.Stats)
    (hr : Comb.and_ (fun i v => if i = 0 then some (cons v) else some (bnd v)) rand 2 cap x draws
      = (.success y t links, st)) (hl : 2 ≤ links) : cons y = y ∧ bnd y = y := by
  have hid : ∀ i, i < 2 → C17.Idem ((fun i v => if i = 0 then some (cons v) else some (bnd v)) i) := by
    intro i _ a b hab
    by_cases h0 : i = 0
    · simp only [h0, if_true, Option.some.injEq] at hab ⊢; rw [← hab, hc]
    · simp only [h0, if_false, Option.some.injEq] at hab ⊢; rw [← hab, hb]
  have := C17.and_success_fixed _ rand 2 cap x draws y t links st hid hr hl
  have h0 := this 0 Nat.zero_lt_two
  have h1 := this 1 Nat.one_lt_two
  -- member 0 is the constraints, member 1 the bounds
  simp only [if_true, Nat.one_ne_zero, if_false, Option.some.injEq] at h0 h1
  exact ⟨h0, h1⟩

/-- non-vacuity of `K_common_fixpoint`: at-least-1 and clip-to-[0,2], which do not conflict, on `Int` -/
example : (Comb.and_ (fun i (v : Int) => if i = 0 then some (max v 1) else some (min (max v 0) 2))
    (fun (d : Int) _ => d) 2 20 (-5) []).1 = .success 1 1 2 := by decide

open MysticVerif.PowellS

/-- **Powell**: every point at which the user's cost is evaluated is left unchanged by the constraints -/
theorem pw_evaluations_constrained [Sub R] [Mul R] [LinearOrder E] (o : Obj (Pt R) E) (h : Hyp o) (c : PwCfg R E)
    (ls : Nat → Pt R → Pt R → LsRec R) (record : Bool) (x0 : Pt R) (direc : List (Pt R)) (hd : direc ≠ []) (n : Nat) :
    ∀ p ∈ (reach o c ls record x0 direc n).log, o.K p.1 = p.1 := by
  intro p hp
  exact ((reach_inv h c ls record x0 direc hd n).logOK p hp).2.1

/-- **Powell, reported result**: wherever the run is stopped (any `_Step` boundary) the reported solution satisfies
the constraints and a finite reported energy is the energy of that constrained point -/
theorem pw_reported_constrained [Sub R] [Mul R] [LinearOrder E] (o : Obj (Pt R) E) (h : Hyp o) (c : PwCfg R E)
    (ls : Nat → Pt R → Pt R → LsRec R) (record : Bool) (x0 : Pt R) (direc : List (Pt R)) (hd : direc ≠ []) (n : Nat)
    (hfin : (reach o c ls record x0 direc n).fval ≠ o.top) :
    let s := reach o c ls record x0 direc n
    o.K s.x = s.x ∧ s.fval = o.add (o.raw s.x) (o.pen s.x) := by
  intro s
  have g := (reach_inv h c ls record x0 direc hd n).best hfin
  exact ⟨g.2.2.1, g.1⟩

/-- **Powell, intermediate step records (partial).** Every record of the step monitor carries the energy of its
CONSTRAINED image, which was evaluated.  The record itself is constrained unless the extrapolation line search was
taken in that iteration: the code does not re-apply the constraints there (`# x = asarray(constraints(x))` is
commented out, scipy_optimize.py l.711) - `pw_step_record_unconstrained_witness`.  The reported solution is not
affected: the direction loop that follows in the same `_Step` constrains it (`pw_reported_constrained`). -/
theorem pw_step_record_partial [Sub R] [Mul R] [LinearOrder E] (o : Obj (Pt R) E) (h : Hyp o) (c : PwCfg R E)
    (ls : Nat → Pt R → Pt R → LsRec R) (record : Bool) (x0 : Pt R) (direc : List (Pt R)) (hd : direc ≠ []) (n : Nat) :
    ∀ p ∈ (reach o c ls record x0 direc n).stepLog, p.2 ≠ o.top →
      p.2 = o.energy (o.K p.1) ∧ (o.K p.1, o.raw (o.K p.1)) ∈ (reach o c ls record x0 direc n).log := by
  intro p hp hne
  have g := (reach_inv h c ls record x0 direc hd n).recs p hp hne
  exact ⟨g.1, g.2.1⟩

/-- the record written after an extrapolation line search violates the constraints (one dimension, cost `x^2`,
constraints `x ↦ max x 1`): the step monitor holds `([-1], 1)`, `K [-1] = [1]` -/
theorem pw_step_record_unconstrained_witness :
    ([-1], 1) ∈ (reach C01.pwObj C01.pwCfg C01.pwLs true [5] [[-1]] 1).stepLog ∧ C01.pwObj.K [-1] ≠ [-1] ∧
      C01.pwObj.K (reach C01.pwObj C01.pwCfg C01.pwLs true [5] [[-1]] 1).x = (reach C01.pwObj C01.pwCfg C01.pwLs true [5] [[-1]] 1).x := by
  decide

end MysticVerif.C03
