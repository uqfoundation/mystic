/-
C06, clause "same counters and monitor contents as the uninterrupted run / each copy keeps counting its own
evaluations", for runs whose evaluation monitor does NOT hold one record per counted evaluation: the monitor was
attached (or replaced, `new=True`, or came with records of an earlier run) in the middle of the run, the solver was
checkpointed after that, and the restored solver is continued with `Step(cost)` / `Solve(cost)` - the objective handed
over again: the unpickled raw cost is another object, so `_bootstrap_objective` RE-DECORATES in the restored solver and
not in the uninterrupted one.  In the cell model (Model/Checkpoint.lean Part B, Model/CheckpointMon.lean) the counter
and the monitor are two cells whose contents are unrelated; `decorate` restarts the counter from the counter.
-/
import MysticVerif.Props.C06
import MysticVerif.Model.CheckpointMon

namespace MysticVerif.C06
open MysticVerif.Checkpoint

/-- `SetEvaluationMonitor` in the middle of a run: the count is kept, the solver shows the new monitor (old records
unless `new`, then the records the monitor came with), the counter cell stays shared, the pointers stay valid - and the
objective still writes into the OLD monitor (the solver is not linked until the next re-decoration) -/
theorem setmon_keeps_count (h : Heap) (l : Links) (hv : l.Valid h) (new : Bool) (own : List Nat) :
    evaluations (setMonitor h l new own).1 (setMonitor h l new own).2 = evaluations h l
    ∧ monitor (setMonitor h l new own).1 (setMonitor h l new own).2 = (if new = true then [] else monitor h l) ++ own
    ∧ (setMonitor h l new own).2.Valid (setMonitor h l new own).1
    ∧ (setMonitor h l new own).2.solverMon ≠ (setMonitor h l new own).2.closureMon := by
  obtain ⟨v1, v2, _, v4⟩ := hv
  have hl : (setMonitor h l new own).1.mon.length = h.mon.length + 1 := List.length_append
  exact ⟨rfl, getD_append_length h.mon [] _ [], ⟨v1, v2, hl ▸ Nat.lt_succ_self _, hl ▸ Nat.lt_succ_of_lt v4⟩,
    Nat.ne_of_gt v4⟩

/-- **a monitor attached in the middle of the run, then the next Step (which re-decorates)**: the solver is linked
again, `n` further evaluations add exactly `n` to `evaluations` - which does NOT fall back to the length of the new
monitor - and exactly the `n` records to the new monitor, after the records it started with -/
theorem setmon_redecorate_counts (h : Heap) (l : Links) (hv : l.Valid h) (new : Bool) (own ts : List Nat) :
    let s := setMonitor h l new own
    let d := decorate s.1 s.2
    d.2.Linked
    ∧ evaluations (calls d.1 d.2 ts) d.2 = evaluations h l + ts.length
    ∧ monitor (calls d.1 d.2 ts) d.2 = (if new = true then [] else monitor h l) ++ own ++ ts := by
  obtain ⟨e1, e2, e3, _⟩ := setmon_keeps_count h l hv new own
  obtain ⟨r1, r2, r3, r4⟩ := redecorate_relinks (setMonitor h l new own).1 (setMonitor h l new own).2 e3
  obtain ⟨c1, c2⟩ := linked_counts r1 ts _ r4
  exact ⟨r1, by rw [c1, r2, e1], by rw [c2, r3, e2]⟩

/-- **resume with the objective handed over again = uninterrupted**, whatever the evaluation monitor holds: a linked
solver (counter value and monitor contents ARBITRARY - in particular a monitor shorter or longer than the count) is
pickled, restored, RE-DECORATED (`Step(cost)` with the unpickled cost object) and evaluates `ts`; the uninterrupted
solver evaluates `ts` without re-decoration.  Both show the same `evaluations` and the same monitor contents, and both
have counted exactly their own `ts.length` evaluations -/
theorem resume_redecorated_equals_uninterrupted (h : Heap) (l : Links) (hv : l.Valid h) (hl : l.Linked) (ts : List Nat) :
    let p := pickleCopy h l
    let d := decorate p.1 p.2
    evaluations (calls d.1 d.2 ts) d.2 = evaluations (calls h l ts) l
    ∧ monitor (calls d.1 d.2 ts) d.2 = monitor (calls h l ts) l
    ∧ evaluations (calls d.1 d.2 ts) d.2 = evaluations h l + ts.length := by
  obtain ⟨_, pe, pm, _, pv⟩ := pickle_preserves_links h l hv
  obtain ⟨r1, r2, r3, r4⟩ := redecorate_relinks (pickleCopy h l).1 (pickleCopy h l).2 pv
  obtain ⟨c1, c2⟩ := linked_counts r1 ts _ r4
  obtain ⟨u1, u2⟩ := linked_counts hl ts h hv
  exact ⟨by rw [c1, u1, r2, pe], by rw [c2, u2, r3, pm], by rw [c1, r2, pe]⟩

/-- the same through a monitor change BEFORE the checkpoint: attach / replace the monitor, take the next Step (which
re-decorates and evaluates `us`), checkpoint, restore, re-decorate, evaluate `ts` = the uninterrupted run evaluating
`us ++ ts`; the restored solver's count is the full count, not the number of records in its monitor -/
theorem resume_after_monitor_change (h : Heap) (l : Links) (hv : l.Valid h) (new : Bool) (own us ts : List Nat) :
    let s := setMonitor h l new own
    let d := decorate s.1 s.2
    let g := calls d.1 d.2 us
    let p := pickleCopy g d.2
    let r := decorate p.1 p.2
    evaluations (calls r.1 r.2 ts) r.2 = evaluations (calls d.1 d.2 (us ++ ts)) d.2
    ∧ monitor (calls r.1 r.2 ts) r.2 = monitor (calls d.1 d.2 (us ++ ts)) d.2
    ∧ evaluations (calls r.1 r.2 ts) r.2 = evaluations h l + us.length + ts.length := by
  obtain ⟨e1, _, e3, _⟩ := setmon_keeps_count h l hv new own
  obtain ⟨r1, r2, _, r4⟩ := redecorate_relinks (setMonitor h l new own).1 (setMonitor h l new own).2 e3
  obtain ⟨k1, k2, k3⟩ := resume_redecorated_equals_uninterrupted _ _ (calls_valid _ us r4) r1 ts
  obtain ⟨c1, _⟩ := linked_counts r1 us _ r4
  refine ⟨?_, ?_, ?_⟩
  · rw [calls_append]; exact k1
  · rw [calls_append]; exact k2
  · rw [k3, c1, r2, e1]

/-- where the counter comes from matters only when the monitor is INCOMPLETE: with one record per counted evaluation
(a monitor present from the first evaluation on) or with no records at all (no monitor), restarting the counter from
the monitor's length is the same as restarting it from the counter - the situations a run configured once, before
its first Step, is always in -/
theorem decorate_from_monitor_agrees_when_complete (h : Heap) (l : Links)
    (hc : (monitor h l).length = evaluations h l ∨ (monitor h l).length = 0) :
    decorateFromMonitor h l = decorate h l := by
  unfold decorateFromMonitor decorate
  rcases hc with hc | hc
  · by_cases h0 : (monitor h l).length = 0
    · simp [h0]
    · simp [hc]
  · simp [hc]

/-- **kernel-checked witness: the counter must restart from the counter.**  Three evaluations, then an empty monitor is
attached with `new=True`, two more evaluations (count 5, monitor 2 records); checkpoint; the restored solver is
re-decorated and evaluates once.  Uninterrupted: 6.  `decorate` (the code): 6.  A re-decoration that "leverages the
monitor" (`start = len(evalmon) or _fcalls[0]`): 3 - the restored solver has forgotten three evaluations -/
theorem decorate_from_monitor_length_does_not_resume :
    let a := fresh { ctr := [], mon := [] }
    let h := calls a.1 a.2 [1, 2, 3]
    let s := setMonitor h a.2 true []
    let d := decorate s.1 s.2
    let g := calls d.1 d.2 [4, 5]
    let p := pickleCopy g d.2
    let good := decorate p.1 p.2
    let bad := decorateFromMonitor p.1 p.2
    evaluations g d.2 = 5 ∧ monitor g d.2 = [4, 5]
    ∧ evaluations (calls g d.2 [6]) d.2 = 6
    ∧ evaluations (calls good.1 good.2 [6]) good.2 = 6 ∧ monitor (calls good.1 good.2 [6]) good.2 = [4, 5, 6]
    ∧ evaluations (calls bad.1 bad.2 [6]) bad.2 = 3 := by
  decide

/-- non-vacuity: the state the theorems above start from - a linked, valid solver whose monitor (2 records) is shorter
than its count (5) - is reached by the model's own operations -/
example :
    let a := fresh { ctr := [], mon := [] }
    let s := setMonitor (calls a.1 a.2 [1, 2, 3]) a.2 true []
    let d := decorate s.1 s.2
    d.2.Linked ∧ d.2.Valid (calls d.1 d.2 [4, 5]) ∧ evaluations (calls d.1 d.2 [4, 5]) d.2 = 5
    ∧ (monitor (calls d.1 d.2 [4, 5]) d.2).length = 2 := by
  decide

end MysticVerif.C06
