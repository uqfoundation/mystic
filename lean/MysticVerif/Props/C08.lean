/-
C08 - the optimizers implement their published algorithms.

Part 1 (differential evolution): Model/Strategy.lean is a literal transcription of the ten strategies of
`mystic/strategy.py`; the theorems below hold for ALL populations, best vectors, scale factors, crossover
probabilities, dimensions, candidates, sampled positions, start indices and `random.random()` streams, over ANY
interpretation of `+ - *` and of the order used to compare a draw with the crossover probability (so also for
`Float`, where the same definitions run in the driver).  `random.sample` enters through its documented contract:
it returns DISTINCT POSITIONS of the pool it is handed.

Part 2 (Nelder-Mead), part 3 (Powell) and part 4 (the Brent line search and the closed system) are further below.
-/
import MysticVerif.Proofs.Strategy
import MysticVerif.Proofs.RefFmin
import MysticVerif.Proofs.NMInit
import MysticVerif.Proofs.Powell
import MysticVerif.Proofs.Brent
import Mathlib.Tactic.FieldSimp
import Mathlib.Tactic.Ring
import Mathlib.Tactic.NormNum
import Mathlib.Tactic.LinearCombination
import Mathlib.Algebra.CharZero.Defs

namespace MysticVerif.C08
open MysticVerif.Strategy MysticVerif.Solver

variable {R X E : Type}

/-! ## Differential evolution: the trial vector -/

/-- **Candidate selection.** `get_random_candidates(NP, exclude, N)`: whatever positions `random.sample` picks
(distinct, inside the pool of `NP - 1` entries), the chosen members are pairwise distinct, none is the candidate
itself, all are valid population indices, and there are as many as asked for. -/
theorem candidates_distinct (np excl : Nat) (ps : List Nat) (h : excl < np) (hps : ∀ p ∈ ps, p < np - 1)
    (hnd : ps.Nodup) :
    (getRandomCandidates np excl ps).Nodup ∧ (getRandomCandidates np excl ps).length = ps.length ∧
    ∀ r ∈ getRandomCandidates np excl ps, r ≠ excl ∧ r < np :=
  ⟨candidates_nodup h hps hnd, candidates_length np excl ps, candidates_mem h hps⟩

example : getRandomCandidates 6 2 [4, 0, 2] = [5, 0, 3] := by decide +kernel

/-- **Exponential crossover, as coded** (all strategies except `Best1Bin`, i.e. including the four `*Bin` twins):
the trial is the parent with exactly the `L` cyclically consecutive positions `n0, n0+1, ..` replaced by the
mutant, where `L = min nDim (number of leading draws < CR)`. -/
theorem crossover_exponential [Add R] [Sub R] [Mul R] [LT R] [DecidableLT R] [LE R] [DecidableLE R] [Inhabited R]
    (nm : Name) (hx : nm.cross = .exp) (I : Inst R) (cand : Nat) (ps : List Nat) (n0 : Nat) (us : List R)
    (hn0 : n0 < I.nDim) (hpar : (I.pop.getD cand []).length = I.nDim) :
    let rs := getRandomCandidates I.nPop cand (ps.take nm.kind.ncand)
    let parent := I.pop.getD cand []
    let t := (trialOf nm I cand ps n0 us).1
    let L := runLen I.prob us I.nDim
    L ≤ I.nDim ∧ t.length = I.nDim ∧
    ∀ j, j < I.nDim → t.getD j default =
      if offset n0 I.nDim j < L then mutant nm.kind I rs (parent.getD j default) j else parent.getD j default := by
  intro rs parent t L
  have := expLoop_inv (mutant nm.kind I rs) I.prob parent n0 I.nDim hn0 us 0 parent 0 (Nat.zero_le _)
    ⟨hpar, fun _ _ => (if_neg (Nat.not_lt_zero _)).symm⟩
  rw [Nat.zero_add, Nat.sub_zero, Nat.add_zero, Nat.mod_eq_of_lt hn0] at this
  have ht : t = _ := congrArg Prod.fst (trialOf_exp hx I cand ps n0 us)
  rw [ht]
  exact ⟨runLen_le _ _ _, this.1, this.2⟩

/-- **Binomial crossover** (`Best1Bin`, the only strategy whose code runs it): with one draw per position,
position `j` carries the mutant exactly when `j = n0` or `u_j < CR`, and the parent's value otherwise. -/
theorem crossover_binomial [Add R] [Sub R] [Mul R] [LT R] [DecidableLT R] [LE R] [DecidableLE R] [Inhabited R]
    (nm : Name) (hb : nm.cross = .bin) (I : Inst R) (cand : Nat) (ps : List Nat) (n0 : Nat) (us : List R)
    (hus : I.nDim ≤ us.length) (hpar : (I.pop.getD cand []).length = I.nDim) :
    let rs := getRandomCandidates I.nPop cand (ps.take nm.kind.ncand)
    let parent := I.pop.getD cand []
    let t := (trialOf nm I cand ps n0 us).1
    t.length = I.nDim ∧
    ∀ j, j < I.nDim → t.getD j default =
      if j = n0 ∨ us.getD j default < I.prob then mutant nm.kind I rs (parent.getD j default) j
      else parent.getD j default := by
  intro rs parent t
  have hlen : (us.take I.nDim).length = I.nDim := List.length_take_of_le hus
  obtain ⟨h1, _, h3⟩ := binLoop_spec (mutant nm.kind I rs) I.prob n0 (us.take I.nDim) 0 parent
    (by rw [hlen, hpar, Nat.zero_add])
  have ht : t = _ := trialOf_bin hb I cand ps n0 us
  rw [ht]
  refine ⟨h1.trans hpar, fun j hj => ?_⟩
  have := h3 j
  rw [Nat.zero_add, hlen, getD_take us hj] at this
  exact this.trans (if_congr (and_iff_right hj) rfl rfl)

/-- which loop the code of each strategy runs: binomial only for `Best1Bin` -/
theorem coded_crossover (nm : Name) : nm.cross = .bin ↔ nm = .Best1Bin := by
  cases nm <;> simp [Name.cross]

/-- **Every component of a trial vector is the parent's or `base + F * difference`** of the strategy's formula
(`best + F(r1-r2)`, `r1 + F(r2-r3)`, `x + F(best-x) + F(r1-r2)`, `best + F(r1+r2-r3-r4)`, `r1 + F(r2+r3-r4-r5)`),
for all ten strategies and both crossover loops; together with `candidates_distinct` the `r`s are distinct members
other than the candidate. -/
theorem trial_component [Add R] [Sub R] [Mul R] [LT R] [DecidableLT R] [LE R] [DecidableLE R] [Inhabited R]
    (nm : Name) (I : Inst R) (cand : Nat) (ps : List Nat) (n0 : Nat) (us : List R)
    (hn0 : n0 < I.nDim) (hpar : (I.pop.getD cand []).length = I.nDim) :
    let rs := getRandomCandidates I.nPop cand (ps.take nm.kind.ncand)
    let parent := I.pop.getD cand []
    let t := (trialOf nm I cand ps n0 us).1
    t.length = I.nDim ∧
    ∀ j, j < I.nDim → t.getD j default = parent.getD j default ∨
                      t.getD j default = mutant nm.kind I rs (parent.getD j default) j := by
  intro rs parent t
  cases hx : nm.cross with
  | exp =>
    have := crossover_exponential nm hx I cand ps n0 us hn0 hpar
    exact ⟨this.2.1, fun j hj => by rw [this.2.2 j hj]; exact (ite_eq_or_eq _ _ _).symm⟩
  | bin =>
    -- not via `crossover_binomial`: no `nDim ≤ us.length` here
    obtain ⟨h1, _, h3⟩ := binLoop_spec (mutant nm.kind I rs) I.prob n0 (us.take I.nDim) 0 parent
      (by rw [hpar, Nat.zero_add]; exact List.length_take_le _ _)
    have ht : t = _ := trialOf_bin hx I cand ps n0 us
    rw [ht]
    refine ⟨h1.trans hpar, fun j _ => ?_⟩
    have h := h3 j
    rw [Nat.zero_add] at h
    rw [h]
    exact (ite_eq_or_eq _ _ _).symm

/-- **Trial layouts.** A strategy call only writes its own row of the trial storage - the single list of
`DifferentialEvolutionSolver` (row 0) or `trialSolution[candidate]` of `DifferentialEvolutionSolver2` - with the
trial vector above; population, best solution and every other row are left alone. -/
theorem call_frame [Add R] [Sub R] [Mul R] [LT R] [DecidableLT R] [LE R] [DecidableLE R] [Inhabited R]
    (nm : Name) (I : Inst R) (cand : Nat) (ps : List Nat) (n0 : Nat) (us : List R) :
    (call nm I cand ps n0 us).pop = I.pop ∧ (call nm I cand ps n0 us).best = I.best ∧
    (trialRow I cand = if I.mapSolver = true then cand else 0) ∧
    (∀ r, r ≠ trialRow I cand → (call nm I cand ps n0 us).trial[r]? = I.trial[r]?) ∧
    (trialRow I cand < I.trial.length →
      (call nm I cand ps n0 us).trial[trialRow I cand]? = some (trialOf nm I cand ps n0 us).1) :=
  ⟨rfl, rfl, rfl, fun _ hr => List.getElem?_set_ne (Ne.symm hr), fun h => List.getElem?_set_self h⟩

/-- 6 members, 2 dimensions, CR = 1 -/
def witnessInst : Inst Int :=
  { pop := [[0, 0], [1, 10], [3, 40], [7, 90], [15, 200], [31, 500]], best := [100, 1000], scale := 2, prob := 1,
    nDim := 2, nPop := 6, mapSolver := false, trial := [[0, 0]] }

/-- non-vacuity + the F10 observation, kernel-checked: `Rand1Bin`, `RandToBest1Bin`, `Best2Bin`, `Rand2Bin` do NOT
follow the binomial rule.  In `witnessInst` (first draw 5 >= CR) each of them returns the parent unchanged, although
the binomial rule always takes component `n0` from the mutant, which differs from the parent there. -/
theorem named_bin_runs_exponential_witness (nm : Name) (hn : nm.namedBin = true) (hne : nm ≠ .Best1Bin) :
    let rs := getRandomCandidates 6 0 ([0, 1, 2, 3, 4].take nm.kind.ncand)
    (trialOf nm witnessInst 0 [0, 1, 2, 3, 4] 1 [5]).1 = [0, 0] ∧
    mutant nm.kind witnessInst rs 0 1 ≠ 0 := by
  cases nm <;> simp [Name.namedBin] at hn hne <;> decide +kernel

example : (trialOf .Best1Bin witnessInst 0 [0, 1] 1 [5, 5]).1 = [0, 1000 + 2 * (10 - 40)] := by decide +kernel
example : (trialOf .Rand2Exp witnessInst 0 [4, 3, 2, 1, 0] 1 [0, 0, 0]).1
    = [31 + 2 * (15 + 7 - 3 - 1), 500 + 2 * (200 + 90 - 40 - 10)] := by decide +kernel

/-! ## Differential evolution: selection -/

/-- **A member is replaced only by a trial of strictly lower energy** (one candidate, `DE.select` =
differential_evolution.py l.314-323 / l.574-583): if any slot of the population or of the energies differs after
the selection, it is the candidate's own slot, the trial energy is strictly below the stored one, and the slot now
holds exactly the trial and its energy. -/
theorem replaced_only_if_strictly_lower [LT E] [DecidableLT E] (s : DE X E) (i : Nat) (y : X) (e : E) (j : Nat)
    (hch : (s.select i y e).pop[j]? ≠ s.pop[j]? ∨ (s.select i y e).popE[j]? ≠ s.popE[j]?) :
    j = i ∧ ∃ ei, s.popE[i]? = some ei ∧ e < ei ∧
      (s.select i y e).pop = s.pop.set i y ∧ (s.select i y e).popE = s.popE.set i e :=
  (DE.select_slot s i y e j).resolve_left fun h => hch.elim (· h.1) (· h.2)

/-- **The same for a whole generation** of `DifferentialEvolutionSolver` and (by `DE.step2_eq_step1`)
`DifferentialEvolutionSolver2`, for ANY cost, penalty, constraints, box and trial vectors: a member that differs
after the generation is `K(trial_j)` for its own trial `trial_j`, whose decorated energy is strictly lower than the
energy the member had, and that energy is what is stored. -/
theorem generation_replaced_only_if_strictly_lower [LinearOrder E] (o : Obj X E) (trials : List X) (s : DE X E)
    (hlen : s.pop.length = s.popE.length) (j : Nat)
    (hch : (DE.step1 o trials s).pop[j]? ≠ s.pop[j]? ∨ (DE.step1 o trials s).popE[j]? ≠ s.popE[j]?) :
    ∃ t ej, trials[j]? = some t ∧ s.popE[j]? = some ej ∧ o.energy (o.K t) < ej ∧
      (DE.step1 o trials s).pop[j]? = some (o.K t) ∧ (DE.step1 o trials s).popE[j]? = some (o.energy (o.K t)) := by
  rw [← DE.step2_eq_step1] at hch ⊢
  unfold DE.step2 at hch ⊢
  simp only at hch ⊢
  obtain ⟨_, y, e, ej, hy, hej, hlt, hp, hpe⟩ :=
    (DE.selectAll_slot (DE.evalAll o trials s.log).1 0 { s with log := (DE.evalAll o trials s.log).2 } j hlen).resolve_left
      fun h => hch.elim (· h.1) (· h.2)
  rw [DE.evalAll_fst, Nat.sub_zero, List.getElem?_map] at hy
  cases ht : trials[j]? with
  | none => rw [ht] at hy; cases hy
  | some t =>
    rw [ht] at hy
    obtain ⟨rfl, rfl⟩ := Prod.mk.inj (Option.some.inj hy)
    exact ⟨t, ej, rfl, hej, hlt, hp, hpe⟩

/-- non-vacuity: a tie is NOT accepted, a strictly lower trial is (energies in `Nat`) -/
example : ((⟨[10, 20], [5, 7], 10, 5, [], []⟩ : DE Nat Nat).select 1 99 7).pop = [10, 20] := by decide +kernel
example : ((⟨[10, 20], [5, 7], 10, 5, [], []⟩ : DE Nat Nat).select 1 99 6).pop = [10, 99] := by decide +kernel

/-! ## Nelder-Mead: mystic's staged step machine refines the reference `fmin`

`refFmin` (Model/RefFmin.lean) transcribes `_scipy060optimize.fmin`; `mysticFmin` is what `scipy_optimize.fmin`
makes `NelderMeadSimplexSolver` do.  Both run over the same vertex arithmetic and the same two oracles (`mkVal`:
displaced coordinates of the initial simplex; `conv`: the xtol/ftol test), so the equalities below are about control
structure only: they hold for EVERY objective, start, coefficient set, tolerance, limit and EVERY interpretation of
the scalar operations and of the energy comparison - in particular at `Float`, bit for bit.
`Unconstrained o`: no constraints, no strict ranges, a penalty that is neutral (`e + 0.0`). -/

/-- **The simplex update.** One `_Step` of mystic at generation >= 2 (reflection / expansion / outside and inside
contraction / shrink, then the sort) produces exactly the simplex of one pass of the reference loop body, with the
same number of cost evaluations. -/
theorem nm_update_eq_ref_iter [Add R] [Sub R] [Mul R] [Div R] [LT E] [DecidableLT E] [LE E] [DecidableLE E]
    (o : Obj (Pt R) E) (h : Unconstrained o) (c : Coef R) (s : NM R E) :
    (NM.update o c id s).1.simplex = sortByE (refBody o.raw c s.simplex).1 ∧
    (NM.update o c id s).1.log.length = s.log.length + (refBody o.raw c s.simplex).2 :=
  update_unc h c s

/-- **The initial simplex.** Generation 0 (evaluate the guess) followed by generation 1 (displace one coordinate per
vertex, evaluate, sort) is the reference's initial simplex, after `N + 1` evaluations. -/
theorem nm_init_eq_ref_init [LT E] [DecidableLT E] (o : Obj (Pt R) E) (h : Unconstrained o) (zero : R)
    (mkVal : Pt R → Pt R) (x0 : Pt R) :
    (NM.gen1 o id mkVal (NM.gen0 o zero x0)).simplex = sortByE ((x0, o.raw x0) :: refRows o.raw x0 (mkVal x0) 0) ∧
    (NM.gen1 o id mkVal (NM.gen0 o zero x0)).log.length = 1 + (refRows o.raw x0 (mkVal x0) 0).length :=
  init_unc h zero mkVal x0

/-- when mystic does not stop right after evaluating the guess: `maxfun > 1`, `maxiter > 0`, and the convergence
test is false on the generation-0 simplex (whose other rows carry the energy `inf`) -/
theorem nm_start_iff (o : Obj (Pt R) E) (h : Unconstrained o) (zero : R) (conv : List (Pt R × E) → Bool)
    (x0 : Pt R) (maxiter maxfun : Nat) :
    nmStop conv maxiter maxfun (NM.gen0 o zero x0) 0 = false ↔
      1 < maxfun ∧ 0 < maxiter ∧ conv (NM.gen0 o zero x0).simplex = false := by
  rw [nmStop_eq_false, gen0_log_unc h, and_assoc]
  rfl

/-- **mystic's `fmin` = the reference `fmin`.** On an unconstrained problem, whenever mystic goes on to build the simplex at all,
`fmin` returns exactly what the reference returns: final simplex (hence `xopt = sim[0]` and its energy), iteration
count, evaluation count and warnflag. -/
theorem nm_refines_ref [Add R] [Sub R] [Mul R] [Div R] [LT E] [DecidableLT E] [LE E] [DecidableLE E]
    (o : Obj (Pt R) E) (h : Unconstrained o) (c : Coef R) (zero : R) (conv : List (Pt R × E) → Bool)
    (mkVal : Pt R → Pt R) (x0 : Pt R) (maxiter maxfun : Nat)
    (hstart : nmStop conv maxiter maxfun (NM.gen0 o zero x0) 0 = false) :
    mysticFmin o c zero conv mkVal x0 maxiter maxfun = refFmin o.raw c conv mkVal x0 maxiter maxfun := by
  unfold mysticFmin refFmin
  simp only [hstart, Bool.false_eq_true, if_false]
  have hi := init_unc h zero mkVal x0 (E := E)
  have hl := loop_unc h c conv maxiter maxfun maxiter (NM.gen1 o id mkVal (NM.gen0 o zero x0)) 1
  rw [hi.1, hi.2] at hl
  simp only [nmOut]
  rw [← hl]

/-- the one situation excluded above, as the code has it: with `maxfun <= 1` or `maxiter = 0` mystic returns the
guess after ONE evaluation and zero iterations, while the reference always builds its simplex first
(`N + 1` evaluations, `iterations = 1`). -/
theorem nm_stops_before_simplex [Add R] [Sub R] [Mul R] [Div R] [LT E] [DecidableLT E] [LE E] [DecidableLE E]
    (o : Obj (Pt R) E) (h : Unconstrained o) (c : Coef R) (zero : R) (conv : List (Pt R × E) → Bool)
    (mkVal : Pt R → Pt R) (x0 : Pt R) (maxiter maxfun : Nat)
    (hstop : nmStop conv maxiter maxfun (NM.gen0 o zero x0) 0 = true) :
    (mysticFmin o c zero conv mkVal x0 maxiter maxfun).iterations = 0 ∧
    (mysticFmin o c zero conv mkVal x0 maxiter maxfun).funcalls = 1 := by
  unfold mysticFmin
  rw [if_pos hstop]
  exact ⟨rfl, congrArg List.length (gen0_log_unc h zero x0)⟩

/-- the reference's `fval = min(fsim)` is the energy of `sim[0]` (what mystic reports as `bestEnergy`): the
simplex the loop ends with is sorted -/
theorem ref_fval_is_head [Add R] [Sub R] [Mul R] [Div R] [LinearOrder E]
    (f : Pt R → E) (c : Coef R) (conv : List (Pt R × E) → Bool) (mkVal : Pt R → Pt R) (x0 : Pt R)
    (maxiter maxfun : Nat) :
    minE ((refFmin f c conv mkVal x0 maxiter maxfun).sim.map Prod.snd)
      = (refFmin f c conv mkVal x0 maxiter maxfun).sim.head?.map Prod.snd :=
  minE_of_sorted _ (refLoop_sorted f c conv maxiter maxfun maxiter _ _ _ (sorted_sortByE _))

/-- non-vacuity at `Int` (exact arithmetic, integer division): a 1-D run of both programs on `f x = (x-3)^2`,
stopping on the iteration limit -/
def exObj : Obj (Pt Int) Int :=
  { raw := fun x => (x.getD 0 0 - 3) * (x.getD 0 0 - 3), pen := fun _ => 0, K := id, inBox := fun _ => true,
    useRange := false, top := 1000000, add := (· + ·) }
def exCoef : Coef Int := { one := 1, rho := 1, chi := 2, psi := 1, sigma := 1, n := 1 }

example : Unconstrained exObj := ⟨fun _ => rfl, rfl, fun e _ => Int.add_zero e⟩
example : (mysticFmin exObj exCoef 0 (fun _ => false) (fun x => x.map (· + 2)) [10] 4 100).sim
    = [([2], 1), ([6], 9)] := by decide +kernel
example : (refFmin exObj.raw exCoef (fun _ => false) (fun x => x.map (· + 2)) [10] 4 100).iterations = 4 := by decide +kernel

/-! ### the two oracles made concrete (Model/NMInit.lean)

`nm_refines_ref` takes the displaced coordinates `mkVal` and the convergence test `conv` as parameters shared by the
two programs.  They are NOT the same expressions in the two source files: the reference tests the COORDINATE for zero
and multiplies from the left, mystic multiplies from the right and tests the PRODUCT.  The theorems below state when
the two agree, and what both then compute: the absolute offset `zdelt` for coordinates that are exactly zero and for
no others, the relative displacement `(1+0.05)*x` for everything else - however small. -/

/-- **The initial-simplex rule, any interpretation.** If multiplying by `1+radius` neither creates nor destroys a zero
(`isZero (x*(1+radius)) = isZero x`: true at Float for radius = 0.05 - a product with 1.05 rounds to zero only for a
zero - and in every ring without zero divisors) and commutes, mystic's displaced coordinates are the reference's,
with `zdelt = radius**2 * 0.1`. -/
theorem nm_initial_simplex_rule [Add R] [Mul R] (isZero : R → Bool) (one radius tenth : R)
    (hz : ∀ x, isZero (x * (one + radius)) = isZero x)
    (hc : ∀ x, x * (one + radius) = (one + radius) * x) (x0 : Pt R) :
    mysticInitVal isZero one radius tenth x0 = refInitVal isZero one radius ((radius * radius) * tenth) x0 := by
  unfold mysticInitVal refInitVal
  apply List.map_congr_left
  intro x _
  rw [hz x, hc x]

/-- **`zdelt` only for exact zeros.** Over a field (`1 + radius ≠ 0`): coordinate `k` of mystic's displaced vector
is `zdelt = radius**2 * 0.1` when `x0[k] = 0` and `(1+radius) * x0[k]` - a NON-zero number - for every other
`x0[k]`, with no threshold of "smallness". -/
theorem nm_zdelt_only_for_exact_zero [Field R] [DecidableEq R] (radius tenth : R) (hr : 1 + radius ≠ 0)
    (x0 : Pt R) (k : Nat) (hk : k < x0.length) :
    (mysticInitVal (fun v => decide (v = 0)) 1 radius tenth x0)[k]? =
        some (if x0[k] = 0 then (radius * radius) * tenth else (1 + radius) * x0[k]) ∧
    (x0[k] ≠ 0 → (1 + radius) * x0[k] ≠ 0) := by
  constructor
  · unfold mysticInitVal
    rw [List.getElem?_map, List.getElem?_eq_getElem hk]
    simp only [Option.map_some, decide_eq_true_eq, mul_eq_zero, hr, or_false, Option.some.injEq]
    split_ifs
    · rfl
    · exact mul_comm _ _
  · intro h
    exact mul_ne_zero hr h

/-- the same over a field, as an equality of the two programs' vectors -/
theorem nm_initial_simplex_rule_field [Field R] [DecidableEq R] (radius tenth : R) (hr : 1 + radius ≠ 0) (x0 : Pt R) :
    mysticInitVal (fun v => decide (v = 0)) 1 radius tenth x0
      = refInitVal (fun v => decide (v = 0)) 1 radius ((radius * radius) * tenth) x0 := by
  apply nm_initial_simplex_rule
  · intro x
    simp [mul_eq_zero, hr]
  · intro x; exact mul_comm _ _

/-- **`nm_refines_ref` with the initial simplex as each program computes it.** mystic's `fmin` with
`val = x0*(1+radius); val[val==0] = radius**2*0.1` returns what the reference returns with
`(1+nonzdelt)*y[k] if y[k] != 0 else zdelt`, for nonzdelt = radius and zdelt = radius**2*0.1. -/
theorem nm_refines_ref_concrete_init [Add R] [Sub R] [Mul R] [Div R] [LT E] [DecidableLT E] [LE E] [DecidableLE E]
    (o : Obj (Pt R) E) (h : Unconstrained o) (c : Coef R) (zero : R) (conv : List (Pt R × E) → Bool)
    (isZero : R → Bool) (one radius tenth : R)
    (hz : ∀ x, isZero (x * (one + radius)) = isZero x)
    (hc : ∀ x, x * (one + radius) = (one + radius) * x)
    (x0 : Pt R) (maxiter maxfun : Nat)
    (hstart : nmStop conv maxiter maxfun (NM.gen0 o zero x0) 0 = false) :
    mysticFmin o c zero conv (mysticInitVal isZero one radius tenth) x0 maxiter maxfun
      = refFmin o.raw c conv (refInitVal isZero one radius ((radius * radius) * tenth)) x0 maxiter maxfun := by
  rw [nm_refines_ref o h c zero conv _ x0 maxiter maxfun hstart]
  unfold refFmin
  rw [nm_initial_simplex_rule isZero one radius tenth hz hc x0]

/-- **The convergence test is non-strict.** Over linear orders: `CandidateRelativeTolerance(xtol, ftol)` / the
reference's `break` test holds exactly when EVERY coordinate difference to the best vertex is `<= xtol` and EVERY
energy difference is `<= ftol` (equality at a tolerance converges), on a simplex with at least two vertices of
dimension >= 1. -/
theorem nm_convergence_test_iff [LinearOrder R] [Sub R] [LinearOrder E] [Sub E] (absR : R → R) (absE : E → E)
    (xtol : R) (ftol : E) (x0 : Pt R) (f0 : E) (rest : List (Pt R × E)) :
    crtConv absR absE xtol ftol ((x0, f0) :: rest) = true ↔
      crtDx absR x0 rest ≠ [] ∧ rest ≠ [] ∧
      (∀ d ∈ crtDx absR x0 rest, d ≤ xtol) ∧ (∀ p ∈ rest, absE (f0 - p.2) ≤ ftol) := by
  rw [crtConv_cons, pyMax_some_le, pyMax_some_le, and_and_and_comm, and_assoc]
  unfold crtDf
  simp only [List.forall_mem_map, ne_eq, List.map_eq_nil_iff]

/-- non-vacuity (`Rat`, radius = 1/20, tenth = 1/10): the zero coordinate gets zdelt = 1/4000 = 0.00025, the tiny
one 21/20 of itself; and at `Int` the convergence test accepts equality at both tolerances and rejects one above -/
example : mysticInitVal (fun v => decide (v = 0)) (1 : Rat) (1/20) (1/10) [0, 1/1000000000, -2]
    = [1/4000, 21/20000000000, -21/10] := by decide +kernel
example : refInitVal (fun v => decide (v = 0)) (1 : Rat) (1/20) (1/4000) [0, 1/1000000000, -2]
    = [1/4000, 21/20000000000, -21/10] := by decide +kernel
example : crtConv (R := Int) (E := Int) (fun a => (a.natAbs : Int)) (fun a => (a.natAbs : Int)) 2 3 [([0, 0], 5), ([2, -1], 8), ([0, 1], 2)] = true := by decide +kernel
example : crtConv (R := Int) (E := Int) (fun a => (a.natAbs : Int)) (fun a => (a.natAbs : Int)) 2 2 [([0, 0], 5), ([2, -1], 8), ([0, 1], 2)] = false := by decide +kernel

/-! ### the coefficient sets (Model/NMInit.lean `mysticCoef`)

`nm_refines_ref` holds for EVERY coefficient record `c`: run with the same coefficients the two programs agree.  What
is left to state is which coefficients `Solve(adaptive=...)` selects. -/

/-- **The adaptive coefficients are the published ones, for every dimension.** Over a field of characteristic 0, for
every `n ≠ 0` (also `n = 1`): what `_Step` computes with `adaptive` - `1+2/dim`, `0.75-1/(2*dim)`, `1-1/dim` - is the
Gao-Han set `(n+2)/n`, `(3n-2)/(4n)`, `(n-1)/n` with `rho = 1`; without `adaptive` it is the standard set
`(1, 2, 1/2, 1/2)` of the reference (l.180). -/
theorem nm_coefficients_are_published [Field R] [CharZero R] (adaptive : Bool) (n : R) (hn : n ≠ 0) :
    mysticCoef (1 : R) 2 (1 / 2) (3 / 4) adaptive n = publishedCoef 1 2 3 4 adaptive n := by
  cases adaptive
  · rfl
  · have chi : (1 : R) + 2 / n = (n + 2) / n := by rw [add_div, div_self hn]
    have sigma : (1 : R) - 1 / n = (n - 1) / n := by rw [sub_div, div_self hn]
    have psi : (3 : R) / 4 - 1 / (2 * n) = (3 * n - 2) / (4 * n) := by field_simp; ring
    unfold mysticCoef publishedCoef
    rw [if_pos rfl, if_pos rfl, chi, sigma, psi]

/-- **One dimension: the adaptive shrink coefficient is 0** (`1 - 1/1`), the contraction coefficient 1/4, the expansion
coefficient 3 - not the standard 1/2, 1/2, 2 - and a shrink step then puts every vertex ON the best one
(`sim[j] = sim[0] + 0*(sim[j]-sim[0])`), after which the convergence test compares zeros. -/
theorem nm_adaptive_one_dimension [Field R] [CharZero R] :
    (mysticCoef (1 : R) 2 (1 / 2) (3 / 4) true 1).sigma = 0 ∧
    (mysticCoef (1 : R) 2 (1 / 2) (3 / 4) true 1).psi = 1 / 4 ∧
    (mysticCoef (1 : R) 2 (1 / 2) (3 / 4) true 1).chi = 3 ∧
    ∀ (c : Coef R), c.sigma = 0 → ∀ (x0 xj : Pt R), xj.length = x0.length → shrinkPt c x0 xj = x0 := by
  refine ⟨?_, ?_, ?_, ?_⟩
  · show (1 : R) - 1 / 1 = 0
    rw [div_one, sub_self]
  · show (3 : R) / 4 - 1 / (2 * 1) = 1 / 4
    norm_num
  · show (1 : R) + 2 / 1 = 3
    norm_num
  intro c hc x0
  unfold shrinkPt vadd vscale vsub
  rw [hc]
  induction x0 with
  | nil => intro xj _; rfl
  | cons a as ih =>
    intro xj hl
    cases xj with
    | nil => cases hl
    | cons b bs =>
      have := ih bs (Nat.succ.inj hl)
      simp only [List.zipWith_cons_cons, List.map_cons, zero_mul, add_zero, List.cons.injEq, true_and] at this ⊢
      exact this

/-- **Two dimensions: the adaptive set IS the standard set** (`1+2/2 = 2`, `3/4-1/4 = 1/2`, `1-1/2 = 1/2`): for `n = 2`
the keyword changes nothing; for every other dimension at least the expansion coefficient differs. -/
theorem nm_adaptive_two_dimensions_is_standard [Field R] [CharZero R] (n : R) (hn : n ≠ 0) :
    mysticCoef (1 : R) 2 (1 / 2) (3 / 4) true 2 = mysticCoef 1 2 (1 / 2) (3 / 4) false 2 ∧
    ((mysticCoef (1 : R) 2 (1 / 2) (3 / 4) true n).chi = (mysticCoef (1 : R) 2 (1 / 2) (3 / 4) false n).chi → n = 2) := by
  constructor
  · have chi : (1 : R) + 2 / 2 = 2 := by norm_num
    have psi : (3 : R) / 4 - 1 / (2 * 2) = 1 / 2 := by norm_num
    have sigma : (1 : R) - 1 / 2 = 1 / 2 := by norm_num
    unfold mysticCoef
    rw [if_pos rfl, if_neg Bool.false_ne_true, chi, psi, sigma]
  · intro h
    -- `h` unfolds to `1 + 2 / n = 2`
    have h1 : (2 : R) / n = 1 := add_left_cancel (h.trans (one_add_one_eq_two (R := R)).symm)
    exact ((div_eq_one_iff_eq hn).mp h1).symm

/-- non-vacuity at `Rat`: n = 1, 3 and the standard set -/
example : (mysticCoef (1 : Rat) 2 (1 / 2) (3 / 4) true 1).sigma = 0 := by decide +kernel
example : ((mysticCoef (1 : Rat) 2 (1 / 2) (3 / 4) true 3).chi, (mysticCoef (1 : Rat) 2 (1 / 2) (3 / 4) true 3).psi,
    (mysticCoef (1 : Rat) 2 (1 / 2) (3 / 4) true 3).sigma) = (5 / 3, 7 / 12, 2 / 3) := by decide +kernel
example : shrinkPt (mysticCoef (1 : Rat) 2 (1 / 2) (3 / 4) true 1) [5] [7] = [5] := by decide +kernel
example : shrinkPt (mysticCoef (1 : Rat) 2 (1 / 2) (3 / 4) false 1) [5] [7] = [6] := by decide +kernel

/-! ## Powell: the staged machine of `PowellDirectionalSolver` refines the reference direction-set loop

`Powell.refPowell` transcribes `_scipy060optimize.fmin_powell`, `Powell.mysticPowell` the generation-staged
`_Step` under `fmin_powell`'s `Solve` with `NormalizedChangeOverGeneration(ftol, 2)`.  The Brent line search and the
cost are oracles (ANY functions), the energy arithmetic of the `t`-test and the comparison are arbitrary operations:
the statements are about the bookkeeping - `fx`, `delta`, `bigind`, extrapolation, `t < 0`, direction replacement,
stop tests - and hold for every objective, start, direction set, tolerance and limit. -/

open MysticVerif.Powell in
/-- **mystic's `fmin_powell` = the reference `fmin_powell`.** Given the same line search, `fmin_powell` returns exactly what the reference returns -
minimiser, minimum, direction set, iteration and evaluation counts, warnflag, and the same sequence of line
searches and extrapolated points (`reqs`, `exts`) - provided (i) mystic does not stop right after evaluating the
guess (`maxfun > 1`, `maxiter > 0`) and (ii) the convergence test is not the ONLY reason for the reference to stop
in its FIRST iteration (F15: `NormalizedChangeOverGeneration(ftol, 2)` needs three history entries). -/
theorem powell_refines_ref [Sub R] [Mul R] [Add E] [Sub E] [Mul E] [LT E] [DecidableLT E]
    (c : Cfg R E) (fuel : Nat) (x0 : Pt R) (direc : List (Pt R))
    (hstart : mStop c (mGen0 c x0 direc) = false)
    (h15 : c.conv (c.f x0) (sweep c (init c x0 direc)).fval = true →
      (c.maxfun ≤ (sweep c (init c x0 direc)).fcalls ∨ c.maxiter ≤ 1)) :
    mysticPowell c fuel x0 direc = refPowell c fuel x0 direc := by
  unfold mysticPowell refPowell
  rw [if_neg (hstart ▸ Bool.false_ne_true)]
  cases fuel with
  | zero => rfl
  | succ fuel =>
    unfold mLoop Powell.refLoop
    have hs : (mGen1 c (mGen0 c x0 direc)).s = sweep c (init c x0 direc) := rfl
    -- the reference also tests convergence here; by `h15` a limit is reached whenever that test holds
    have hstop : mStop c (mGen1 c (mGen0 c x0 direc)) = refStop c (sweep c (init c x0 direc)) := by
      rw [mStop_gen1]
      unfold refStop
      rw [sweep_fx]
      cases hc : c.conv (init c x0 direc).fval (sweep c (init c x0 direc)).fval with
      | false => rfl
      | true =>
        rcases h15 hc with h | h
        · rw [decide_eq_true h]; rfl
        · rw [decide_eq_true h, Bool.or_true]; rfl
    rw [hstop, hs]
    split_ifs
    · rfl
    · exact hs ▸ mLoop_eq_refLoop c fuel _ ⟨rfl, Nat.le_refl 1⟩

open MysticVerif.Powell in
/-- **F15, exactly.** When the reference converges in its first iteration and no limit is reached there, the
reference stops at iteration 1 while `fmin_powell` goes on: whatever it finally returns has `iter >= 2`. -/
theorem powell_first_iteration_gap [Sub R] [Mul R] [Add E] [Sub E] [Mul E] [LT E] [DecidableLT E]
    (c : Cfg R E) (fuel : Nat) (x0 : Pt R) (direc : List (Pt R))
    (hstart : mStop c (mGen0 c x0 direc) = false)
    (hconv : c.conv (c.f x0) (sweep c (init c x0 direc)).fval = true)
    (hfun : ¬ c.maxfun ≤ (sweep c (init c x0 direc)).fcalls) (hiter : ¬ c.maxiter ≤ 1) :
    refPowell c (fuel + 1) x0 direc = some (finish c (sweep c (init c x0 direc))) ∧
    ∀ o, mysticPowell c (fuel + 1) x0 direc = some o → 2 ≤ o.st.iter := by
  constructor
  · unfold refPowell Powell.refLoop
    have : refStop c (sweep c (init c x0 direc)) = true := by
      unfold refStop; rw [sweep_fx]
      show (c.conv (c.f x0) _ || _ || _) = true      -- the first disjunct of `refStop`
      rw [hconv]; rfl
    rw [if_pos this]
  · intro o ho
    unfold mysticPowell at ho
    rw [if_neg (hstart ▸ Bool.false_ne_true)] at ho
    unfold mLoop at ho
    have hns : mStop c (mGen1 c (mGen0 c x0 direc)) = false := by
      rw [mStop_gen1, decide_eq_false hfun, decide_eq_false hiter]; rfl
    rw [if_neg (hns ▸ Bool.false_ne_true)] at ho
    have := mLoop_iter_le c _ _ _ ho
    rw [mGenN_iter] at this
    exact this

open MysticVerif.Powell in
/-- **`bigind`** after a direction loop is `0` or the index of one of the `N` directions searched. -/
theorem powell_bigind_valid [Sub E] [LT E] [DecidableLT E] (c : Cfg R E) (s : St R E) :
    (sweep c s).bigind = 0 ∨ (sweep c s).bigind < s.direc.length :=
  (dirLoop_bigind c.ls s.direc 0 { s with fx := s.fval, delta := c.zeroE, bigind := 0 }).imp id
    fun h => Nat.zero_add s.direc.length ▸ h.2

open MysticVerif.Powell in
/-- **`delta` and `bigind`.** After a direction loop `delta` is at least `0` (its start value) and at least every
decrease `fx2 - fval` (in the model `s.fval - fret`) of the sweep; and either no decrease exceeded `0` (`delta = 0`, `bigind = 0`) or `delta` IS
one of the decreases, the largest, and `bigind` is the FIRST direction that achieved it (strict `>` in the code). -/
theorem powell_delta_bigind_spec [Sub E] [LinearOrder E] (c : Cfg R E) (s : St R E) :
    let s0 : St R E := { s with fx := s.fval, delta := c.zeroE, bigind := 0 }
    let ds := decs c.ls s.direc 0 s0
    c.zeroE ≤ (sweep c s).delta ∧ (∀ e ∈ ds, e ≤ (sweep c s).delta) ∧
    (((sweep c s).delta = c.zeroE ∧ (sweep c s).bigind = 0) ∨
     ∃ k, ds[k]? = some (sweep c s).delta ∧ (sweep c s).bigind = k ∧ c.zeroE < (sweep c s).delta ∧
          ∀ j, j < k → ∀ e, ds[j]? = some e → e < (sweep c s).delta) := by
  intro s0 ds
  obtain ⟨h1, h2, h3⟩ := dirLoop_delta c.ls s.direc 0 s0
  exact ⟨h1, h2, h3.imp id fun ⟨k, a, b, c', d⟩ => ⟨k, a, b.trans (Nat.zero_add k), c', d⟩⟩

open MysticVerif.Powell in
/-- **Direction replacement.** The second half of an iteration keeps the number of directions, and either leaves
the set alone or performs exactly `direc[bigind] = direc[-1]; direc[-1] = <the scaled new direction x - x1>`. -/
theorem powell_direction_replacement [Sub R] [Mul R] [Add E] [Sub E] [Mul E] [LT E] [DecidableLT E]
    (c : Cfg R E) (s : St R E) :
    (extrapolate c s).direc.length = s.direc.length ∧
    ((extrapolate c s).direc = s.direc ∨
     (extrapolate c s).direc = (s.direc.set s.bigind (s.direc.getLast?.getD [])).set (s.direc.length - 1)
        (c.ls s.x (vsub s.x s.x1)).xi) := by
  simp only [extrapolate, apply_ite St.direc]
  split_ifs
  · exact ⟨by rw [List.length_set, List.length_set], Or.inr rfl⟩
  · exact ⟨rfl, Or.inl rfl⟩
  · exact ⟨rfl, Or.inl rfl⟩

/-- non-vacuity at `Int`: an exact line search on `f x = (x-3)^2`; both programs take two iterations, four
evaluations, and the hypotheses of `powell_refines_ref` hold -/
def exCfg : Powell.Cfg Int Int :=
  { ls := fun p _ => { fret := 0, x := [3], xi := [3 - p.getD 0 0], ncalls := 1 },
    f := fun x => (x.getD 0 0 - 3) * (x.getD 0 0 - 3), conv := fun a b => decide (a = b),
    two := 2, twoE := 2, zeroE := 0, maxiter := 100, maxfun := 100 }

example : Powell.mStop exCfg (Powell.mGen0 exCfg [0] [[1]]) = false := by decide +kernel
example : exCfg.conv (exCfg.f [0]) (Powell.sweep exCfg (Powell.init exCfg [0] [[1]])).fval = false := by decide +kernel
example : (Powell.refPowell exCfg 10 [0] [[1]]).map (fun o => (o.st.x, o.st.iter, o.st.fcalls, o.warnflag))
    = some ([3], 2, 4, 0) := by decide +kernel
example : (Powell.mysticPowell exCfg 10 [0] [[1]]).map (fun o => (o.st.x, o.st.iter, o.st.fcalls, o.warnflag))
    = some ([3], 2, 4, 0) := by decide +kernel
/-- and the F15 situation: started at the minimiser the reference stops after iteration 1, mystic after iteration 2 -/
example : (Powell.refPowell exCfg 10 [3] [[1]]).map (fun o => o.st.iter) = some 1 := by decide +kernel
example : (Powell.mysticPowell exCfg 10 [3] [[1]]).map (fun o => o.st.iter) = some 2 := by decide +kernel

/-! ## The Brent line search (`bracket`, `brent`, `_linesearch_powell`)

`Model/Brent.lean` transcribes the three routines over an abstract scalar type.  The first group of statements holds
over ANY interpretation of `+ - * /`, `abs`, `<`, `<=`, `==` and of the literals (so also for `Float`, NaN included);
the second group needs a linear order on the values (no NaN) and still leaves the arithmetic uninterpreted: they are
statements about which comparisons the code makes, for every function, bracket, tolerance, `maxiter` and fuel. -/

section brent
open MysticVerif.Brent

/-- **Every evaluation is logged once and counted; Brent's loop terminates within `maxiter` passes.**  Whenever
`brent(func, brack, tol, full_output=1, maxiter)` returns: every log entry is `(alpha, func alpha)`; the log holds
exactly the bracket's evaluations followed by Brent's own; the `funcalls` it REPORTS counts only its own (the
bracket's count is overwritten by `funcalls = 1`, l.1413), equals `iter + 1`, and `iter <= maxiter`. -/
theorem brent_evaluations_logged [Add R] [Sub R] [Mul R] [Div R] [Neg R] [LT R] [DecidableLT R] [LE R] [DecidableLE R]
    [BEq R] (k : K R) (f : R → R) (brack : Brack R) (tol : R) (maxiter bmax fuel : Nat) (o : Out R)
    (h : brent k f brack tol maxiter bmax fuel = .ok o) :
    Faithful f o.log ∧ o.log.length = o.nbracket + o.funcalls ∧ o.funcalls = o.iter + 1 ∧ o.iter ≤ maxiter := by
  obtain ⟨bk, hb, ho⟩ := brent_ok k f brack tol maxiter bmax fuel o h
  obtain ⟨hf, hn⟩ := getBracketInfo_log k f brack bmax fuel bk hb
  obtain ⟨l, h1, h2, h3, h4, h5, h6⟩ := optimize_log k f tol maxiter bk o ho
  refine ⟨by rw [h1]; exact hf.append h2, ?_, h4, h5⟩
  rw [h1, List.length_append, h6, hn, h3]

/-- **`bracket` terminates within the fuel bound and counts its evaluations.**  With `maxiter + 2` units of fuel the
model never runs out (pass `maxiter + 2` raises "Too many iterations"); a normal return has logged every evaluation
once, reports exactly that many, and made at most two per pass. -/
theorem bracket_terminates [Add R] [Sub R] [Mul R] [Div R] [Neg R] [LT R] [DecidableLT R] [LE R] [DecidableLE R] [BEq R]
    (k : K R) (f : R → R) (xa xb : R) (maxiter fuel : Nat) (hf : maxiter + 2 ≤ fuel) :
    (∀ lg, bracket k f xa xb maxiter fuel ≠ .error (.fuel, lg)) ∧
    ∀ r, bracket k f xa xb maxiter fuel = .ok r →
      Faithful f r.log ∧ r.funcalls = r.log.length ∧ 3 ≤ r.funcalls ∧ r.funcalls ≤ 3 + 2 * (maxiter + 1) :=
  ⟨fun lg => bracketLoop_ne_fuel k f maxiter fuel 0 _ lg hf (Nat.zero_le _), fun r h => bracket_log k f xa xb maxiter fuel r h⟩

/-- **`bracket` goes downhill.**  Over a linear order, a normal return `(xa, xb, xc, fa, fb, fc)` consists of evaluated
points with their values, `fb <= fa`, `fb <= fc`, and `fb` is not above the value at either START point.  `fb` is the
least value evaluated, except after the exit `elif (fw > fb): xc = w; fc = fw; return`, which forgets the strictly
lower point `(xc, fc)`: if anything evaluated is below `fb` then `fb < fc` strictly. -/
theorem bracket_downhill [LinearOrder R] [Add R] [Sub R] [Mul R] [Div R] [Neg R] [BEq R]
    (k : K R) (f : R → R) (xa xb : R) (maxiter fuel : Nat) (r : Bk R) (h : bracket k f xa xb maxiter fuel = .ok r) :
    r.fb ≤ r.fa ∧ r.fb ≤ r.fc ∧ r.fb ≤ f xa ∧ r.fb ≤ f xb ∧
    (r.xa, r.fa) ∈ r.log ∧ (r.xb, r.fb) ∈ r.log ∧ (r.xc, r.fc) ∈ r.log ∧ r.fb = f r.xb ∧
    ((∃ e ∈ r.log, e.2 < r.fb) → r.fb < r.fc) := by
  have hs := bracket_spec k f xa xb maxiter fuel r h
  exact ⟨hs.ba, hs.bc, le_trans hs.start (min_le_left _ _), le_trans hs.start (min_le_right _ _), hs.memA, hs.memB,
    hs.memC, hs.faith _ hs.memB, hs.least⟩

/-- **Brent returns the best point it evaluated itself** (the full statement "the least of ALL evaluated values" is
false: `brent_can_return_above_an_evaluated_point`).  Over a linear order, from ANY bracket: Brent's own evaluations
are `l1 ++ [(xmin, fval)] ++ l2` (after the bracket's), nothing in `l1` is lower than `fval` and everything in `l2` is
STRICTLY higher - `x` is replaced on `fu <= fx`, so the returned point is the LAST lowest one -, `fval = func xmin`,
and `fval` is not above the value at the bracket's middle point (Brent's first evaluation). -/
theorem brent_returns_last_lowest [LinearOrder R] [Add R] [Sub R] [Mul R] [Div R] [Neg R] [BEq R]
    (k : K R) (f : R → R) (tol : R) (maxiter : Nat) (bk : Bk R) (o : Out R) (h : optimize k f tol maxiter bk = .ok o) :
    (∃ l1 l2, o.log = bk.log ++ (l1 ++ (o.xmin, o.fval) :: l2) ∧ (∀ e ∈ l1, o.fval ≤ e.2) ∧ (∀ e ∈ l2, o.fval < e.2) ∧
      o.funcalls = (l1 ++ (o.xmin, o.fval) :: l2).length) ∧ o.fval = f o.xmin ∧ o.fval ≤ f bk.xb := by
  obtain ⟨⟨l1, l2, h1, h2, h3, _, h5⟩, hv, hle, _⟩ := optimize_spec k f tol maxiter bk o h
  exact ⟨⟨l1, l2, h1, h2, h3, h5⟩, hv, hle⟩

/-- **`LsMono`: a line search never returns a worse point than its start.**  Over a linear order, whenever
`_linesearch_powell(func, p, xi)` returns (bracket did not raise), the returned value is the cost at the returned
point, one of the evaluated points, and is not above the cost at `p + 0*xi` (nor at `p + 1*xi`).  This is the contract
`Proofs/PowellS.lean` assumes of its line-search oracle. -/
theorem linesearch_never_worse_than_start [LinearOrder R] [Add R] [Sub R] [Mul R] [Div R] [Neg R] [BEq R]
    (k : K R) (func : Pt R → R) (p xi : Pt R) (tol : R) (maxiter bmax fuel : Nat) (o : Out R)
    (h : lineSearch k func p xi tol maxiter bmax fuel = .ok o) :
    o.fval = func (along p xi o.xmin) ∧ (o.xmin, o.fval) ∈ o.log ∧
    o.fval ≤ func (along p xi k.zero) ∧ o.fval ≤ func (along p xi k.one) := by
  obtain ⟨bk, hb, ho⟩ := brent_ok k _ .none tol maxiter bmax fuel o h
  have hbs := bracket_spec k (fun a => func (along p xi a)) k.zero k.one bmax fuel bk hb
  obtain ⟨⟨l1, l2, h1, _, _, _, _⟩, hv, hle, _⟩ := optimize_spec k _ tol maxiter bk o ho
  have hfb : bk.fb = func (along p xi bk.xb) := hbs.faith _ hbs.memB
  have h0 : o.fval ≤ bk.fb := by rw [hfb]; exact hle
  refine ⟨hv, h1 ▸ List.mem_append_right _ (List.mem_append_right _ List.mem_cons_self), le_trans h0 (le_trans hbs.start (min_le_left _ _)),
    le_trans h0 (le_trans hbs.start (min_le_right _ _))⟩

/-- the same for the oracle record handed to `Model/Powell.lean`, with `p + 0*xi = p` discharged by the two laws
`0*a = 0`, `a + 0 = a` -/
theorem lsOut_never_worse_than_start [LinearOrder R] [Add R] [Sub R] [Mul R] [Div R] [Neg R] [BEq R]
    (k : K R) (func : Pt R → R) (p xi : Pt R) (tol : R) (maxiter bmax fuel : Nat) (bad : Pt R → Pt R → Powell.LsOut R R)
    (o : Out R) (h : lineSearch k func p xi tol maxiter bmax fuel = .ok o)
    (hmul : ∀ a : R, k.zero * a = k.zero) (hadd : ∀ a : R, a + k.zero = a) (hlen : p.length ≤ xi.length) :
    (lsOut k func tol maxiter bmax fuel bad p xi).fret ≤ func p ∧
    (lsOut k func tol maxiter bmax fuel bad p xi).fret = func (lsOut k func tol maxiter bmax fuel bad p xi).x ∧
    (lsOut k func tol maxiter bmax fuel bad p xi).ncalls = o.nbracket + o.funcalls := by
  have hm := linesearch_never_worse_than_start k func p xi tol maxiter bmax fuel o h
  have hl := brent_evaluations_logged k _ .none tol maxiter bmax fuel o h
  have hz := along_zero k.zero hmul hadd p xi hlen
  unfold lsOut
  rw [h]
  simp only
  rw [hz] at hm
  exact ⟨hm.2.2.1, hm.1, hl.2.1⟩

/-- **The record for `Model/PowellS.lean`.**  If the point test `eqv` is equality, the record cut from a returning
line search lists exactly the evaluated points `p + alpha*xi` in call order (`pre ++ [y] ++ post`), `y` is the returned
point `p + alpha_min*xi`, no earlier point equals it, and `xi` is the scaled direction. -/
theorem lsRec_partition [Add R] [Sub R] [Mul R] [Div R] [Neg R] [LT R] [DecidableLT R] [LE R] [DecidableLE R] [BEq R]
    (k : K R) (eqv : Pt R → Pt R → Bool) (heqv : ∀ a b, eqv a b = true ↔ a = b) (func : Pt R → R) (tol : R)
    (maxiter bmax fuel : Nat) (bad : Pt R → Pt R → PowellS.LsRec R) (n : Nat) (p xi : Pt R) (o : Out R)
    (h : lineSearch k func p xi tol maxiter bmax fuel = .ok o) (hmem : (o.xmin, o.fval) ∈ o.log) :
    (lsRec k eqv func tol maxiter bmax fuel bad n p xi).pre ++ (lsRec k eqv func tol maxiter bmax fuel bad n p xi).y ::
        (lsRec k eqv func tol maxiter bmax fuel bad n p xi).post = o.log.map (fun e => along p xi e.1) ∧
    (lsRec k eqv func tol maxiter bmax fuel bad n p xi).y = along p xi o.xmin ∧
    (lsRec k eqv func tol maxiter bmax fuel bad n p xi).xi = vscale o.xmin xi ∧
    ∀ z ∈ (lsRec k eqv func tol maxiter bmax fuel bad n p xi).pre, z ≠ along p xi o.xmin := by
  have hex : ∃ a ∈ o.log.map (fun e => along p xi e.1), eqv (vadd p (vscale o.xmin xi)) a = true :=
    ⟨along p xi o.xmin, List.mem_map.mpr ⟨_, hmem, rfl⟩, (heqv _ _).mpr rfl⟩
  obtain ⟨r, hr⟩ := splitFirst_isSome _ _ hex
  obtain ⟨h1, h2, h3⟩ := splitFirst_some _ _ r hr
  unfold lsRec
  rw [h]
  simp only [hr]
  refine ⟨h1.symm, ((heqv _ _).mp h2).symm, trivial, fun z hz hzeq => ?_⟩
  have := h3 z hz
  rw [hzeq, (heqv (vadd p (vscale o.xmin xi)) (along p xi o.xmin)).mpr rfl] at this
  cases this

/-- **The closed system.**  With the modelled Brent search plugged in as the line-search oracle, `fmin_powell` still
returns exactly what the reference returns (instance of `powell_refines_ref`, which holds for every oracle): the
whole run is now a function of `func`, `x0`, the direction set, the tolerances and the limits alone. -/
theorem powell_with_brent_refines_ref [LinearOrder R] [Add R] [Sub R] [Mul R] [Div R] [Neg R] [BEq R]
    (k : K R) (c : Powell.Cfg R R) (tol : R) (imax bmax lsfuel : Nat) (bad : Pt R → Pt R → Powell.LsOut R R)
    (hls : c.ls = lsOut k c.f tol imax bmax lsfuel bad) (fuel : Nat) (x0 : Pt R) (direc : List (Pt R))
    (hstart : Powell.mStop c (Powell.mGen0 c x0 direc) = false)
    (h15 : c.conv (c.f x0) (Powell.sweep c (Powell.init c x0 direc)).fval = true →
      (c.maxfun ≤ (Powell.sweep c (Powell.init c x0 direc)).fcalls ∨ c.maxiter ≤ 1)) :
    Powell.mysticPowell c fuel x0 direc = Powell.refPowell c fuel x0 direc ∧
    c.ls = lsOut k c.f tol imax bmax lsfuel bad :=
  ⟨powell_refines_ref c fuel x0 direc hstart h15, hls⟩

/-! ### non-vacuity and the witnesses (integers; `gold = 3`, `cg = 1`, `abs = |.|`: the theorems hold for every `K`) -/

/-- a Boolean test of a normal return / of a raised exception (so that `decide` evaluates the run in the kernel) -/
def okSat {α : Type} (r : Res R α) (q : α → Bool) : Bool := match r with | .ok a => q a | .error _ => false
def errSat {α : Type} (r : Res R α) (q : Err × Log R → Bool) : Bool := match r with | .ok _ => false | .error e => q e

def kInt : K Int :=
  { abs := fun a => if a < 0 then -a else a, zero := 0, one := 1, two := 2, half := 1, gold := 3, verysmall := 0,
    growLimit := 110, mintol := 0, cg := 1 }

/-- a valley with a bump at 3: `f 0 = 9, f 1 = 4, f 4 = 1`, everything else `100` -/
def bumpF (a : Int) : Int := if a = 0 then 9 else if a = 1 then 4 else if a = 4 then 1 else 100

/-- a plain valley `(a - 5)^2` -/
def valleyF (a : Int) : Int := (a - 5) * (a - 5)

/-- `bracket` and `brent` return on the valley (the hypotheses of the theorems above are satisfiable), the bracket is a
genuine downhill triple and Brent's result is below both start values -/
example : okSat (bracket kInt valleyF 0 1 1000 1002) (fun r =>
    decide ((r.xa, r.xb, r.xc, r.fa, r.fb, r.fc, r.funcalls) = (4, 5, 8, 1, 0, 9, 5))) = true := by decide +kernel
example : okSat (brent kInt valleyF .none 0 5 1000 1002) (fun o =>
    decide (o.fval ≤ valleyF 0 ∧ o.fval ≤ valleyF 1 ∧ o.fval = valleyF o.xmin ∧ o.funcalls = o.iter + 1 ∧
      o.log.length = o.nbracket + o.funcalls)) = true := by decide +kernel

/-- **Witness: Brent can return a point ABOVE one it evaluated.**  On `bumpF` the bracket loop sees
`f 4 = 1 < f 1 = 4`, tries the parabola's vertex `w = 3` between them, finds `f 3 = 100 > f 1` and returns the triple
`(0, 1, 3)`, forgetting `(4, 1)`; Brent then stays at `x = 1`.  So "the returned point carries the least evaluated
value" is FALSE in general; what holds is `brent_returns_last_lowest` + `bracket_downhill` (in particular `LsMono`). -/
theorem brent_can_return_above_an_evaluated_point :
    okSat (brent kInt bumpF .none 0 3 1000 1002) (fun o =>
      decide (o.xmin = 1 ∧ o.fval = 4 ∧ ((4 : Int), (1 : Int)) ∈ o.log ∧ o.fval ≤ bumpF 0)) = true := by decide +kernel

/-- **Witness: `bracket` can fail to return** (then `_linesearch_powell` and the whole `fmin_powell` raise): on the
unbounded `-a` with `maxiter = 2` the fourth pass raises "Too many iterations" after 6 evaluations. -/
theorem bracket_too_many_witness :
    errSat (bracket kInt (fun a => -a) 0 1 2 4) (fun e => decide (e.1 = Err.tooMany ∧ e.2.length = 6)) = true := by
  decide +kernel

/-! `LsMono` NEEDS the linear order: with a NaN (here `none`: every comparison with it is false) everywhere but at
`alpha = 0` the bracket loop does not start (`fc < fb` is false), Brent starts at `x = 1`, and since `fu > fx` is false
for a NaN `fu` every new point REPLACES the best one: a NaN is returned - not `<=` the value 5 at the start. -/

instance : Add (Option Int) := ⟨fun a b => a.bind fun x => b.map (x + ·)⟩
instance : Sub (Option Int) := ⟨fun a b => a.bind fun x => b.map (x - ·)⟩
instance : Mul (Option Int) := ⟨fun a b => a.bind fun x => b.map (x * ·)⟩
instance : Div (Option Int) := ⟨fun a b => a.bind fun x => b.map (x / ·)⟩
instance : Neg (Option Int) := ⟨fun a => a.map (- ·)⟩
/-- IEEE-style order on `Option Int` with `none` as NaN (used by the witness below only) -/
def nanLt (a b : Option Int) : Prop := match a, b with | some x, some y => x < y | _, _ => False
def nanLe (a b : Option Int) : Prop := match a, b with | some x, some y => x ≤ y | _, _ => False
instance nanLT : LT (Option Int) := ⟨nanLt⟩
instance nanLE : LE (Option Int) := ⟨nanLe⟩
instance : DecidableLT (Option Int) := fun a b => by
  show Decidable (nanLt a b); unfold nanLt; cases a <;> cases b <;> infer_instance
instance : DecidableLE (Option Int) := fun a b => by
  show Decidable (nanLe a b); unfold nanLe; cases a <;> cases b <;> infer_instance

def kNan : K (Option Int) :=
  { abs := fun a => a.map fun x => if x < 0 then -x else x, zero := some 0, one := some 1, two := some 2, half := some 1,
    gold := some 3, verysmall := some 0, growLimit := some 110, mintol := some 0, cg := some 1 }

theorem linesearch_mono_fails_with_nan :
    okSat (brent kNan (fun a => if a = some 0 then some 5 else none) .none (some 0) 3 1000 1002) (fun o =>
      decide (o.fval = none ∧ ¬ (o.fval ≤ (some 5 : Option Int)))) = true := by decide +kernel

end brent

end MysticVerif.C08
