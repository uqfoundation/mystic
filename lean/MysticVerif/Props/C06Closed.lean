/-
C06 on the CLOSED loop (Model/ClosedLoop.lean): the whole solver - control state (counters, limits, flags), algorithm
state and the termination condition evaluated on both - is a value; `Step()` is a function of that value alone.  So a
run interrupted after ANY number of `Step()` calls and continued from the saved value is the uninterrupted run, for
every algorithm, every termination condition tree and every limit setting.  (That the pickled solver IS that value is
the correspondence part of C06: snapshots compared field by field, restored runs compared with uninterrupted ones.)
-/
import MysticVerif.Proofs.ClosedLoop

namespace MysticVerif.C06
open MysticVerif.Solver MysticVerif.Closed

variable {S : Type}

/-- **explicit `Step()` calls: `m` calls, save, `n` more calls = `m + n` calls** (states, iteration index and the list
of returned messages) -/
theorem steps_resume (a : Alg S) : ∀ (m n : Nat) (c : Ctl) (s : S) (k : Nat) (acc : List (Option Msg × Bool)),
    steps a (m + n) c s k acc =
      steps a n (steps a m c s k acc).1 (steps a m c s k acc).2.1 (steps a m c s k acc).2.2.1 (steps a m c s k acc).2.2.2 := by
  intro m
  induction m with
  | zero => intro n c s k acc; rw [Nat.zero_add]; rfl
  | succ m ih => intro n c s k acc; rw [Nat.add_right_comm]; exact ih n _ _ _ _

/-- **`Solve()` interrupted by its fuel running out (no stop message yet) and called again on the state it left = one
`Solve()` with the whole budget**: final control state, algorithm state, message, iteration and Step counts -/
theorem solve_resume (a : Alg S) : ∀ (f1 f2 : Nat) (c : Ctl) (s : S) (k n : Nat),
    (solve a f1 c s k n).msg = none →
    solve a (f1 + f2) c s k n =
      solve a f2 (solve a f1 c s k n).ctl (solve a f1 c s k n).st (solve a f1 c s k n).iters (solve a f1 c s k n).steps := by
  intro f1
  induction f1 with
  | zero => intro f2 c s k n _; rw [Nat.zero_add]; rfl
  | succ f1 ih =>
    intro f2 c s k n h
    rw [Nat.add_right_comm]
    cases hm : (stepOnce a c s k).2.2.1 with
    | some m => rw [solve_of_some a f1 c s k n hm] at h; cases h
    | none =>
      rw [solve_of_none a f1 c s k n hm] at h ⊢
      rw [solve_of_none a (f1 + f2) c s k n hm]
      exact ih f2 _ _ _ _ h

/-- **once `Solve()` has returned a message, more budget changes nothing** -/
theorem solve_stable (a : Alg S) : ∀ (f1 f2 : Nat) (c : Ctl) (s : S) (k n : Nat),
    (solve a f1 c s k n).msg.isSome = true → solve a (f1 + f2) c s k n = solve a f1 c s k n := by
  intro f1
  induction f1 with
  | zero => intro f2 c s k n h; cases h
  | succ f1 ih =>
    intro f2 c s k n h
    rw [Nat.add_right_comm]
    cases hm : (stepOnce a c s k).2.2.1 with
    | some m => rw [solve_of_some a f1 c s k n hm, solve_of_some a (f1 + f2) c s k n hm]
    | none =>
      rw [solve_of_none a f1 c s k n hm] at h ⊢
      rw [solve_of_none a (f1 + f2) c s k n hm]
      exact ih f2 _ _ _ _ h

/-- non-vacuity: a toy run (the state is a counter, each iteration logs 2 evaluations) cut after 2 Steps and continued -/
example :
    let a : Alg Nat := { step := fun s _ => s + 1, nlog := fun s => 2 * s, nrec := fun s => s, term := fun _ _ => false }
    let c : Ctl := { maxiter := .val 3, maxfun := .val 100 }
    let r := solve a 8 (solve a 2 c 0 0 0).ctl (solve a 2 c 0 0 0).st (solve a 2 c 0 0 0).iters (solve a 2 c 0 0 0).steps
    (solve a 2 c 0 0 0).msg = none ∧ (solve a 10 c 0 0 0).msg = some .lim ∧
    (solve a 10 c 0 0 0).st = r.st ∧ (solve a 10 c 0 0 0).iters = r.iters ∧ (solve a 10 c 0 0 0).ctl.evals = r.ctl.evals ∧
    (solve a 10 c 0 0 0).msg = r.msg := by
  decide

end MysticVerif.C06
