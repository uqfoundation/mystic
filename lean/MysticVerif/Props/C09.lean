/-
C09 - ensemble solvers return the best member and account for all work; the point generators behind them
enumerate the full Cartesian product / stay within their ranges.  Helper lemmas: Proofs/Ensemble.lean,
Proofs/EnsembleRun.lean; model: Model/Ensemble.lean, a transcription of mystic/math/grid.py, mystic/math/samples.py,
mystic/ensemble.py `_InitialPoints`, mystic/abstract_ensemble_solver.py `__update_bestSolver`, `__init_allSolvers`).

`K` is an arbitrary linearly ordered field (bounds, bin centres, sample points), `E` an arbitrary linear order
(energies; "the cost never returns NaN" is this hypothesis), `α`/`X` arbitrary types of grid values / solutions.
The sort keys of `randomly_bin` (`key : Nat → κ`, draw number ↦ `random()`) and the `rand(dim, npts)` matrix of
`_random_samples` are universally quantified: the statements hold for EVERY shuffle / every draw.

Clauses of the property and where they are:
* grid points enumerate the full Cartesian product ............ `gridpts_spec`, `gridpts_count`, `gridpts_empty_bin_witness`
* lattice: bin centres inside their cells and ranges ............ `lattice_bins_centres`, `lattice_points_spec`
* exactly prod(nbins) / npts members .......................... `lattice_points_spec`, `lattice_int_points_count`, `member_count`
* sampled points stay within their ranges ..................... `samples_in_range`, `samplepts_in_range` (uniform sampler),
    `dist_samples_in_range`, `samplepts_dist_in_range`, `clip_in_range` (user-supplied distribution: the draw / clip /
    redraw-what-sits-on-a-bound loop of `random_samples`, for ALL draw streams)
* randomly_bin: strided products, product = N for any shuffle .. `strided_prod`, `randomly_bin_spec`, `randomly_bin_none_spec`
* best energy = min over members, solution is that member's .... `update_best_min`, `update_best_last_tie`, `update_best_prev_irrelevant`;
    the same for a reduction repeated over the same members ...... `reduce_seq_min`, `reduce_seq_live_slots_kept`
* totals = sums over members .................................. `totals`
* every member carries the ensemble's configuration ........... `member_inherits`
* members are fresh copies of the nested solver (object identity), the configured instance handed to `SetNestedSolver`
  is a template that no solve advances, ensembles sharing it are independent
    ........................................................... `init_members_fresh`, `members_fresh_copies`,
                                                                `template_untouched`, `ensembles_independent`
* WHOLE ENSEMBLE RUNS, the members being closed loops of the solver model S (Model/EnsembleRun.lean): slot j holds the
  run from starting point j, `_all_*` are the members' values in order, total evaluations = sum of the members'
  evaluation-log lengths = calls of the user's cost, the reported best is one member's and the minimum, every member's
  stop message is true of its own counters; lattice: prod(nbins) members started at the cell centres
    ........................................................... `ensemble_members_in_order`, `ensemble_total_is_cost_calls`,
                                                                `nm_ensemble_total_is_cost_calls`, `ensemble_best_is_min_member`,
                                                                `ensemble_member_stops_truthfully`, `lattice_ensemble_members`
* step-wise mode (`Step()` loops, `Solve(step=True)`): slots kept, finished members not advanced, equivalence with
  run-to-completion for deterministic members ................. `ens_steps_keep_slots`, `finished_member_not_advanced`,
                                                                `member_steps_eq_run`, `step_mode_eq_solve`,
                                                                `member_steps_then_solve`, `steps_then_solve_eq_solve`
* `fillpts`: count and range for any optimisation runs ......... `fillpts_count`, `fillpts_in_range`, `holes_none_maximises_distance`
* the one-liners configure the ensemble their arguments describe `oneliner_termination`, `oneliner_members_inherit`, `oneliner_kinds_agree`
Not modelled here (checked on the implementation by the monitor of harness/c09.py only): that `copy.deepcopy` really
returns an independent object (the harness compares object identities and the template's state with the model on every
run), the map (order-preserving in its result), the optimisation runs inside `fillpts` (an oracle), Powell's `Finalize` in step-wise mode
(excluded from `step_mode_eq_solve`), the re-decoration of a finished Nelder-Mead member's objective in step-wise mode
(known finding F20e: the stored best vertex is clipped into the strict ranges).
-/
import MysticVerif.Proofs.Ensemble
import MysticVerif.Proofs.EnsembleRun

-- the statements of `totals` and `lattice_points_spec` carry section binders they do not use
set_option linter.unusedSectionVars false

namespace MysticVerif.C09
open MysticVerif.Ens

section Grid
variable {α : Type}

/-- **grid points enumerate the full Cartesian product of the bins, in lexicographic order** (first coordinate
slowest): for every non-empty list of bins in which no bin except possibly the last is empty, `gridpts q` is exactly
`cartesianLex q`; a vector is a grid point iff each coordinate lies in its bin (nothing is missing, nothing extra),
every grid point has one coordinate per bin, and no point is repeated when no bin repeats a value. -/
theorem gridpts_spec (q : List (List α)) (hq : q ≠ []) (h : ∀ b ∈ q.dropLast, b ≠ []) :
    gridpts q = some (cartesianLex q) ∧
    (∀ p, p ∈ cartesianLex q ↔ List.Forall₂ (fun x b => x ∈ b) p q) ∧
    (∀ p ∈ cartesianLex q, p.length = q.length) ∧
    ((∀ b ∈ q, b.Nodup) → (cartesianLex q).Nodup) :=
  ⟨gridpts_eq q hq h, cartesianLex_mem q, cartesianLex_point_length q, cartesianLex_nodup q⟩

/-- **count**: the number of grid points is the product of the bin sizes. -/
theorem gridpts_count (q : List (List α)) (hq : q ≠ []) (h : ∀ b ∈ q.dropLast, b ≠ []) :
    ∃ pts, gridpts q = some pts ∧ pts.length = (q.map List.length).prod := by
  refine ⟨_, gridpts_eq q hq h, ?_⟩
  rw [cartesianLex_length, List.prod_eq_foldr]

/-- `gridpts([])` raises IndexError (`q[-1]`). -/
theorem gridpts_empty_q : gridpts ([] : List (List α)) = none := rfl

/-- **the hypothesis of `gridpts_spec` is needed - the code violates the clause on a degenerate input**
(known finding F30): an empty bin that is not the last one is skipped; `gridpts [[], [1,2]]` returns two
one-coordinate points although the Cartesian product is empty. -/
theorem gridpts_empty_bin_witness :
    gridpts ([[], [1, 2]] : List (List Nat)) = some [[1], [2]] ∧ cartesianLex ([[], [1, 2]] : List (List Nat)) = [] := by
  decide +kernel

/-- non-vacuity: the docstring example of grid.py -/
example : gridpts ([[1, 2], [3, 4]] : List (List Nat)) = some [[1, 3], [1, 4], [2, 3], [2, 4]] := by decide +kernel
example : ([[1, 2], [3, 4]] : List (List Nat)) ≠ [] ∧ ∀ b ∈ ([[1, 2], [3, 4]] : List (List Nat)).dropLast, b ≠ [] := by decide +kernel

end Grid

section Lattice
variable {K : Type} [Field K] [LinearOrder K] [IsStrictOrderedRing K]

/-- **lattice bin centres** (ensemble.py l.77-78): for `lo ≤ hi` and `n > 0` bins there are exactly `n` centres; the
`j`-th is `lo + (j + 1/2) (hi - lo)/n`, it is the midpoint of cell `j = [lo + j w, lo + (j+1) w]`, `w = (hi-lo)/n`,
lies inside its own cell, the cell lies inside `[lo, hi]`, and for `lo < hi` the centre is strictly inside its cell
(hence strictly inside the range). -/
theorem lattice_bins_centres (lo hi : K) (n j : Nat) (hj : j < n) (h : lo ≤ hi) :
    (latticeBin lo hi n).length = n ∧
    ∃ c, (latticeBin lo hi n)[j]? = some c ∧ c = lo + ((j : K) + 1 / 2) * ((hi - lo) / (n : K)) ∧
      c = (cellLo lo hi n j + cellHi lo hi n j) / 2 ∧
      cellLo lo hi n j ≤ c ∧ c ≤ cellHi lo hi n j ∧ lo ≤ cellLo lo hi n j ∧ cellHi lo hi n j ≤ hi ∧
      (lo < hi → cellLo lo hi n j < c ∧ c < cellHi lo hi n j) :=
  ⟨latticeBin_length lo hi n, _, latticeBin_get lo hi n j hj h, rfl, centre_facts lo hi n j hj h⟩

/-- **lattice starting points** (`LatticeSolver._InitialPoints`, tuple `nbins`): when it returns, with positive bin
counts, the starting points are exactly the Cartesian product (in order) of the per-dimension centre lists - one
starting point per grid cell, each coordinate the centre of a cell of its own dimension - and there are
`prod(nbins)` of them, which is the member count `__init__` allocates for that `nbins` tuple. -/
theorem lattice_points_spec (pf : Bool) (dim : Nat) (lower upper : List K) (nbins : List Nat) (pts : List (List K))
    (h : latticePoints pf dim lower upper nbins = .ok pts) (hpos : ∀ n ∈ nbins, 0 < n) (hlen : nbins.length = dim) :
    ∃ bins : List (List K), bins.length = dim ∧
      (∀ k, k < dim → ∃ lo hi n, lower[k]? = some lo ∧ upper[k]? = some hi ∧ nbins[k]? = some n ∧
        bins[k]? = some (latticeBin lo hi n)) ∧
      pts = cartesianLex bins ∧ (∀ p, p ∈ pts ↔ List.Forall₂ (fun x b => x ∈ b) p bins) ∧
      pts.length = nbins.prod ∧ (0 < dim → memberCount (.nbinsTuple nbins) = some pts.length) := by
  rw [latticePoints] at h
  cases hb : latticeBins pf lower upper nbins dim 0 with
  | error e => rw [hb] at h; cases h
  | ok bins =>
    rw [hb] at h
    dsimp only at h
    obtain ⟨hl, hk⟩ := latticeBins_ok pf lower upper nbins dim 0 bins hb
    have hsz : bins.map List.length = nbins := latticeBins_sizes pf lower upper nbins bins (by rw [hlen]; exact hb)
    -- no bin is empty, so `gridpts` is the Cartesian product
    have hne : ∀ b ∈ bins, b ≠ [] := fun b hb' hnil =>
      absurd (hpos b.length (hsz ▸ List.mem_map_of_mem hb')) (by rw [hnil]; exact Nat.lt_irrefl 0)
    cases hg : gridpts bins with
    | none => rw [hg] at h; cases h
    | some g =>
      rw [hg] at h
      cases h
      have hq : bins ≠ [] := fun e => by rw [e] at hg; cases hg
      have he := gridpts_eq bins hq (fun b hb' => hne b (List.mem_of_mem_dropLast hb'))
      rw [hg] at he
      cases he
      have hcount : (cartesianLex bins).length = nbins.prod := by
        rw [cartesianLex_length, ← List.prod_eq_foldr, hsz]
      refine ⟨bins, hl, fun k hkd => by have := hk k hkd; rwa [Nat.zero_add] at this, rfl, cartesianLex_mem bins, hcount,
        fun hd => ?_⟩
      cases nbins with
      | nil => rw [← hlen] at hd; exact absurd hd (Nat.lt_irrefl 0)
      | cons a l => rw [memberCount_tuple, hcount]

end Lattice

/-- the hypothesis `hpos` of `lattice_points_spec` for `nbins = (2, 3)` -/
example : ∀ n ∈ [2, 3], 0 < n := by decide +kernel

section Samples
variable {K : Type} [Field K] [LinearOrder K] [IsStrictOrderedRing K]

/-- **samples stay within their range** (samples.py l.36, one entry `u*|ub-lb| + lb`): for `lb ≤ ub` and a draw
`0 ≤ u ≤ 1` the sample is in `[lb, ub]`; for `lb < ub` and `u < 1` (what `rand` returns) it is below `ub`.
Field statement: in binary64 the upper end can be exceeded by rounding (DESIGN 3; counted by the harness). -/
theorem samples_in_range (u lb ub : K) (h : lb ≤ ub) (h0 : 0 ≤ u) (h1 : u ≤ 1) :
    lb ≤ samplePt u lb ub ∧ samplePt u lb ub ≤ ub ∧ (lb < ub → u < 1 → samplePt u lb ub < ub) := by
  have hw := sub_nonneg.mpr h
  simp only [samplePt_of_nonneg u hw]
  exact ⟨le_add_of_nonneg_left (mul_nonneg h0 hw), le_sub_iff_add_le.mp (mul_le_of_le_one_left hw h1),
    fun hl hu => lt_sub_iff_add_lt.mp (mul_lt_of_lt_one_left (sub_pos.mpr hl) hu)⟩

/-- **samplepts**: for a `dim x npts` draw matrix with entries in `[0, 1]` and bounds `lb[i] ≤ ub[i]`, `samplepts`
returns exactly `npts` points of `len(lb)` coordinates, and coordinate `i` of every point lies in `[lb[i], ub[i]]`. -/
theorem samplepts_in_range (lb ub : List K) (npts : Nat) (us pts : List (List K))
    (h : samplepts lb ub npts us = .ok pts) (hrows : ∀ row ∈ us, row.length = npts)
    (hu : ∀ row ∈ us, ∀ t ∈ row, 0 ≤ t ∧ t ≤ 1)
    (hb : ∀ (i : Nat) (l u : K), lb[i]? = some l → ub[i]? = some u → l ≤ u) :
    pts.length = npts ∧ ∀ p ∈ pts, p.length = lb.length ∧
      ∀ (i : Nat) (v : K), p[i]? = some v → ∃ l u, lb[i]? = some l ∧ ub[i]? = some u ∧ l ≤ v ∧ v ≤ u := by
  rw [samplepts] at h
  cases hr : randomSamples lb ub us with
  | error e => rw [hr] at h; cases h
  | ok q =>
    rw [hr] at h
    cases h
    obtain ⟨hl, hq⟩ := randomSamples_rows lb ub us q hr
    refine ⟨by simp [transposeN], fun p hp => ?_⟩
    rw [← hl]
    refine transpose_spec (fun i v => ∃ l u, lb[i]? = some l ∧ ub[i]? = some u ∧ l ≤ v ∧ v ≤ u) npts q ?_ ?_ p hp
    · intro row hrow
      obtain ⟨i, hi⟩ := List.getElem?_of_mem hrow
      obtain ⟨l, u, r, _, _, hr', rfl⟩ := hq i row hi
      rw [List.length_map]
      exact hrows r (List.mem_of_getElem? hr')
    · intro i row hi x hx
      obtain ⟨l, u, r, a1, a2, a3, rfl⟩ := hq i row hi
      obtain ⟨t, ht, rfl⟩ := List.mem_map.mp hx
      have ht01 := hu r (List.mem_of_getElem? a3) t ht
      have hs := samples_in_range t l u (hb i l u a1 a2) ht01.1 ht01.2
      exact ⟨l, u, a1, a2, hs.1, hs.2.1⟩

end Samples

section DistSamples
variable {K : Type} [LinearOrder K]

/-- **sampled points stay within their ranges, for every distribution** (`random_samples(lb, ub, npts, dist, clip)`,
samples.py l.50-70: draw, clip, redraw the entries sitting on a bound, clip again, repeat).  For ALL draw streams (the
initial matrix `init` and every later redraw `draw`: any values whatsoever - mass outside the box on either side, on
the bounds, anything), any number of tries `n` and bounds `lb[i] ≤ ub[i]`: whenever the function returns, the result
has the shape of the initial draw, and every entry of coordinate row `i` lies in `[lb[i], ub[i]]` - strictly inside
when `clip=False` (an entry equal to a bound is always redrawn).  Only comparisons are involved: the statement is
exact for binary64 (no rounding caveat, unlike the uniform sampler). -/
theorem dist_samples_in_range (draw : Nat → Nat → K) (lb ub : List K) (init : List (List K)) (clip : Bool) (n c : Nat)
    (pts : List (List K)) (h : randomSamplesDist draw lb ub init clip n = .ok (c, pts))
    (hb : ∀ (i : Nat) (l u : K), lb[i]? = some l → ub[i]? = some u → l ≤ u) :
    pts.map List.length = init.map List.length ∧ pts.length = lb.length ∧
    ∀ (i : Nat) (row : List K), pts[i]? = some row → ∃ l u, lb[i]? = some l ∧ ub[i]? = some u ∧
      ∀ x ∈ row, l ≤ x ∧ x ≤ u ∧ (clip = false → l < x ∧ x < u) := by
  rw [randomSamplesDist] at h
  by_cases hs : init.length ≠ lb.length ∨ ub.length ≠ lb.length
  · rw [if_pos hs] at h; cases h
  · rw [if_neg hs] at h
    have hs1 : init.length = lb.length := Decidable.not_not.mp fun h' => hs (Or.inl h')
    have hs2 : ub.length = lb.length := Decidable.not_not.mp fun h' => hs (Or.inr h')
    have hl0 := clipRows_map_length lb ub init hs1.le (hs2 ▸ hs1.le)
    -- with or without the loop: `pts` is a clipped matrix of the shape of `init`, and with `clip=False` no row is flagged
    have key : pts.map List.length = init.map List.length ∧ (∃ rows', pts = clipRows lb ub rows') ∧
        (clip = false → anyBad lb ub pts = false) := by
      by_cases hc : clip = true
      · rw [if_pos hc] at h
        cases h
        exact ⟨hl0, ⟨init, rfl⟩, fun hf => absurd (hc.symm.trans hf) (by decide)⟩
      · rw [if_neg hc] at h
        have hlen0 := length_eq_of_map_length hl0
        obtain ⟨a1, a2, a3⟩ := resampleLoop_spec draw lb ub _ _ _ c pts (hlen0 ▸ hs1.le) (hlen0 ▸ hs2 ▸ hs1.le) h
        exact ⟨a2.trans hl0, a3.elim (fun e => ⟨init, e⟩) id, fun _ => a1⟩
    obtain ⟨k1, ⟨rows', rfl⟩, k3⟩ := key
    refine ⟨k1, (length_eq_of_map_length k1).trans hs1, fun i row hi => ?_⟩
    obtain ⟨l, u, a1, a2, a3⟩ := clipRows_entries lb ub rows' hb i row hi
    exact ⟨l, u, a1, a2, fun x hx => ⟨(a3 x hx).1, (a3 x hx).2.1, fun hc => (a3 x hx).2.2 (k3 hc)⟩⟩

/-- **samplepts with a distribution** (grid.py l.42-58, what `BuckshotSolver._InitialPoints` returns after
`SetDistribution`): exactly `npts` points of `len(lb)` coordinates, coordinate `i` of every point strictly inside
`(lb[i], ub[i])`, for all draw streams. -/
theorem samplepts_dist_in_range (draw : Nat → Nat → K) (lb ub : List K) (npts : Nat) (init : List (List K)) (n c : Nat)
    (pts : List (List K)) (h : sampleptsDist draw lb ub npts init n = .ok (c, pts))
    (hrows : ∀ row ∈ init, row.length = npts)
    (hb : ∀ (i : Nat) (l u : K), lb[i]? = some l → ub[i]? = some u → l ≤ u) :
    pts.length = npts ∧ ∀ p ∈ pts, p.length = lb.length ∧
      ∀ (i : Nat) (v : K), p[i]? = some v → ∃ l u, lb[i]? = some l ∧ ub[i]? = some u ∧ l < v ∧ v < u := by
  rw [sampleptsDist] at h
  cases hr : randomSamplesDist draw lb ub init false n with
  | error e => rw [hr] at h; cases h
  | ok r =>
    obtain ⟨c0, q⟩ := r
    rw [hr] at h
    cases h
    obtain ⟨s1, s2, s3⟩ := dist_samples_in_range draw lb ub init false n c0 q hr hb
    refine ⟨by simp, fun p hp => ?_⟩
    rw [← s2]
    refine transpose_spec (fun i v => ∃ l u, lb[i]? = some l ∧ ub[i]? = some u ∧ l < v ∧ v < u) npts q ?_ ?_ p hp
    · intro row hrow
      obtain ⟨r0, hr0, e⟩ := List.mem_map.mp (s1 ▸ List.mem_map_of_mem hrow : row.length ∈ init.map List.length)
      exact e ▸ hrows r0 hr0
    · intro i row hi x hx
      obtain ⟨l, u, b1, b2, b3⟩ := s3 i row hi
      exact ⟨l, u, b1, b2, (b3 x hx).2.2 rfl⟩

/-- one clipped entry is inside its range (numpy's kernel, bound returned on ties) -/
theorem clip_in_range (x lo hi : K) (h : lo ≤ hi) : lo ≤ clipPt x lo hi ∧ clipPt x lo hi ≤ hi :=
  clipPt_range x lo hi h

/-- non-vacuity: range `[0, 10]`, initial draw `-5, 3, 20` (outside on both sides); the first redraw `12, 5` is
outside AGAIN for one entry, the second redraw `7` is inside: two redraw calls, result strictly inside. -/
example : randomSamplesDist (fun c k => ([[12, 5], [7]].getD c []).getD k 0) [(0 : Int)] [10] [[-5, 3, 20]] false 1000
    = .ok (2, [[7, 3, 5]]) := by decide +kernel
/-- a distribution without mass inside the box: the loop gives up (`RuntimeError`) instead of returning a bad point -/
example : randomSamplesDist (fun _ _ => (99 : Int)) [0] [10] [[5, 20]] false 4 = .error .runtime := by decide +kernel
/-- `clip=True`: out-of-range entries are put ON the bounds -/
example : randomSamplesDist (fun _ _ => (0 : Int)) [0] [10] [[-5, 3, 20]] true 1000 = .ok (0, [[0, 3, 10]]) := by decide +kernel

end DistSamples

section Bins
variable {κ : Type} [LT κ] [DecidableLT κ]

/-- **strided products** (grid.py l.154-155 `[prod(result[i::dim]) for i in range(dim)]`): for `dim > 0` the `dim`
strided slices partition the list - the product of the `dim` strided products is the product of the whole list. -/
theorem strided_prod (l : List Nat) (d : Nat) (hd : 0 < d) :
    (stridedProducts l d).length = d ∧ (stridedProducts l d).prod = l.prod :=
  ⟨stridedProducts_length l d, stridedProducts_prod l d hd⟩

/-- `sorted(l, key=lambda v: random())` is a permutation of `l`, whatever the keys are. -/
theorem shuffle_perm (key : Nat → κ) (off : Nat) (l : List Nat) : (sortByKeys key off l).Perm l :=
  sortByKeys_perm key off l

/-- the trial division of `randomly_bin` always returns, and the factors multiply to `n` (`n ≥ 1`). -/
theorem factors_spec (n : Nat) (hn : 0 < n) : ∃ fs, factors n = some fs ∧ fs.prod = n := by
  obtain ⟨fs, hf⟩ := Option.isSome_iff_exists.mp (factors_isSome n hn)
  exact ⟨fs, hf, factors_prod n fs hf⟩

/-- **randomly_bin, `ndim` given** (what `LatticeSolver` uses for an integer `nbins`): for every `N ≥ 1`,
`ndim ≥ 1`, `ones`, and EVERY stream of sort keys (every shuffle), the call returns exactly `ndim` bins whose
product is `N` (`exact=True`); with `exact=False` the product is `N`, or `N-1` for the documented prime case. -/
theorem randomly_bin_spec (key : Nat → κ) (N d : Nat) (ones exact : Bool) (hN : 0 < N) (hd : 0 < d) :
    ∃ bins draws, randomlyBin key N (some d) ones exact = .ok bins draws ∧ bins.length = d ∧
      (bins.prod = N ∨ (exact = false ∧ 3 < N ∧ bins.prod = N - 1)) ∧ (exact = true → bins.prod = N) := by
  obtain ⟨bins, draws, h, hl, hp⟩ := randomlyBin_spec key N (some d) ones exact hN
    (fun e => Nat.ne_of_gt hd (Option.some.inj e))
  exact ⟨bins, draws, h, hl d rfl, hp⟩

/-- **randomly_bin, `ndim=None`**: the product of the returned bins is `N` (resp. `N-1` in the documented inexact
prime case) for every shuffle. -/
theorem randomly_bin_none_spec (key : Nat → κ) (N : Nat) (ones exact : Bool) (hN : 0 < N) :
    ∃ bins draws, randomlyBin key N none ones exact = .ok bins draws ∧
      (bins.prod = N ∨ (exact = false ∧ 3 < N ∧ bins.prod = N - 1)) ∧ (exact = true → bins.prod = N) := by
  obtain ⟨bins, draws, h, _, hp⟩ := randomlyBin_spec key N none ones exact hN (by intro e; cases e)
  exact ⟨bins, draws, h, hp⟩

/-- the degenerate request `randomly_bin(0, ndim)` (grid.py l.134, branches of the conditional swapped): ONE bin `[0]`
whatever `ndim ≥ 1` is, and a TypeError for `ndim=None` - outside the property's domain (`N ≥ 1`), recorded as is. -/
theorem randomly_bin_zero (key : Nat → κ) (d : Nat) (hd : 0 < d) (ones exact : Bool) :
    (∃ dr, randomlyBin key 0 (some d) ones exact = .ok [0] dr) ∧
    (match randomlyBin key 0 none ones exact with | .typeError => True | _ => False) := by
  have hnd : (some d : Option Nat) ≠ some 0 := fun e => Nat.ne_of_gt hd (Option.some.inj e)
  constructor
  · exact ⟨0, by simp [randomlyBin, hnd]⟩
  · simp [randomlyBin]

/-- non-vacuity: `randomly_bin(12, 3)` with the keys `1, 0, 2, 1, 0` -/
example : (match randomlyBin (fun i => [1, 0, 2, 1, 0].getD i 0) 12 (some 3) true true with
    | .ok bins _ => bins | .typeError => []) = [2, 3, 2] := by decide +kernel

end Bins

section LatticeInt
variable {K : Type} [Field K] [LinearOrder K] [IsStrictOrderedRing K] {κ : Type} [LT κ] [DecidableLT κ]

/-- **exactly as many lattice members as requested, integer `nbins`** (ensemble.py l.61-65 + l.73-82): for `N ≥ 1`
requested members in `dim ≥ 1` dimensions, whatever the shuffle, the bins `randomly_bin(N, dim, ones=True, exact=True)`
returns make `LatticeSolver._InitialPoints` produce exactly `N` starting points - the member count `__init__`
allocated for the integer `nbins`. -/
theorem lattice_int_points_count (key : Nat → κ) (pf : Bool) (N dim : Nat) (lower upper : List K)
    (hN : 0 < N) (hd : 0 < dim) (bins : List Nat) (draws : Nat) (pts : List (List K))
    (hb : randomlyBin key N (some dim) true true = .ok bins draws)
    (hp : latticePoints pf dim lower upper bins = .ok pts) :
    pts.length = N ∧ memberCount (.nbinsInt N) = some pts.length := by
  obtain ⟨b, d, hb', hl, _, hprod⟩ := randomly_bin_spec key N dim true true hN hd
  rw [hb] at hb'
  cases hb'
  have hprod := hprod rfl
  have hpos : ∀ n ∈ bins, 0 < n := pos_of_mem_of_prod_pos bins (hprod ▸ hN)
  obtain ⟨_, _, _, _, _, hlen, _⟩ := lattice_points_spec pf dim lower upper bins pts hp hpos hl
  rw [hlen, hprod]
  exact ⟨rfl, rfl⟩

end LatticeInt

section Bookkeeping
variable {X E : Type} [LinearOrder E]

/-- **the reported best is the minimum over the members and it IS a member** (`__update_bestSolver` on a fresh
ensemble, `_bestSolver is None`): for every non-empty member list the chosen solver `r` is one of the members - so
the reported energy, solution, evaluation and generation counters are that member's own - and its best energy is
`≤` every member's best energy, i.e. the minimum. -/
theorem update_best_min (ms : List (Member X E)) (hne : ms ≠ []) :
    ∃ r, updateBest none ms = some r ∧ r ∈ ms ∧ ∀ m ∈ ms, r.bestE ≤ m.bestE := by
  cases ms with
  | nil => exact absurd rfl hne
  | cons m ms =>
    refine ⟨scanBest m (m :: ms), rfl, ?_, (scanBest_spec m (m :: ms)).2.2⟩
    rcases (scanBest_spec m (m :: ms)).1 with h | h
    · rw [h]; simp
    · exact h

/-- **tie behaviour, as coded (`<=`)**: among several members with the minimal energy the LAST one in member order is
reported: every member after the reported one has a strictly larger best energy. -/
theorem update_best_last_tie (ms : List (Member X E)) (r : Member X E) (h : updateBest none ms = some r) :
    ∃ pre post, ms = pre ++ r :: post ∧ (∀ m ∈ pre, r.bestE ≤ m.bestE) ∧ ∀ m ∈ post, r.bestE < m.bestE := by
  cases ms with
  | nil => simp [updateBest] at h
  | cons m ms =>
    simp only [updateBest, Option.some.injEq] at h
    subst h
    rcases scanBest_last m (m :: ms) with ⟨h1, h2⟩ | ⟨pre, post, h1, h2⟩
    · exact absurd (h2 m (by simp)) (lt_irrefl _)
    · refine ⟨pre, post, h1, ?_, h2⟩
      intro x hx
      exact (scanBest_spec m (m :: ms)).2.2 x (by rw [h1]; simp [hx])

/-- **the stored previous best does not matter** (step mode: `_bestSolver` survives from the previous `Step`): whenever
some current member is at least as good as the stored one - in particular when the stored one is itself a member, or
a stale copy of a member whose energy has not increased - the result is the same as on a fresh ensemble. -/
theorem update_best_prev_irrelevant (p : Member X E) (ms : List (Member X E))
    (h : ∃ m ∈ ms, m.bestE ≤ p.bestE) : updateBest (some p) ms = updateBest none ms := by
  cases ms with
  | nil => obtain ⟨m, hm, _⟩ := h; cases hm
  | cons m0 ms =>
    simp only [updateBest, Option.some.injEq]
    obtain ⟨y, hy, hyp⟩ := h
    obtain ⟨r, hr, hmem, hmin⟩ := update_best_min (m0 :: ms) (by simp)
    exact scanBest_congr p m0 (m0 :: ms) ⟨r, hmem, le_trans (hmin y hy) hyp, hmin m0 (by simp)⟩

/-- the threaded reductions equal the reductions of a fresh ensemble, given an invariant `Rel p ms` ("the stored best `p`
still has a counterpart in the next member list `ms`") that makes the stored best harmless and is re-established by
every reduction -/
theorem reduceSeq_eq_fresh_of (live : Bool) (Rel : Member X E → List (Member X E) → Prop)
    (hRel : ∀ p ms, Rel p ms → ∃ m ∈ ms, m.bestE ≤ (refreshPrev live p ms).bestE) :
    ∀ (mss : List (List (Member X E))) (prev : Option (Member X E)),
      (∀ ms ∈ mss, ms ≠ []) →
      (∀ (k : Nat) (a b : List (Member X E)), mss[k]? = some a → mss[k + 1]? = some b → ∀ p ∈ a, Rel p b) →
      (∀ p ms, prev = some p → mss[0]? = some ms → Rel p ms) →
      reduceSeq live prev mss = mss.map (updateBest none) := by
  intro mss
  induction mss with
  | nil => intro prev _ _ _; rfl
  | cons ms rest ih =>
    intro prev hne hch h0
    have hb : updateBest (prev.map fun p => refreshPrev live p ms) ms = updateBest none ms := by
      cases prev with
      | none => rfl
      | some p => exact update_best_prev_irrelevant _ ms (hRel p ms (h0 p ms rfl rfl))
    rw [reduceSeq, List.map_cons, hb]
    refine congrArg (updateBest none ms :: ·) (ih _ (fun m hm => hne m (List.mem_cons_of_mem _ hm))
      (fun k a b ha hb' => hch (k + 1) a b ha hb') ?_)
    intro p ms' hp hms'
    obtain ⟨r, hr, hmem, _⟩ := update_best_min ms (hne ms (List.mem_cons_self ..))
    rw [hr] at hp
    exact Option.some.inj hp ▸ hch 0 ms ms' rfl hms' r hmem

/-- **a reduction repeated over the same members reports the minimum EVERY time** (`Step()` loops, `Solve(step=True)`,
`Step`s followed by a `Solve` that continues the members; `_bestSolver` survives from one reduction to the next).  Let
`mss` be the member lists seen by the successive reductions.  If no list is empty and every member of one list has a
counterpart in the next list that is at least as good (C04: a member's best energy never increases - the counterpart is
the same slot one `Step` later), then with an in-process map (`live = true`: the stored best is the live member) as
well as with a pickling map (`live = false`: the stored best is a stale copy) every reduction returns what a FRESH
ensemble would return on the current members: one of them, with the least energy - whoever led before, and whichever
slot the new leader sits in (first, last, in between). -/
theorem reduce_seq_min (live : Bool) (mss : List (List (Member X E))) (hne : ∀ ms ∈ mss, ms ≠ [])
    (hmono : ∀ (k : Nat) (a b : List (Member X E)), mss[k]? = some a → mss[k + 1]? = some b →
      ∀ p ∈ a, ∃ m ∈ b, m.bestE ≤ p.bestE) :
    reduceSeq live none mss = mss.map (updateBest none) ∧
    ∀ (k : Nat) (ms : List (Member X E)), mss[k]? = some ms →
      ∃ r, (reduceSeq live none mss)[k]? = some (some r) ∧ r ∈ ms ∧ ∀ m ∈ ms, r.bestE ≤ m.bestE := by
  have h1 : reduceSeq live none mss = mss.map (updateBest none) := by
    apply reduceSeq_eq_fresh_of live (fun p ms => ∃ m ∈ ms, m.bestE ≤ p.bestE) _ mss none hne hmono
    · intro p ms hp _; cases hp
    · intro p ms ⟨m, hm, hle⟩
      rcases refreshPrev_cases live p ms with h | h
      · exact ⟨m, hm, by rw [h]; exact hle⟩
      · exact ⟨_, h, le_refl _⟩
  refine ⟨h1, ?_⟩
  intro k ms hk
  obtain ⟨r, hr, hmem, hmin⟩ := update_best_min ms (hne ms (List.mem_of_getElem? hk))
  exact ⟨r, by rw [h1, List.getElem?_map, hk, Option.map_some, hr], hmem, hmin⟩

/-- **in-process map: no hypothesis on the energies at all.**  When the slots are kept from one reduction to the next
(every member id of one list occurs in the next: `ens_steps_keep_slots`), the stored best is looked up as the live
member of its slot, so the repeated reduction is the fresh one even if energies moved in any direction. -/
theorem reduce_seq_live_slots_kept (mss : List (List (Member X E))) (hne : ∀ ms ∈ mss, ms ≠ [])
    (hslots : ∀ (k : Nat) (a b : List (Member X E)), mss[k]? = some a → mss[k + 1]? = some b →
      ∀ p ∈ a, ∃ m ∈ b, m.id = p.id) :
    reduceSeq true none mss = mss.map (updateBest none) := by
  apply reduceSeq_eq_fresh_of true (fun p ms => ∃ m ∈ ms, m.id = p.id) _ mss none hne hslots
  · intro p ms hp _; cases hp
  · intro p ms ⟨m, hm, hid⟩
    have hsome : (ms.find? fun m => m.id == p.id).isSome = true := by
      rw [List.find?_isSome]
      exact ⟨m, hm, by simp [hid]⟩
    obtain ⟨m', hm'⟩ := Option.isSome_iff_exists.mp hsome
    refine ⟨m', List.mem_of_find?_eq_some hm', ?_⟩
    simp [refreshPrev, hm']

/-- the hypotheses matter, and the stale-copy mode is where: a member whose energy went UP between two reductions
(not a mystic solver: C04) is still reported, with its old energy, by the pickling-map reduction - and correctly
replaced by the in-process one -/
example :
    let a : Member Nat Nat := ⟨1, 0, 1, 0, 0⟩
    let a' : Member Nat Nat := ⟨5, 0, 2, 1, 0⟩
    let b : Member Nat Nat := ⟨3, 7, 1, 0, 1⟩
    let view := fun (l : List (Option (Member Nat Nat))) => l.map fun r => r.map fun m => (m.id, m.bestE)
    view (reduceSeq false none [[a, b], [a', b]]) = [some (0, 1), some (0, 1)] ∧
    view (reduceSeq true none [[a, b], [a', b]]) = [some (0, 1), some (1, 3)] := by
  decide +kernel

/-- non-vacuity of `reduce_seq_min`: three reductions over two slots in which the lead changes hands twice (slot 1
leads, slot 0 overtakes, slot 1 overtakes again); both map kinds report the current minimum every time -/
example :
    let mss : List (List (Member Nat Nat)) :=
      [[⟨9, 0, 1, 0, 0⟩, ⟨7, 1, 1, 0, 1⟩], [⟨4, 2, 3, 1, 0⟩, ⟨6, 1, 2, 1, 1⟩], [⟨4, 2, 4, 2, 0⟩, ⟨2, 3, 3, 2, 1⟩]]
    let view := fun (l : List (Option (Member Nat Nat))) => l.map fun r => r.map fun m => (m.id, m.bestE)
    view (reduceSeq true none mss) = [some (1, 7), some (0, 4), some (1, 2)] ∧
    view (reduceSeq false none mss) = view (reduceSeq true none mss) ∧
    view (reduceSeq true none mss) = view (mss.map (updateBest none)) := by
  decide +kernel

/-- an ensemble without members has no best solver (`_allSolvers[0]` raises IndexError) -/
theorem update_best_empty : updateBest (X := X) (E := E) none [] = none := rfl

/-- **totals are sums over the members** (`_total_evals = sum(_all_evals)`), whatever the order in which the
members are listed (any schedule of the map), and the reported member's own count is part of the total. -/
theorem totals (ms : List (Member X E)) :
    totalEvals ms = (ms.map (·.evals)).sum ∧ totalIters ms = (ms.map (·.gens)).sum ∧
    (allEvals ms).length = ms.length ∧
    (∀ ms', ms'.Perm ms → totalEvals ms' = totalEvals ms) ∧
    (∀ ms1 ms2, ms = ms1 ++ ms2 → totalEvals ms = totalEvals ms1 + totalEvals ms2) ∧
    (∀ r ∈ ms, r.evals ≤ totalEvals ms) := by
  refine ⟨totalEvals_eq_sum ms, totalIters_eq_sum ms, List.length_map _, ?_, ?_, ?_⟩
  · intro ms' hp; rw [totalEvals_eq_sum, totalEvals_eq_sum]; exact (hp.map _).sum_eq
  · intro ms1 ms2 h; rw [totalEvals_eq_sum, totalEvals_eq_sum, totalEvals_eq_sum, h, List.map_append, List.sum_append]
  · intro r hr; rw [totalEvals_eq_sum]; exact List.single_le_sum (by simp) _ (List.mem_map_of_mem hr)

/-- **member count** (`__init__` l.127-138): `npts` members for Buckshot/Sparsity, `nbins` for an integer `nbins`,
the product of the tuple for a tuple `nbins`. -/
theorem member_count (n : Nat) (a : Nat) (l : List Nat) :
    memberCount (.npts n) = some n ∧ memberCount (.nbinsInt n) = some n ∧
    memberCount (.nbinsTuple (a :: l)) = some (a :: l).prod :=
  ⟨rfl, rfl, memberCount_tuple a l⟩

/-- **every member carries the ensemble's configuration** (`__init_allSolvers`): after initialisation there are
exactly as many members as slots; every slot that was empty holds a copy of the nested solver configured with the
ensemble's ranges / limits / termination / constraints / penalty / reducer / objective, with `id = index + at`;
members that already existed are kept untouched. -/
theorem member_inherits {C : Type} (cfg : Cfg C) (at_ : Nat) (slots : List (Option (Slot C))) :
    (initSlots cfg at_ 0 slots).length = slots.length ∧
    (∀ i : Nat, slots[i]? = some none → (initSlots cfg at_ 0 slots)[i]? = some (⟨cfg, i + at_⟩ : Slot C)) ∧
    (∀ (i : Nat) (s : Slot C), slots[i]? = some (some s) → (initSlots cfg at_ 0 slots)[i]? = some s) := by
  refine ⟨initSlots_length cfg at_ slots 0, fun i hi => ?_, fun i s hi => ?_⟩
  · rw [initSlots_getElem?, hi, Nat.zero_add]; rfl
  · rw [initSlots_getElem?, hi]; rfl

/-- non-vacuity: three members, two of them tied at the minimum with different solutions: the LAST tied one wins,
the total is the sum. -/
example :
    let ms : List (Member (List Nat) Nat) := [⟨3, [1, 2], 5, 2, 0⟩, ⟨1, [0, 0], 7, 3, 1⟩, ⟨1, [9, 9], 2, 1, 2⟩, ⟨2, [3], 1, 1, 3⟩]
    (updateBest none ms).map (·.id) = some 2 ∧ totalEvals ms = 15 := by decide +kernel

end Bookkeeping

section Template
variable {S : Type}

/-- **every empty slot receives a fresh copy of the template** (`__init_allSolvers` l.413-424 with object identity):
the address in an empty slot was not allocated before (it is neither the configured nested solver handed to
`SetNestedSolver` nor any existing member), its state is the template's with `id = index + at` set on the COPY;
occupied slots are kept and no existing object - in particular the template - is changed. -/
theorem init_members_fresh (setId : S → Nat → S) (t at_ : Nat) (slots : List (Option Nat)) (h : Store S) (ht : t < h.next) :
    (initMembers setId t at_ 0 h slots).2.length = slots.length ∧
    (∀ a, a < h.next → (initMembers setId t at_ 0 h slots).1.get a = h.get a) ∧
    (∀ k : Nat, slots[k]? = some none → ∃ a, (initMembers setId t at_ 0 h slots).2[k]? = some a ∧ h.next ≤ a ∧ a ≠ t ∧
        (initMembers setId t at_ 0 h slots).1.get a = setId (h.get t) (k + at_)) ∧
    (∀ (k a : Nat), slots[k]? = some (some a) → (initMembers setId t at_ 0 h slots).2[k]? = some a) := by
  obtain ⟨a1, _, a3, a4, a5⟩ := initMembers_general setId t at_ slots 0 h ht
  refine ⟨a1, a3, ?_, a5⟩
  intro k hk
  obtain ⟨a, b1, b2, _, b4⟩ := a4 k hk
  exact ⟨a, b1, b2, Nat.ne_of_gt (Nat.lt_of_lt_of_le ht b2), by simpa using b4⟩

/-- **the members of a new ensemble are `n` distinct fresh copies, and member `k` ends as the nested solver run from
the TEMPLATE's state** (`run k` = whatever the nested solver does for starting point `k`: arbitrary). -/
theorem members_fresh_copies (setId : S → Nat → S) (run : Nat → S → S) (t at_ n : Nat) (h : Store S) (ht : t < h.next) :
    (solveNew setId run t at_ n h).2 = List.range' h.next n ∧
    (solveNew setId run t at_ n h).2.Nodup ∧ t ∉ (solveNew setId run t at_ n h).2 ∧
    (∀ k, k < n → (solveNew setId run t at_ n h).1.get (h.next + k) = run k (setId (h.get t) (k + at_))) := by
  obtain ⟨a1, _, _, a4⟩ := solveNew_spec setId run t at_ n h ht
  refine ⟨a1, by rw [a1]; exact List.nodup_range', ?_, a4⟩
  rw [a1]
  simp only [List.mem_range'_1, not_and, not_lt]
  intro hh; omega

/-- **the template is never advanced**: a solve of a new ensemble built on the nested solver at address `t` leaves `t`
and every other object that existed before (e.g. the members of another ensemble) exactly as it was - for ANY
behaviour `run` of the nested solvers, any member count and any id offset. -/
theorem template_untouched (setId : S → Nat → S) (run : Nat → S → S) (t at_ n : Nat) (h : Store S) (ht : t < h.next) :
    (solveNew setId run t at_ n h).1.get t = h.get t ∧
    ∀ a, a < h.next → (solveNew setId run t at_ n h).1.get a = h.get a :=
  ⟨(solveNew_spec setId run t at_ n h ht).2.2.1 t ht, (solveNew_spec setId run t at_ n h ht).2.2.1⟩

/-- **two ensembles built from one template are independent**: after ensemble 1 (any kind / count / nested-solver
behaviour) has been solved, a second ensemble built on the SAME configured instance ends with exactly the member
states it would have had if ensemble 1 had never existed; it does not disturb the members of ensemble 1; the
two member sets are disjoint and the template is still untouched. -/
theorem ensembles_independent (setId1 setId2 : S → Nat → S) (run1 run2 : Nat → S → S) (t at1 at2 n1 n2 : Nat)
    (h : Store S) (ht : t < h.next) :
    (solveNew setId2 run2 t at2 n2 (solveNew setId1 run1 t at1 n1 h).1).1.get t = h.get t ∧
    (solveNew setId2 run2 t at2 n2 (solveNew setId1 run1 t at1 n1 h).1).2.map
        (solveNew setId2 run2 t at2 n2 (solveNew setId1 run1 t at1 n1 h).1).1.get
      = (solveNew setId2 run2 t at2 n2 h).2.map (solveNew setId2 run2 t at2 n2 h).1.get ∧
    (∀ a ∈ (solveNew setId1 run1 t at1 n1 h).2,
      (solveNew setId2 run2 t at2 n2 (solveNew setId1 run1 t at1 n1 h).1).1.get a = (solveNew setId1 run1 t at1 n1 h).1.get a) ∧
    (∀ a ∈ (solveNew setId2 run2 t at2 n2 (solveNew setId1 run1 t at1 n1 h).1).2,
      a ∉ (solveNew setId1 run1 t at1 n1 h).2 ∧ a ≠ t) := by
  obtain ⟨a1, a2, a3, a4⟩ := solveNew_spec setId1 run1 t at1 n1 h ht
  have ht1 : t < (solveNew setId1 run1 t at1 n1 h).1.next := a2 ▸ Nat.lt_add_right n1 ht
  obtain ⟨b1, b2, b3, b4⟩ := solveNew_spec setId2 run2 t at2 n2 (solveNew setId1 run1 t at1 n1 h).1 ht1
  obtain ⟨c1, c2, c3, c4⟩ := solveNew_spec setId2 run2 t at2 n2 h ht
  refine ⟨by rw [b3 t ht1, a3 t ht], ?_, ?_, ?_⟩
  · rw [b1, c1, List.range'_eq_map_range, List.range'_eq_map_range, List.map_map, List.map_map]
    apply List.map_congr_left
    intro k hk
    have hk' : k < n2 := by simpa using hk
    simp only [Function.comp]
    rw [b4 k hk', c4 k hk', a3 t ht]
  · intro a ha
    rw [a1] at ha
    exact b3 a (a2 ▸ (List.mem_range'_1.mp ha).2)
  · intro a ha
    rw [b1] at ha
    have hle : h.next + n1 ≤ a := a2 ▸ (List.mem_range'_1.mp ha).1
    rw [a1, List.mem_range'_1]
    have hta : t < a := Nat.lt_of_lt_of_le (Nat.lt_add_right n1 ht) hle
    exact ⟨fun hlt => Nat.lt_irrefl _ (Nat.lt_of_lt_of_le hlt.2 hle), Nat.ne_of_gt hta⟩

/-- non-vacuity: a template with counter 0 at address 0; ensemble 1 (2 members) and ensemble 2 (3 members) advance their
own members only (`run k` adds `10 + k`); the template still reads 0 and the five member addresses are 1..5. -/
example :
    let h0 : Store Nat := ⟨fun _ => 0, 1⟩
    let r1 := solveNew (fun s _ => s) (fun k s => s + 10 + k) 0 0 2 h0
    let r2 := solveNew (fun s _ => s) (fun k s => s + 20 + k) 0 0 3 r1.1
    r1.2 = [1, 2] ∧ r2.2 = [3, 4, 5] ∧ r2.1.get 0 = 0 ∧ (r1.2 ++ r2.2).map r2.1.get = [10, 11, 20, 21, 22] := by decide +kernel

end Template

/-! ## whole ensemble runs: the members are closed loops of the solver model S (Model/EnsembleRun.lean)

`nd : Nested P S X E` is ANY nested solver type (its algorithm started at a point, its fresh state, how the best is read
off the state), `c0` the control state of a fresh copy of the configured nested solver (the ensemble's limits), `pts`
the starting points, `fuel` the bound on `Step` calls per member.  Everything below holds for every number of members,
all starting points, every termination condition and every limit setting. -/
section Runs
open MysticVerif.Solver MysticVerif.Closed
variable {P S X E : Type}

/-- **there are exactly as many members as starting points, slot `j` holds the run from starting point `j` with
`id = j + at`, and `_all_bestEnergy`, `_all_bestSolution`, `_all_evals`, `_all_iters` are the members' own values in
member order** (run-to-completion mode) -/
theorem ensemble_members_in_order [LE E] [DecidableLE E] (nd : Nested P S X E) (fuel : Nat) (c0 : Ctl) (at_ : Nat)
    (pts : List P) :
    (ensembleSolve nd fuel c0 at_ pts).members.length = pts.length ∧
    (∀ j, (ensembleSolve nd fuel c0 at_ pts).members[j]? =
      pts[j]?.map fun p => memberOf nd (memberRun nd fuel c0 p).ctl (memberRun nd fuel c0 p).st (j + at_)) ∧
    (ensembleSolve nd fuel c0 at_ pts).allE = pts.map (fun p => nd.bestE (memberRun nd fuel c0 p).st) ∧
    (ensembleSolve nd fuel c0 at_ pts).allX = pts.map (fun p => nd.bestX (memberRun nd fuel c0 p).st) ∧
    (ensembleSolve nd fuel c0 at_ pts).allEvals = pts.map (fun p => (memberRun nd fuel c0 p).ctl.evals) ∧
    (ensembleSolve nd fuel c0 at_ pts).allIters = pts.map (fun p => (memberRun nd fuel c0 p).ctl.gens) := by
  refine ⟨solveMembers_length nd fuel c0 at_ pts 0, fun j => ?_, ?_, ?_, ?_, ?_⟩
  · rw [show (ensembleSolve nd fuel c0 at_ pts).members = solveMembers nd fuel c0 at_ 0 pts from rfl,
      solveMembers_get, Nat.zero_add]
  · exact solveMembers_map nd fuel c0 at_ (·.bestE) _ (fun _ _ => rfl) pts 0
  · exact solveMembers_map nd fuel c0 at_ (·.bestX) _ (fun _ _ => rfl) pts 0
  · exact solveMembers_map nd fuel c0 at_ (·.evals) _ (fun _ _ => rfl) pts 0
  · exact solveMembers_map nd fuel c0 at_ (·.gens) _ (fun _ _ => rfl) pts 0

/-- **the total evaluation count is the number of calls made to the user's cost**: for every nested solver whose
evaluation log only grows on the states a run reaches (`I`), `_total_evals` is the sum of the members'
evaluation-log lengths and `_all_evals[j]` is the length of member `j`'s own log - each record of a log IS one call
of the cost (`Obj.evalB`, C01/C04).  Holds wherever each member stops. -/
theorem ensemble_total_is_cost_calls [LE E] [DecidableLE E] (nd : Nested P S X E) (fuel : Nat) (c0 : Ctl) (at_ : Nat)
    (pts : List P) (I : P → S → Nat → Prop) (h0 : ∀ p, I p nd.init 0)
    (hI : ∀ p s k, I p s k → I p ((nd.alg p).step s k) (k + 1))
    (hmono : ∀ p s k, I p s k → (nd.alg p).nlog s ≤ (nd.alg p).nlog ((nd.alg p).step s k))
    (hc : c0.evals = 0) (hl : ∀ p, (nd.alg p).nlog nd.init = 0) :
    (ensembleSolve nd fuel c0 at_ pts).allEvals = pts.map (fun p => (nd.alg p).nlog (memberRun nd fuel c0 p).st) ∧
    (ensembleSolve nd fuel c0 at_ pts).total = (pts.map (fun p => (nd.alg p).nlog (memberRun nd fuel c0 p).st)).sum := by
  have hm : ∀ p, (memberRun nd fuel c0 p).ctl.evals = (nd.alg p).nlog (memberRun nd fuel c0 p).st := by
    intro p
    have := solve_evals_eq_log_inv (nd.alg p) (I p) (hI p) (hmono p) fuel c0 nd.init 0 0 (h0 p)
    rw [hl p, hc] at this
    simpa [memberRun] using this
  have ha : (ensembleSolve nd fuel c0 at_ pts).allEvals = pts.map (fun p => (nd.alg p).nlog (memberRun nd fuel c0 p).st) := by
    obtain ⟨_, _, _, _, hEv, _⟩ := ensemble_members_in_order nd fuel c0 at_ pts
    rw [hEv]
    exact List.map_congr_left fun p _ => hm p
  refine ⟨ha, ?_⟩
  rw [← ha, List.sum_eq_foldl]
  rfl

/-- **the reported best energy / solution are those of ONE member - the run from one of the starting points - and the
energy is the minimum over all members** (every nested solver type, every termination) -/
theorem ensemble_best_is_min_member [LinearOrder E] (nd : Nested P S X E) (fuel : Nat) (c0 : Ctl) (at_ : Nat)
    (pts : List P) (hne : pts ≠ []) :
    ∃ r j p, (ensembleSolve nd fuel c0 at_ pts).best = some r ∧ pts[j]? = some p ∧
      r = memberOf nd (memberRun nd fuel c0 p).ctl (memberRun nd fuel c0 p).st (j + at_) ∧
      ∀ q ∈ pts, r.bestE ≤ nd.bestE (memberRun nd fuel c0 q).st := by
  have hne' : solveMembers nd fuel c0 at_ 0 pts ≠ [] := fun h =>
    hne (List.length_eq_zero_iff.mp ((solveMembers_length nd fuel c0 at_ pts 0).symm.trans (congrArg List.length h)))
  obtain ⟨r, hr, hmem, hle⟩ := update_best_min (solveMembers nd fuel c0 at_ 0 pts) hne'
  obtain ⟨j, hj⟩ := List.getElem?_of_mem hmem
  rw [solveMembers_get, Nat.zero_add] at hj
  obtain ⟨p, hp, e⟩ := Option.map_eq_some_iff.mp hj
  refine ⟨r, j, p, hr, hp, e.symm, fun q hq => ?_⟩
  have hq' : nd.bestE (memberRun nd fuel c0 q).st ∈ (solveMembers nd fuel c0 at_ 0 pts).map (·.bestE) := by
    rw [solveMembers_map nd fuel c0 at_ (·.bestE) _ (fun _ _ => rfl)]
    exact List.mem_map_of_mem hq
  obtain ⟨m, hm, e'⟩ := List.mem_map.mp hq'
  exact e' ▸ hle m hm

/-- **each member is subject to the ensemble's limits and termination, and its stop message is true**: a member
that reports `EvaluationLimits` has really reached a limit with ITS OWN counters, one that reports a signal exit was
asked to (C05 `solve_msg_truthful` for every member of the ensemble) -/
theorem ensemble_member_stops_truthfully (nd : Nested P S X E) (fuel : Nat) (c0 : Ctl) (p : P) (m : Msg)
    (h : (memberRun nd fuel c0 p).msg = some m) :
    (m = .lim → (memberRun nd fuel c0 p).ctl.maxfun.reached (memberRun nd fuel c0 p).ctl.evals = true ∨
                (memberRun nd fuel c0 p).ctl.maxiter.reached (memberRun nd fuel c0 p).ctl.gens = true) ∧
    (m = .sig → (memberRun nd fuel c0 p).ctl.earlyExit = true) :=
  Closed.solve_msg_truthful (nd.alg p) fuel c0 nd.init 0 0 m h

section NMRuns
variable {R : Type} [Add R] [Sub R] [Mul R] [Div R] [Neg R] [LinearOrder R] [BEq R] [OfNat R 0] [OfNat R 2]

/-- **ensembles of Nelder-Mead solvers: `_total_evals` = number of calls of the user's cost**, for every objective
(cost, penalty, constraints, ranges), coefficients, termination condition tree, limits, number of members and starting
points: the total is the sum of the members' evaluation-log lengths and `_all_evals` lists them in member order. -/
theorem nm_ensemble_total_is_cost_calls (o : Obj (Pt R) R) (coef : Coef R) (st clip0 mkVal : Pt R → Pt R)
    (cond : Term.Cond R) (fuel : Nat) (c0 : Ctl) (at_ : Nat) (pts : List (Pt R)) (hc : c0.evals = 0) :
    (ensembleSolve (nmNested o coef st clip0 mkVal cond) fuel c0 at_ pts).allEvals =
      pts.map (fun p => (memberRun (nmNested o coef st clip0 mkVal cond) fuel c0 p).st.log.length) ∧
    (ensembleSolve (nmNested o coef st clip0 mkVal cond) fuel c0 at_ pts).total =
      (pts.map (fun p => (memberRun (nmNested o coef st clip0 mkVal cond) fuel c0 p).st.log.length)).sum :=
  ensemble_total_is_cost_calls (nmNested o coef st clip0 mkVal cond) fuel c0 at_ pts (fun _ => nmFresh)
    (fun _ => by intro _; rfl)
    (fun _ _ k _ h0 => absurd h0 (Nat.succ_ne_zero k))
    (fun p s k h => nmAlg_mono o coef st clip0 mkVal cond p s k h) hc (fun _ => rfl)

end NMRuns

section LatticeRun
variable {K : Type} [Field K] [LinearOrder K] [IsStrictOrderedRing K] [LE E] [DecidableLE E]

/-- **a lattice ensemble has exactly `prod(nbins)` members and member `j` is the run started at the centre of grid cell
`j`** (cells in lexicographic order): `LatticeSolver._InitialPoints` composed with the map of `_solve` -/
theorem lattice_ensemble_members (nd : Nested (List K) S X E) (fuel : Nat) (c0 : Ctl) (at_ : Nat) (pf : Bool) (dim : Nat)
    (lower upper : List K) (nbins : List Nat) (r : EnsOut X E)
    (h : latticeEnsembleSolve nd fuel c0 at_ pf dim lower upper nbins = .ok r) (hpos : ∀ n ∈ nbins, 0 < n)
    (hlen : nbins.length = dim) :
    ∃ bins : List (List K), bins.length = dim ∧
      (∀ k, k < dim → ∃ lo hi n, lower[k]? = some lo ∧ upper[k]? = some hi ∧ nbins[k]? = some n ∧
        bins[k]? = some (latticeBin lo hi n)) ∧
      r.members.length = nbins.prod ∧
      ∀ j, r.members[j]? = (cartesianLex bins)[j]?.map fun p =>
        memberOf nd (memberRun nd fuel c0 p).ctl (memberRun nd fuel c0 p).st (j + at_) := by
  unfold latticeEnsembleSolve at h
  cases hp : latticePoints pf dim lower upper nbins with
  | error e => rw [hp] at h; cases h
  | ok pts =>
    rw [hp] at h
    simp only [Except.ok.injEq] at h
    obtain ⟨bins, hb1, hb2, hb3, _, hb5, _⟩ := lattice_points_spec pf dim lower upper nbins pts hp hpos hlen
    have ho := ensemble_members_in_order nd fuel c0 at_ pts
    rw [h] at ho
    refine ⟨bins, hb1, hb2, by rw [ho.1, hb5], ?_⟩
    intro j
    rw [ho.2.1 j, hb3]

end LatticeRun

/-- **`_Step`'s bookkeeping of `_allSolvers`**: any number of ensemble Steps keeps the number of members and every
member in its own slot with its own starting point (`__update_allSolvers` stores result `i` in slot `i`), and member
`i` has had exactly `n` calls of its own `Step()` -/
theorem ens_steps_keep_slots (nd : Nested P S X E) (n : Nat) (ms : List (P × MState S)) :
    (ensSteps nd n ms).length = ms.length ∧ (ensSteps nd n ms).map Prod.fst = ms.map Prod.fst ∧
    ∀ i : Nat, (ensSteps nd n ms)[i]? = ms[i]?.map fun (pm : P × MState S) => (pm.1, memberSteps (nd.alg pm.1) n pm.2) := by
  rw [ensSteps_eq_map]
  refine ⟨by simp, by simp [List.map_map, Function.comp_def], fun i => by simp⟩

/-- **a finished member is not advanced again**: once a member's `Step()` has returned a message (solver other than
Powell, non-empty step monitor), every later ensemble Step leaves its algorithm state, its iteration count, its
counters (`evaluations`, `generations`, step records) and its message as they are -/
theorem finished_member_not_advanced (a : Alg S) (m : MState S) (msg : Msg) (hp : m.ctl.powell = false)
    (hmsg : (memberStep a m).msg = some msg) (hn : (memberStep a m).ctl.nstep ≠ 0) (j : Nat) :
    (memberSteps a j (memberStep a m)).st = (memberStep a m).st ∧
    (memberSteps a j (memberStep a m)).k = (memberStep a m).k ∧
    (memberSteps a j (memberStep a m)).ctl.evals = (memberStep a m).ctl.evals ∧
    (memberSteps a j (memberStep a m)).ctl.gens = (memberStep a m).ctl.gens ∧
    (memberSteps a j (memberStep a m)).ctl.nstep = (memberStep a m).ctl.nstep ∧
    (1 ≤ j → (memberSteps a j (memberStep a m)).msg = some msg) := by
  obtain ⟨_, h2, h3, h4, h5⟩ := stopped_memberSteps a msg j (memberStep a m) (stopped_after_message a m msg hp hmsg hn)
  exact ⟨h2, h3, (counters_of_relive h4).1, (counters_of_relive h4).2.1, (counters_of_relive h4).2.2, h5⟩

/-- one member: `n` calls of `Step()` leave what `Solve()` leaves, once `n` covers the calls `Solve()` makes -/
theorem member_steps_eq_run (a : Alg S) (c0 : Ctl) (s0 : S) (fuel n : Nat) (hp : c0.powell = false)
    (hmsg : (solve a fuel c0 s0 0 0).msg.isSome = true) (hn : (solve a fuel c0 s0 0 0).ctl.nstep ≠ 0)
    (hge : (solve a fuel c0 s0 0 0).steps ≤ n) :
    (memberSteps a n { ctl := c0, st := s0, k := 0, msg := none }).st = (solve a fuel c0 s0 0 0).st ∧
    (memberSteps a n { ctl := c0, st := s0, k := 0, msg := none }).ctl.evals = (solve a fuel c0 s0 0 0).ctl.evals ∧
    (memberSteps a n { ctl := c0, st := s0, k := 0, msg := none }).ctl.gens = (solve a fuel c0 s0 0 0).ctl.gens ∧
    (memberSteps a n { ctl := c0, st := s0, k := 0, msg := none }).msg = (solve a fuel c0 s0 0 0).msg := by
  obtain ⟨msg, hm⟩ := Option.isSome_iff_exists.mp hmsg
  obtain ⟨_, h2, _, h4, h5⟩ := memberSteps_after_solve a fuel ⟨c0, s0, 0, none⟩ msg hp hm hn n hge
  exact ⟨h2, (counters_of_relive h4).1, (counters_of_relive h4).2.1, h5.trans hm.symm⟩

/-- **step-wise mode = run-to-completion mode** (deterministic members, every nested solver but Powell): `n` ensemble
`Step()`s - each of which calls `Step()` on EVERY member, finished or not - leave exactly the members that one
`Solve()` in run-to-completion mode leaves (result, counters, ids, in the same slots), as soon as `n` covers the
slowest member; hence the same report: best member, `_all_*`, totals.  (Each member stops within `fuel` calls and has
written a step record: both are facts about the member's own run, true of every real solver run that returns.) -/
theorem step_mode_eq_solve [LE E] [DecidableLE E] (nd : Nested P S X E) (fuel : Nat) (c0 : Ctl) (at_ : Nat) (pts : List P)
    (n : Nat) (hp : c0.powell = false)
    (hmsg : ∀ p ∈ pts, (memberRun nd fuel c0 p).msg.isSome = true)
    (hn : ∀ p ∈ pts, (memberRun nd fuel c0 p).ctl.nstep ≠ 0)
    (hge : ∀ p ∈ pts, (memberRun nd fuel c0 p).steps ≤ n) :
    viewMembers nd at_ 0 (ensSteps nd n (newMembers nd c0 pts)) = solveMembers nd fuel c0 at_ 0 pts ∧
    report (viewMembers nd at_ 0 (ensSteps nd n (newMembers nd c0 pts))) = ensembleSolve nd fuel c0 at_ pts := by
  have key : viewMembers nd at_ 0 (ensSteps nd n (newMembers nd c0 pts)) = solveMembers nd fuel c0 at_ 0 pts := by
    rw [ensSteps_eq_map, newMembers, List.map_map]
    exact viewMembers_eq_solveMembers nd fuel c0 at_ (fun p => memberSteps (nd.alg p) n ⟨c0, nd.init, 0, none⟩) pts 0
      fun p hq =>
        let ⟨e1, e2, e3, _⟩ := member_steps_eq_run (nd.alg p) c0 nd.init fuel n hp (hmsg p hq) (hn p hq) (hge p hq)
        ⟨e1, e2, e3⟩
  exact ⟨key, by rw [key]; rfl⟩

/-! non-vacuity: three countdown members (start value = energy, one unit per iteration, two cost calls per iteration,
stop at 0 or after 3 generations); the ensemble reports the member that reaches 0, totals 19 calls; 4 ensemble Steps
leave the same members as the run-to-completion solve, 2 Steps do not -/

def toyNested : Nested Nat (Nat × Nat) Nat Nat :=
  { alg := fun p => { step := fun s k => if k = 0 then (p, s.2 + 1) else (s.1 - 1, s.2 + 2), nlog := fun s => s.2,
                      nrec := fun s => s.2, term := fun s _ => s.1 == 0 },
    init := (0, 0), bestE := fun s => s.1, bestX := fun s => s.1 * 10 }

def toyC0 : Ctl := { maxiter := .val 3, maxfun := .val 100 }

example : (ensembleSolve toyNested 10 toyC0 0 [5, 2, 7]).members.map (fun m => (m.bestE, m.bestX, m.evals, m.gens, m.id))
      = [(2, 20, 7, 3, 0), (0, 0, 5, 2, 1), (4, 40, 7, 3, 2)] ∧
    (ensembleSolve toyNested 10 toyC0 0 [5, 2, 7]).best.map (fun m => (m.bestE, m.id)) = some (0, 1) ∧
    (ensembleSolve toyNested 10 toyC0 0 [5, 2, 7]).total = 19 := by decide +kernel

example : toyC0.powell = false ∧ (∀ p ∈ [5, 2, 7], (memberRun toyNested 10 toyC0 p).msg.isSome = true) ∧
    (∀ p ∈ [5, 2, 7], (memberRun toyNested 10 toyC0 p).ctl.nstep ≠ 0) ∧
    (∀ p ∈ [5, 2, 7], (memberRun toyNested 10 toyC0 p).steps ≤ 4) := by decide +kernel

def toyView (ms : List (Member Nat Nat)) : List (Nat × Nat × Nat × Nat × Nat) :=
  ms.map fun m => (m.bestE, m.bestX, m.evals, m.gens, m.id)

example : toyView (viewMembers toyNested 0 0 (ensSteps toyNested 4 (newMembers toyNested toyC0 [5, 2, 7])))
      = toyView (solveMembers toyNested 10 toyC0 0 0 [5, 2, 7]) ∧
    toyView (viewMembers toyNested 0 0 (ensSteps toyNested 2 (newMembers toyNested toyC0 [5, 2, 7])))
      ≠ toyView (solveMembers toyNested 10 toyC0 0 0 [5, 2, 7]) ∧
    (ensSolveStep toyNested 10 (newMembers toyNested toyC0 [5, 2, 7]) 0).2 = 4 := by decide +kernel

/-- one member: ANY number of `Step()` calls followed by its `Solve()` leave what one uninterrupted `Solve()` leaves
(state, counters, message) - whether the member was still running when `Solve()` took over or had already stopped -/
theorem member_steps_then_solve (a : Alg S) (c0 : Ctl) (s0 : S) (F fuel n : Nat) (hp : c0.powell = false)
    (hmsg : (solve a F c0 s0 0 0).msg.isSome = true) (hn : (solve a F c0 s0 0 0).ctl.nstep ≠ 0) (hF : F ≤ fuel) :
    (memberContinue a fuel (memberSteps a n { ctl := c0, st := s0, k := 0, msg := none })).st = (solve a F c0 s0 0 0).st ∧
    (memberContinue a fuel (memberSteps a n { ctl := c0, st := s0, k := 0, msg := none })).ctl.evals = (solve a F c0 s0 0 0).ctl.evals ∧
    (memberContinue a fuel (memberSteps a n { ctl := c0, st := s0, k := 0, msg := none })).ctl.gens = (solve a F c0 s0 0 0).ctl.gens ∧
    (memberContinue a fuel (memberSteps a n { ctl := c0, st := s0, k := 0, msg := none })).msg = (solve a F c0 s0 0 0).msg := by
  cases hc : (solve a n c0 s0 0 0).msg with
  | none =>
    obtain ⟨j, _, _, l1, l2, l3, hj, _⟩ := solve_eq_memberSteps a n ⟨c0, s0, 0, none⟩ 0
    obtain rfl : n = j := (hj hc).symm
    have hr := C06.solve_resume a n fuel c0 s0 0 0 hc
    have hs : solve a (n + fuel) c0 s0 0 0 = solve a F c0 s0 0 0 :=
      solve_stable_le a (Nat.le_trans hF (Nat.le_add_left fuel n)) c0 s0 0 0 hmsg
    obtain ⟨i1, i2, i3, _⟩ := solve_calls_irrelevant a fuel (solve a n c0 s0 0 0).ctl (solve a n c0 s0 0 0).st
      (solve a n c0 s0 0 0).iters 0 (solve a n c0 s0 0 0).steps
    rw [← hr, hs] at i1 i2 i3
    unfold memberContinue
    simp only
    rw [l1, l2, l3]
    exact ⟨i2, by rw [i1], by rw [i1], i3⟩
  | some msg0 =>
    have hc' : (solve a n c0 s0 0 0).msg.isSome = true := by rw [hc]; rfl
    have ho : solve a F c0 s0 0 0 = solve a n c0 s0 0 0 := by
      rcases Nat.le_total F n with h | h
      · exact (solve_stable_le a h c0 s0 0 0 hmsg).symm
      · exact solve_stable_le a h c0 s0 0 0 hc'
    -- the run had stopped within the `n` Steps: the member is stopped, its `Solve()` is one more `Step()` at the pre-check
    obtain ⟨j, hj2, h1, _⟩ := solve_eq_memberSteps a n ⟨c0, s0, 0, none⟩ 0
    obtain ⟨hst, h2, _, h4, _⟩ :=
      memberSteps_after_solve a n ⟨c0, s0, 0, none⟩ msg0 hp hc (ho ▸ hn) n (by rw [h1, Nat.zero_add]; exact hj2)
    have hF1 : F ≠ 0 := fun h0 => by rw [h0] at hmsg; cases hmsg
    obtain ⟨f', rfl⟩ := Nat.exists_eq_succ_of_ne_zero fun h0 => hF1 (Nat.le_zero.mp (h0 ▸ hF))
    rw [memberContinue_of_stopped a f' _ msg0 hst, ho]
    exact ⟨h2, (counters_of_relive h4).1, (counters_of_relive h4).2.1, hc.symm⟩

/-- **mixed mode = run-to-completion mode** (deterministic members, every nested solver but Powell): ANY number `n` of
ensemble `Step()`s followed by the ensemble's `Solve()` - which continues every existing member with its own `Solve()` -
leaves exactly the members that one `Solve()` of a fresh ensemble leaves (result, counters, ids, in the same slots),
hence the same report: the second reduction, over the same members, returns what the only reduction of the plain solve
returns - whoever was reported after the `Step`s. -/
theorem steps_then_solve_eq_solve [LE E] [DecidableLE E] (nd : Nested P S X E) (F fuel : Nat) (c0 : Ctl) (at_ : Nat)
    (pts : List P) (n : Nat) (hp : c0.powell = false) (hF : F ≤ fuel)
    (hmsg : ∀ p ∈ pts, (memberRun nd F c0 p).msg.isSome = true)
    (hn : ∀ p ∈ pts, (memberRun nd F c0 p).ctl.nstep ≠ 0) :
    viewMembers nd at_ 0 (ensStepsThenSolve nd fuel n (newMembers nd c0 pts)) = solveMembers nd F c0 at_ 0 pts ∧
    report (viewMembers nd at_ 0 (ensStepsThenSolve nd fuel n (newMembers nd c0 pts))) = ensembleSolve nd F c0 at_ pts := by
  have key : viewMembers nd at_ 0 (ensStepsThenSolve nd fuel n (newMembers nd c0 pts)) = solveMembers nd F c0 at_ 0 pts := by
    rw [ensStepsThenSolve, ensSteps_eq_map, newMembers, List.map_map, List.map_map]
    exact viewMembers_eq_solveMembers nd F c0 at_
      (fun p => memberContinue (nd.alg p) fuel (memberSteps (nd.alg p) n ⟨c0, nd.init, 0, none⟩)) pts 0
      fun p hq =>
        let ⟨e1, e2, e3, _⟩ := member_steps_then_solve (nd.alg p) c0 nd.init F fuel n hp (hmsg p hq) (hn p hq) hF
        ⟨e1, e2, e3⟩
  exact ⟨key, by rw [key]; rfl⟩

/-- non-vacuity (the countdown members above): 1 or 2 ensemble Steps - after which the lead is still with another member -
followed by `Solve()` leave the members of the plain solve, and 6 Steps (everybody has stopped) followed by `Solve()` too -/
example : toyView (viewMembers toyNested 0 0 (ensStepsThenSolve toyNested 10 1 (newMembers toyNested toyC0 [5, 2, 7])))
      = toyView (solveMembers toyNested 10 toyC0 0 0 [5, 2, 7]) ∧
    toyView (viewMembers toyNested 0 0 (ensStepsThenSolve toyNested 10 2 (newMembers toyNested toyC0 [5, 2, 7])))
      = toyView (solveMembers toyNested 10 toyC0 0 0 [5, 2, 7]) ∧
    toyView (viewMembers toyNested 0 0 (ensStepsThenSolve toyNested 10 6 (newMembers toyNested toyC0 [5, 2, 7])))
      = toyView (solveMembers toyNested 10 toyC0 0 0 [5, 2, 7]) := by decide +kernel

end Runs

section Fillpts
variable {P : Type}

/-- **space-filling points: exactly `npts` points are returned, none of them a legacy data point, each one the result
of one of the optimisation runs** - for every `npts` (0 included: the fixed F31), every legacy data list and whatever
the runs return -/
theorem fillpts_count (opt : Nat → List P → P) (npts : Nat) (data : List P) :
    (fillpts opt npts data).length = npts ∧
    (∃ new, fillLoop opt npts 0 data = data ++ new ∧ fillpts opt npts data = new) ∧
    ∀ x ∈ fillpts opt npts data, ∃ i ps, x = opt i ps := by
  obtain ⟨new, h1, h2, h3⟩ := fillLoop_spec opt npts 0 data
  have e : fillpts opt npts data = new := by
    unfold fillpts
    rw [h1]
    simp [h2]
  exact ⟨by rw [e, h2], ⟨new, h1, e⟩, by rw [e]; exact h3⟩

/-- **space-filling points stay within their ranges**: if every optimisation run returns a point of the box (C02 for
the bounded differential-evolution run `diffev(holes, x0=bounds, bounds=bounds)`), every returned point lies in it -/
theorem fillpts_in_range (opt : Nat → List P → P) (npts : Nat) (data : List P) (inBox : P → Prop)
    (h : ∀ j ps, inBox (opt j ps)) : ∀ x ∈ fillpts opt npts data, inBox x := by
  intro x hx
  obtain ⟨i, ps, rfl⟩ := (fillpts_count opt npts data).2.2 x hx
  exact h i ps

/-- **the objective handed to the optimiser (`rtol=None`) is minus the distance to the NEAREST collected point**, so
minimising it maximises that distance: a candidate scores at most another's iff it is at least as far from its nearest
point -/
theorem holes_none_maximises_distance {K : Type} [Field K] [LinearOrder K] [IsStrictOrderedRing K] (xs ys : List K)
    (a b : K) (ha : holesNone xs = some a) (hb : holesNone ys = some b) :
    (∃ r ∈ xs, a = -r ∧ ∀ d ∈ xs, r ≤ d) ∧ (∃ r ∈ ys, b = -r ∧ ∀ d ∈ ys, r ≤ d) ∧
    (a ≤ b ↔ ∀ r ∈ xs, (∀ d ∈ xs, r ≤ d) → ∀ t ∈ ys, (∀ d ∈ ys, t ≤ d) → t ≤ r) := by
  have key : ∀ (l : List K) (v : K), holesNone l = some v → ∃ r ∈ l, v = -r ∧ ∀ d ∈ l, r ≤ d := by
    intro l v hv
    cases l with
    | nil => cases hv
    | cons d ds =>
      obtain ⟨h1, h2⟩ := foldl_min_spec ds d
      exact ⟨_, h1, (Option.some.inj hv).symm, h2⟩
  obtain ⟨r, hr, har, hrmin⟩ := key xs a ha
  obtain ⟨t, ht, hbt, htmin⟩ := key ys b hb
  refine ⟨⟨r, hr, har, hrmin⟩, ⟨t, ht, hbt, htmin⟩, ?_⟩
  rw [har, hbt, neg_le_neg_iff]
  constructor
  · intro h r' hr' hr'min t' ht' ht'min
    have e1 : r' = r := le_antisymm (hr'min r hr) (hrmin r' hr')
    have e2 : t' = t := le_antisymm (ht'min t ht) (htmin t' ht')
    rw [e1, e2]; exact h
  · intro h; exact h r hr hrmin t ht htmin

/-- the code as it is, `rtol` given (l.105-107 `-res if res < rtol else 0.0`): a candidate CLOSER than `rtol` to a
collected point scores strictly LOWER (= better for the minimiser) than one that keeps the distance - the optimiser is
drawn to points just inside the radius, although the docstring promises points "at least rtol away" (observed on the
real code: distances 0.29999999.. for rtol = 0.3; not part of C09's statement, which claims count and range) -/
theorem holes_tol_prefers_points_inside_the_radius :
    holesTol (3 : Int) [2, 7] = some (-2) ∧ holesTol (3 : Int) [5, 7] = some 0 := by decide +kernel

/-- non-vacuity: two legacy points, three runs returning 10, 11, 12 -/
example : fillpts (fun j _ => 10 + j) 3 [1, 2] = [10, 11, 12] ∧ fillpts (fun j _ => 10 + j) 0 [1, 2] = [] := by decide +kernel

end Fillpts

section Oneliners
variable {R C : Type}

/-- **the termination a one-liner's `ftol` / `gtol` arguments stand for** (lattice / buckshot / sparsity alike): no
`gtol` - `NormalizedChangeOverGeneration(ftol, 10)`; a non-zero generation count `n` - `NormalizedChangeOverGeneration(ftol, n)`;
a FALSY `gtol` (`None` or `0`, mystic's convention for "no generation count") - the value-to-reach stop
`VTRChangeOverGeneration(ftol)` with its own defaults; and these are the only falsy arguments. -/
theorem oneliner_termination (k : TermConsts R) (ftol : R) :
    onelinerTerm k ftol .absent = .ncog ftol (some 10) k.eta ∧
    onelinerTerm k ftol .none = .vtrcog ftol k.vgtol (some 30) k.vtarget ∧
    onelinerTerm k ftol (.int 0) = .vtrcog ftol k.vgtol (some 30) k.vtarget ∧
    (∀ n : Int, n ≠ 0 → onelinerTerm k ftol (.int n) = .ncog ftol (some n) k.eta) ∧
    (∀ g : GTol, g.truthy = false ↔ g = .none ∨ g = .int 0) := by
  refine ⟨by simp [onelinerTerm, GTol.truthy, GTol.value], by simp [onelinerTerm, GTol.truthy, GTol.value],
    by simp [onelinerTerm, GTol.truthy, GTol.value], ?_, ?_⟩
  · intro n hn
    simp [onelinerTerm, GTol.truthy, GTol.value, hn]
  · intro g
    cases g with
    | absent => simp [GTol.truthy, GTol.value]
    | none => simp [GTol.truthy, GTol.value]
    | int n => simp [GTol.truthy, GTol.value]

/-- **every member of the ensemble a one-liner runs is subject to what the arguments say**: there are exactly
`memberCount first` members (product of the bins / `nbins` / `npts`), member `i` has `id = i + id-argument`, and each
carries the termination `onelinerTerm ftol gtol`, the limits `(maxiter, maxfun)`, the ranges `(unpair(bounds),
tightrange, cliprange)` (none without `bounds`), the `constraints` and the `penalty` of the call. -/
theorem oneliner_members_inherit (k : TermConsts R) (kind : OKind) (kw : Kw R C) (n : Nat)
    (hn : memberCount kw.first = some n) :
    ∃ ms, onelinerMembers k kind kw = some ms ∧ ms.length = n ∧
      ∀ i, i < n → ∃ s, ms[i]? = some s ∧ s.id = i + kw.id.getD 0 ∧
        s.cfg.termination = .term (onelinerTerm k kw.ftol kw.gtol) ∧
        s.cfg.limits = .limits kw.maxiter kw.maxfun ∧
        s.cfg.ranges = .ranges (kw.bounds.map fun b => (b.1, b.2, kw.tight, kw.clip)) ∧
        s.cfg.constraints = .fn kw.constraints ∧ s.cfg.penalty = .fn kw.penalty := by
  obtain ⟨h1, h2, _⟩ := member_inherits (oneliner k kind kw).cfg (oneliner k kind kw).at_ (List.replicate n none)
  refine ⟨initSlots (oneliner k kind kw).cfg (oneliner k kind kw).at_ 0 (List.replicate n none),
    by simp [onelinerMembers, hn], by simpa using h1, ?_⟩
  intro i hi
  have hs := h2 i (by simp [hi])
  exact ⟨_, hs, rfl, rfl, rfl, rfl, rfl, rfl⟩

/-- **the three one-liners differ in the point generator only**: for the same arguments `lattice`, `buckshot` and
`sparsity` hand the same termination, limits, ranges, constraints and penalty to their members, use the same member
count, id offset and distribution; `rtol` reaches the sparsity ensemble only. -/
theorem oneliner_kinds_agree (k : TermConsts R) (k1 k2 : OKind) (kw : Kw R C) :
    (oneliner k k1 kw).cfg = (oneliner k k2 kw).cfg ∧ (oneliner k k1 kw).count = (oneliner k k2 kw).count ∧
    (oneliner k k1 kw).at_ = (oneliner k k2 kw).at_ ∧ (oneliner k k1 kw).dist = (oneliner k k2 kw).dist ∧
    (oneliner k .sparsity kw).rtol = kw.rtol ∧ (k1 ≠ .sparsity → (oneliner k k1 kw).rtol = none) := by
  refine ⟨rfl, rfl, rfl, rfl, rfl, ?_⟩
  intro h
  cases k1 <;> simp_all [oneliner]

/-- non-vacuity: `sparsity(cost, 2, npts=3, ftol=5, gtol=None, maxiter=7, id=4)` - three members with ids 4, 5, 6 under
the value-to-reach stop; the same call with `gtol=2` - under NormalizedChangeOverGeneration(5, 2) -/
example :
    let k : TermConsts Nat := ⟨0, 1, 0⟩
    let kw : GTol → Kw Nat Unit := fun g =>
      { first := .npts 3, ftol := 5, gtol := g, maxiter := some 7, maxfun := none, bounds := none, tight := none, clip := none,
        constraints := none, penalty := none, dist := none, rtol := none, id := some 4 }
    ((onelinerMembers k .sparsity (kw .none)).map fun ms => ms.map (·.id)) = some [4, 5, 6] ∧
    (match onelinerTerm k 5 .none with | .vtrcog 5 1 (some 30) 0 => true | _ => false) = true ∧
    (match onelinerTerm k 5 (.int 2) with | .ncog 5 (some 2) 0 => true | _ => false) = true := by
  decide +kernel

end Oneliners

end MysticVerif.C09
