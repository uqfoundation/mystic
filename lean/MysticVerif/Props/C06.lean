/-
C06 - a checkpointed solver resumes exactly as if it had never been interrupted; restored solvers and deep copies
are independent of the original and keep counting their own evaluations.

PARTIAL BY NATURE: pickling (dill, `copy.deepcopy`, file IO) is run-time behaviour and is tied by the
correspondence / monitor only (harness/c06.py: every generation boundary of every run, four restore paths).
What is proved here, for ALL inputs:

 (a) the step functions of the model read nothing outside an EXPLICIT snapshot record, and running a prefix,
     saving, restoring and running the suffix equals the uninterrupted run - for differential evolution (1 and 2),
     Nelder-Mead and the control loop, for every cut point and every trial-vector / op list.  The snapshot
     records (Model/Checkpoint.lean) say which state must travel; `de_snapshot_must_carry_best` and
     `powell_midstep_dump_diverges` show that they cannot be made smaller / taken at another moment.
 (b) the aliasing model of the two cells shared by a solver and the closure of its decorated objective:
     `linked_counts`, `pickle_preserves_links`, `deepcopy_as_implemented_unlinks` (+ what it means:
     `deepcopy_copy_stops_counting`), `redecorate_relinks`, `copies_independent`.
 (c) settings handed to `Solve` / `Step` as keywords travel in the fields of the solver (`solve_kwds_*`).

Listed in DESIGN.md 5/C06 and NOT done as stated: `step_congr` is proved in the form "equal snapshots give equal
next snapshots" for DE, NM and Ctl (`*_step_congr`); there is no RNG in the model (trial vectors are inputs), so
`rng = rng'` is the equality of the trial lists.  Powell: the toy two-halves model (`powell_boundary_resume`,
`powell_midstep_dump_diverges`) shows the two halves of an iteration in isolation; the statements about the code are about the Powell-in-S model of C01-C04
(`Model/PowellS.lean`, Brent as a recorded oracle): `powellS_step_congr`, `powellS_resume`,
`resume_equals_uninterrupted_powell`, `powellS_restart_index`, the lossy-snapshot witnesses
`powellS_snapshot_must_carry_internals` / `_direc` and the periodic dump `powellS_midstep_dump_diverges`.
-/
import MysticVerif.Model.Checkpoint
import MysticVerif.Proofs.Solver
import MysticVerif.Proofs.NelderMead
import MysticVerif.Proofs.PowellResume
import MysticVerif.Proofs.Cells

namespace MysticVerif.C06
open MysticVerif.Solver MysticVerif.Checkpoint

variable {X E R : Type}

/-! ## (a) snapshots -/

@[simp] theorem de_restore_save (s : DE X E) : (DESnap.save s).restore = s := rfl
@[simp] theorem de_save_restore (p : DESnap X E) : DESnap.save p.restore = p := rfl
@[simp] theorem ctl_restore_save (c : Ctl) : (CtlSnap.save c).restore = c := rfl
@[simp] theorem ctl_save_restore (p : CtlSnap) : CtlSnap.save p.restore = p := rfl

theorem zip_fst_snd {α β : Type} : ∀ l : List (α × β), List.zip (l.map Prod.fst) (l.map Prod.snd) = l := by
  intro l
  induction l with
  | nil => rfl
  | cons p l ih => rw [List.map_cons, List.map_cons, List.zip_cons_cons, ih]

@[simp] theorem nm_restore_save (s : NM R E) : (NMSnap.save s).restore = s := by
  cases s
  simp [NMSnap.save, NMSnap.restore, zip_fst_snd]

/-- the model's run is the run the other properties (C01-C04) talk about -/
theorem de_run_eq_run1 [LT E] [DecidableLT E] (o : Obj X E) (tss : List (List X)) (s : DE X E) :
    DE.run false o tss s = DE.run1 o tss s := by
  unfold DE.run DE.run1
  simp

/-- **the step reads only the snapshot (DE)**: equal snapshots and equal trial vectors give equal next snapshots
(in the model the snapshot determines the state: `restore` inverts `save`) -/
theorem de_step_congr [LT E] [DecidableLT E] (two : Bool) (o : Obj X E) (ts : List X) (s s' : DE X E)
    (h : DESnap.save s = DESnap.save s') :
    DESnap.save (DE.run two o [ts] s) = DESnap.save (DE.run two o [ts] s') := by
  have : s = s' := by
    have := congrArg DESnap.restore h
    simpa using this
  rw [this]

/-- **resume = uninterrupted, differential evolution (1 and 2)**: for every cut point `k` and every list of trial
vectors (any strategy, any random draws), running `k` generations, writing the snapshot, restoring it and running
the remaining generations gives exactly the state of the uninterrupted run: population, energies, best, evaluation
monitor, step monitor. -/
theorem resume_equals_uninterrupted_de [LT E] [DecidableLT E] (two : Bool) (o : Obj X E) (k : Nat)
    (trialss : List (List X)) (s0 : DE X E) :
    DE.run two o (trialss.drop k) (DESnap.save (DE.run two o (trialss.take k) s0)).restore
      = DE.run two o trialss s0 := by
  rw [de_restore_save]
  unfold DE.run
  rw [← List.foldl_append, List.take_append_drop]

/-- the same statement for the run function of C01-C04 -/
theorem resume_equals_uninterrupted [LT E] [DecidableLT E] (o : Obj X E) (k : Nat) (trialss : List (List X))
    (s0 : DE X E) :
    DE.run1 o (trialss.drop k) (DESnap.save (DE.run1 o (trialss.take k) s0)).restore = DE.run1 o trialss s0 := by
  simpa [de_run_eq_run1] using resume_equals_uninterrupted_de false o k trialss s0

/-- a second generation of copies: restoring twice (a restored solver saved and restored again) changes nothing -/
theorem resume_twice_de [LT E] [DecidableLT E] (two : Bool) (o : Obj X E) (j k : Nat) (trialss : List (List X))
    (s0 : DE X E) :
    DE.run two o ((trialss.drop j).drop k)
        (DESnap.save (DE.run two o ((trialss.drop j).take k)
          (DESnap.save (DE.run two o (trialss.take j) s0)).restore)).restore
      = DE.run two o trialss s0 := by
  rw [resume_equals_uninterrupted_de, resume_equals_uninterrupted_de]

/-- cost `x²` on the integers, no constraints, no box -/
def exObj : Obj Int Int :=
  { raw := fun x => x * x, pen := fun _ => 0, K := id, inBox := fun _ => true, useRange := false, top := 1000000,
    add := (· + ·) }

/-- **which state must travel (DE)**: a restart file that drops the decoupled best (so that it is read back as
`population[0]`, `popEnergy[0]`) does NOT resume exactly. Witness: after one generation the best member is the
second one; the next trial for member 0 beats member 0 but not the best. -/
theorem de_snapshot_must_carry_best :
    let s1 := DE.run false exObj [[7, 3]] (DE.init exObj [7, 3] 7)
    (DE.run false exObj [[5, 4]] ((DESnap.save s1).restoreNoBest 0 exObj.top)).best
      ≠ (DE.run false exObj [[7, 3], [5, 4]] (DE.init exObj [7, 3] 7)).best := by
  decide

/-- non-vacuity of `resume_equals_uninterrupted_de`: a run in which members are replaced, cut in the middle -/
example : (DE.run false exObj [[7, 3], [1, -8], [0, 2]] (DE.init exObj [7, 3] 7)).pop = [0, 2]
    ∧ DESnap.save (DE.run false exObj ([[7, 3], [1, -8], [0, 2]].drop 2)
        (DESnap.save (DE.run false exObj ([[7, 3], [1, -8], [0, 2]].take 2) (DE.init exObj [7, 3] 7))).restore)
      = DESnap.save (DE.run false exObj [[7, 3], [1, -8], [0, 2]] (DE.init exObj [7, 3] 7)) := by
  decide

theorem nm_run_add [Add R] [Sub R] [Mul R] [Div R] [LT E] [DecidableLT E] [LE E] [DecidableLE E]
    (o : Obj (Pt R) E) (c : Coef R) (st : Pt R → Pt R) :
    ∀ (m n : Nat) (s : NM R E), NM.run o c st (m + n) s = NM.run o c st n (NM.run o c st m s) := by
  intro m
  induction m with
  | zero => intro n s; rw [Nat.zero_add]; rfl
  | succ m ih => intro n s; rw [Nat.add_right_comm]; exact ih n _

/-- **the step reads only the snapshot (Nelder-Mead)** -/
theorem nm_step_congr [Add R] [Sub R] [Mul R] [Div R] [LT E] [DecidableLT E] [LE E] [DecidableLE E]
    (o : Obj (Pt R) E) (c : Coef R) (st : Pt R → Pt R) (s s' : NM R E) (h : NMSnap.save s = NMSnap.save s') :
    NMSnap.save (NM.update o c st s).1 = NMSnap.save (NM.update o c st s').1 := by
  have : s = s' := by
    have := congrArg NMSnap.restore h
    simpa using this
  rw [this]

/-- **resume = uninterrupted, Nelder-Mead**: for every cut point `k <= n`, `k` iterations, snapshot (simplex rows,
their energies, both monitors), restore, `n - k` iterations = `n` iterations; for every objective, constraints
function (pure or in-place) and vertex arithmetic. -/
theorem resume_equals_uninterrupted_nm [Add R] [Sub R] [Mul R] [Div R] [LT E] [DecidableLT E] [LE E] [DecidableLE E]
    (o : Obj (Pt R) E) (c : Coef R) (st : Pt R → Pt R) (k n : Nat) (hk : k ≤ n) (s0 : NM R E) :
    NM.run o c st (n - k) (NMSnap.save (NM.run o c st k s0)).restore = NM.run o c st n s0 := by
  rw [nm_restore_save]
  have : n = k + (n - k) := (Nat.add_sub_cancel' hk).symm
  conv => rhs; rw [this]
  rw [nm_run_add]

theorem runOps_append (c : Ctl) (a b : List CtlOp) : runOps c (a ++ b) = runOps (runOps c a) b := by
  unfold runOps; rw [List.foldl_append]

theorem outputs_append : ∀ (a b : List CtlOp) (c : Ctl), outputs c (a ++ b) = outputs c a ++ outputs (runOps c a) b := by
  intro a
  induction a with
  | nil => intro b c; rfl
  | cons op a ih => intro b c; exact congrArg (outOp c op :: ·) (ih b (applyOp c op))

/-- **the step reads only the snapshot (control loop)** -/
theorem ctl_step_congr (c c' : Ctl) (op : CtlOp) (h : CtlSnap.save c = CtlSnap.save c') :
    CtlSnap.save (applyOp c op) = CtlSnap.save (applyOp c' op) ∧ outOp c op = outOp c' op := by
  have : c = c' := by
    have := congrArg CtlSnap.restore h
    simpa using this
  rw [this]; exact ⟨rfl, rfl⟩

/-- **resume = uninterrupted, control loop**: for every cut point and every op list
(`Step` with any termination verdicts and any per-step effect, `SetEvaluationLimits`, exit requests, `Finalize`),
the restored control state continues to the same counters / limits / flags AND returns the same messages. -/
theorem resume_equals_uninterrupted_ctl (k : Nat) (ops : List CtlOp) (c0 : Ctl) :
    runOps (CtlSnap.save (runOps c0 (ops.take k))).restore (ops.drop k) = runOps c0 ops
    ∧ outputs c0 (ops.take k) ++ outputs (CtlSnap.save (runOps c0 (ops.take k))).restore (ops.drop k)
        = outputs c0 ops := by
  rw [ctl_restore_save]
  constructor
  · rw [← runOps_append, List.take_append_drop]
  · rw [← outputs_append, List.take_append_drop]

/-- non-vacuity: a run that is cut, resumed, and then stops by its generation limit with the same message -/
example :
    let ops := [CtlOp.limits (some 2) none false, .step false false 1 0 1, .step false false 3 1 1,
                .step false false 3 1 1, .step false false 3 1 1]
    (outputs ({} : Ctl) ops).getLast? = some (some Msg.lim, false)
    ∧ outputs (CtlSnap.save (runOps ({} : Ctl) (ops.take 3))).restore (ops.drop 3)
        = [(some Msg.lim, true), (some Msg.lim, false)] := by
  decide

/-! ### Powell: boundary snapshots resume, the periodic dump does not -/

/-- a snapshot taken at an iteration boundary (what `SaveSolver` after `Step` stores) resumes exactly -/
theorem powell_boundary_resume (q : PwOracle X E) (m n : Nat) (s0 : Pw X E) :
    Pw.run q n (Pw.run q m s0) = Pw.run q (m + n) s0 := by
  induction m generalizing s0 with
  | zero => rw [Nat.zero_add]; rfl
  | succ m ih => rw [Nat.add_right_comm]; exact ih _

/-- toy oracles: extrapolate to `2x - x1` (energy |.|), line searches that end two units lower -/
def pwEx : PwOracle Int Int :=
  { extr := fun x x1 _ _ _ _ d => (2 * x - x1, (2 * x - x1).natAbs, d),
    lines := fun x _ _ => (x - 2, (x - 2).natAbs, 0, 2) }

def pwS0 : Pw Int Int :=
  { x := 10, fval := 10, x1 := 12, fx := 12, bigind := 0, delta := 1, direc := [1], stepmon := [(12, 12), (10, 10)],
    ehist := some 10 }

/-- **the periodic dump of PowellDirectionalSolver is taken in the middle of an iteration**: it misses the
second half's `__internals` (the point the iteration started from is a local variable), and the restored solver
starts a NEW iteration instead of finishing the interrupted one. Witness: one `Step` of the solver restored from
the dump differs from the uninterrupted solver both at the end of the interrupted iteration and after the next. -/
theorem powell_midstep_dump_diverges :
    Pw.step pwEx (Pw.periodicDump pwEx pwS0) ≠ Pw.step pwEx pwS0
    ∧ Pw.step pwEx (Pw.periodicDump pwEx pwS0) ≠ Pw.step pwEx (Pw.step pwEx pwS0)
    ∧ (Pw.step pwEx (Pw.periodicDump pwEx pwS0)).stepmon ≠ (Pw.step pwEx (Pw.step pwEx pwS0)).stepmon := by
  decide

/-! ### Powell inside the solver model S (`Model/PowellS.lean`): the real `_Step`, Brent as a recorded oracle

`PowellS.PwSnap` (Model/PowellResume.lean) = `population[0]`, `popEnergy[0]`, `__internals = [x1, fx, bigind, delta]`,
`_direc`, both monitors, the deferred-record flag of `energy_history`, the number of line searches made so far.
`PowellS.stepAt` is `_Step` with its `generations == 0` / `> 0` dispatch read from the snapshot; `PowellS.steps n`
is `n` Steps from ANY state. -/

/-- **the step reads only the snapshot (Powell)**: two solver states with the same snapshot make the same `_Step`:
equal next snapshots, and they ask Brent for the same line searches (same start points, same directions) -/
theorem powellS_step_congr [Sub R] [Mul R] [LT E] [DecidableLT E] (o : Obj (Pt R) E) (c : PowellS.PwCfg R E)
    (ls : Nat → Pt R → Pt R → PowellS.LsRec R) (s s' : PowellS.Pw R E)
    (h : PowellS.PwSnap.save s = PowellS.PwSnap.save s') :
    PowellS.PwSnap.save (PowellS.stepAt o c ls s) = PowellS.PwSnap.save (PowellS.stepAt o c ls s')
    ∧ ∃ t, (PowellS.stepAt o c ls s).reqs = s.reqs ++ t ∧ (PowellS.stepAt o c ls s').reqs = s'.reqs ++ t := by
  obtain ⟨t, ht⟩ := PowellS.stepAt_framed o c ls s
  have hs' := PowellS.eq_of_save_eq h
  have h1 := ht s.reqs
  rw [PowellS.setReqs_self] at h1
  have h2 := ht s'.reqs
  rw [← hs'] at h2
  refine ⟨?_, t, ?_, ?_⟩
  · rw [h2, PowellS.save_setReqs]
  · rw [h1]; rfl
  · rw [h2]; rfl

/-- **resume = uninterrupted, Powell's direction-set method**: for every objective (cost, constraints, strict ranges,
penalty), every Brent oracle and all `m`, `n`: `m` Steps from any state, writing the snapshot, restoring it and
`n` further Steps gives the snapshot of `m + n` uninterrupted Steps (population[0], popEnergy[0], __internals,
_direc, evaluation monitor, step monitor, deferred record, number of searches) - and the restored solver asks for
exactly the line searches the uninterrupted one asks for after the cut. -/
theorem powellS_resume [Sub R] [Mul R] [LT E] [DecidableLT E] (o : Obj (Pt R) E) (c : PowellS.PwCfg R E)
    (ls : Nat → Pt R → Pt R → PowellS.LsRec R) (m n : Nat) (s0 : PowellS.Pw R E) :
    PowellS.PwSnap.save (PowellS.steps o c ls n (PowellS.PwSnap.save (PowellS.steps o c ls m s0)).restore)
        = PowellS.PwSnap.save (PowellS.steps o c ls (m + n) s0)
    ∧ (PowellS.steps o c ls (m + n) s0).reqs
        = (PowellS.steps o c ls m s0).reqs
          ++ (PowellS.steps o c ls n (PowellS.PwSnap.save (PowellS.steps o c ls m s0)).restore).reqs := by
  rw [PowellS.steps_add, PowellS.restore_save]
  obtain ⟨t, ht⟩ := PowellS.steps_framed o c ls n (PowellS.steps o c ls m s0)
  have h1 := ht (PowellS.steps o c ls m s0).reqs
  rw [PowellS.setReqs_self] at h1
  refine ⟨?_, ?_⟩
  · rw [ht, PowellS.save_setReqs]
  · rw [ht []]
    conv => lhs; rw [h1]
    rfl

/-- the same for any number of Steps: equal snapshots stay equal -/
theorem powellS_steps_congr [Sub R] [Mul R] [LT E] [DecidableLT E] (o : Obj (Pt R) E) (c : PowellS.PwCfg R E)
    (ls : Nat → Pt R → Pt R → PowellS.LsRec R) (k : Nat) (s s' : PowellS.Pw R E)
    (h : PowellS.PwSnap.save s = PowellS.PwSnap.save s') :
    PowellS.PwSnap.save (PowellS.steps o c ls k s) = PowellS.PwSnap.save (PowellS.steps o c ls k s') := by
  obtain ⟨t, ht⟩ := PowellS.steps_framed o c ls k s
  have hs' := PowellS.eq_of_save_eq h
  have h2 := ht s'.reqs
  rw [← hs'] at h2
  rw [h2, PowellS.save_setReqs]

/-- a second generation of copies (a restored solver saved and restored again) changes nothing -/
theorem powellS_resume_twice [Sub R] [Mul R] [LT E] [DecidableLT E] (o : Obj (Pt R) E) (c : PowellS.PwCfg R E)
    (ls : Nat → Pt R → Pt R → PowellS.LsRec R) (m n k : Nat) (s0 : PowellS.Pw R E) :
    PowellS.PwSnap.save (PowellS.steps o c ls k (PowellS.PwSnap.save
        (PowellS.steps o c ls n (PowellS.PwSnap.save (PowellS.steps o c ls m s0)).restore)).restore)
      = PowellS.PwSnap.save (PowellS.steps o c ls (m + n + k) s0) := by
  have h1 := (powellS_resume o c ls m n s0).1
  have h2 := (powellS_resume o c ls n k (PowellS.PwSnap.save (PowellS.steps o c ls m s0)).restore).1
  rw [PowellS.steps_add _ _ _ n k] at h2
  rw [h2, powellS_steps_congr o c ls k _ _ h1, ← PowellS.steps_add]

/-- the runs C01-C04 talk about (`PowellS.reach`: generation 0, generation 1, then `n` iterations) are runs of the
dispatching step function -/
theorem powellS_reach_eq_steps [Sub R] [Mul R] [LinearOrder E] (o : Obj (Pt R) E) (c : PowellS.PwCfg R E)
    (ls : Nat → Pt R → Pt R → PowellS.LsRec R) (x0 : Pt R) (direc : List (Pt R)) (n : Nat) :
    PowellS.reach o c ls true x0 direc n = PowellS.steps o c ls (n + 1) (PowellS.gen0 o c true x0 direc) := by
  have h0 : PowellS.stepAt o c ls (PowellS.gen0 o c true x0 direc) = PowellS.gen1 o c ls (PowellS.gen0 o c true x0 direc) :=
    if_pos rfl
  have h1 : 0 < (PowellS.gen1 o c ls (PowellS.gen0 o c true x0 direc)).generations := by
    rw [PowellS.gen1, PowellS.sweep_generations]
    exact Nat.zero_lt_one
  show PowellS.run o c ls n _ = PowellS.steps o c ls n (PowellS.stepAt o c ls _)
  rw [h0, PowellS.steps_eq_run o c ls n _ h1]

/-- **resume = uninterrupted for a whole Powell run**: for every cut `k` (k = 0: the restart file written after
generation 0; k = j+1: after `reach .. j`) the restored solver continued to the end equals the uninterrupted run -/
theorem resume_equals_uninterrupted_powell [Sub R] [Mul R] [LinearOrder E] (o : Obj (Pt R) E) (c : PowellS.PwCfg R E)
    (ls : Nat → Pt R → Pt R → PowellS.LsRec R) (x0 : Pt R) (direc : List (Pt R)) (k n : Nat) (hk : k ≤ n + 1) :
    PowellS.PwSnap.save (PowellS.steps o c ls (n + 1 - k)
        (PowellS.PwSnap.save (PowellS.steps o c ls k (PowellS.gen0 o c true x0 direc))).restore)
      = PowellS.PwSnap.save (PowellS.reach o c ls true x0 direc n) := by
  have h := (powellS_resume o c ls k (n + 1 - k) (PowellS.gen0 o c true x0 direc)).1
  rw [Nat.add_sub_cancel' hk, ← powellS_reach_eq_steps] at h
  exact h

/-- **the oracle index may restart at 0**: the line-search counter is used for nothing but indexing the oracle, so
a restored solver may be continued with a counter reset to 0 against the recording of ITS OWN line searches
(this is how harness/c06.py restarts the model from the restored real solver) -/
theorem powellS_restart_index [Sub R] [Mul R] [LT E] [DecidableLT E] (o : Obj (Pt R) E) (c : PowellS.PwCfg R E)
    (ls : Nat → Pt R → Pt R → PowellS.LsRec R) (n : Nat) (s : PowellS.Pw R E) :
    PowellS.steps o c ls n s
      = PowellS.addNls s.nls (PowellS.steps o c (PowellS.shift s.nls ls) n { s with nls := 0 }) := by
  rw [← PowellS.steps_addNls]
  congr 1
  simp [PowellS.addNls]

/-- what the periodic dump lacks: completing the interrupted iteration from the dump needs the point the iteration
started from (`x1 = x.copy()`, a LOCAL variable of `_Step` at the time of the dump) -/
theorem powellS_dump_completion [Sub R] [Mul R] [LT E] [DecidableLT E] (o : Obj (Pt R) E) (c : PowellS.PwCfg R E)
    (ls : Nat → Pt R → Pt R → PowellS.LsRec R) (s : PowellS.Pw R E) :
    PowellS.sweep o c ls { PowellS.midDump o c ls s with x1 := (PowellS.extrapolate o c ls s).x1 }
      = PowellS.genN o c ls s := by
  unfold PowellS.genN PowellS.midDump
  rfl

/-- `x0^2 + x1^2 + x0*x1` on integer points, no constraints -/
def pwObj : Obj (Pt Int) Int :=
  { raw := fun x => (x.map fun v => v * v).foldl (· + ·) 0 + (x.headD 0) * (x.getD 1 0), pen := fun _ => 0, K := id,
    inBox := fun _ => true, useRange := false, top := 1000000, add := (· + ·) }

/-- the code's arithmetic decisions (scipy_optimize.py l.680-682, l.694-703) over the integers -/
def pwCfg : PowellS.PwCfg Int Int :=
  { diff := fun a b => a - b, gain := fun fx2 fval delta => decide (fx2 - fval > delta),
    tneg := fun fx fx2 fval delta =>
      decide (2 * (fx + fx2 - 2 * fval) * ((fx - fval - delta) * (fx - fval - delta)) - delta * (fx - fx2) * (fx - fx2) < 0),
    zeroE := 0, two := 2 }

/-- a line search that evaluates `p`, `p + xi`, `p - xi` and returns the best of the three -/
def pwLs : Nat → Pt Int → Pt Int → PowellS.LsRec Int := fun _ p xi =>
  if pwObj.raw (vadd p xi) < pwObj.raw p then { pre := [p], y := vadd p xi, post := [vsub p xi], xi := xi }
  else if pwObj.raw (vsub p xi) < pwObj.raw p then { pre := [p, vadd p xi], y := vsub p xi, post := [], xi := xi.map (fun v => -v) }
  else { pre := [], y := p, post := [vadd p xi, vsub p xi], xi := xi.map (fun _ => 0) }

def pwStart : PowellS.Pw Int Int := PowellS.gen0 pwObj pwCfg true [7, -5] [[1, 0], [0, 1]]

/-- non-vacuity of `powellS_resume` / `resume_equals_uninterrupted_powell`: a run in which the extrapolation line
search is taken and directions are replaced (`_direc` = [[0,1],[-2,2]] at the end), cut after two Steps -/
example :
    (PowellS.steps pwObj pwCfg pwLs 4 pwStart).direc = [[0, 1], [-2, 2]]
    ∧ (PowellS.steps pwObj pwCfg pwLs 4 pwStart).x = [0, 0]
    ∧ (PowellS.steps pwObj pwCfg pwLs 4 pwStart).nls = 10
    ∧ PowellS.PwSnap.save (PowellS.steps pwObj pwCfg pwLs 2 (PowellS.PwSnap.save (PowellS.steps pwObj pwCfg pwLs 2 pwStart)).restore)
        = PowellS.PwSnap.save (PowellS.steps pwObj pwCfg pwLs 4 pwStart) := by
  decide +kernel

/-- **which state must travel (Powell), 1**: a restart file without `__internals` (read back as a fresh instance has
them: `x1` = the zero vector, `fx` = inf, `bigind = 0`, `delta = 0.0`) does NOT resume exactly: already the next
Step ends at another point, with another step record -/
theorem powellS_snapshot_must_carry_internals :
    let s2 := PowellS.steps pwObj pwCfg pwLs 2 pwStart
    (PowellS.stepAt pwObj pwCfg pwLs ((PowellS.PwSnap.save s2).restoreNoInternals [0, 0] pwObj.top 0)).x
        ≠ (PowellS.stepAt pwObj pwCfg pwLs s2).x
    ∧ (PowellS.stepAt pwObj pwCfg pwLs ((PowellS.PwSnap.save s2).restoreNoInternals [0, 0] pwObj.top 0)).stepLog
        ≠ (PowellS.stepAt pwObj pwCfg pwLs s2).stepLog := by
  decide +kernel

/-- **which state must travel (Powell), 2**: a restart file without `_direc` - read back as the identity `eye(N)`
(what generation 0 installs, l.654), or as nothing - does NOT resume exactly once a direction has been replaced -/
theorem powellS_snapshot_must_carry_direc :
    let s2 := PowellS.steps pwObj pwCfg pwLs 2 pwStart
    s2.direc ≠ [[1, 0], [0, 1]]
    ∧ (PowellS.stepAt pwObj pwCfg pwLs ((PowellS.PwSnap.save s2).restoreNoDirec [[1, 0], [0, 1]])).x
        ≠ (PowellS.stepAt pwObj pwCfg pwLs s2).x
    ∧ (PowellS.stepAt pwObj pwCfg pwLs ((PowellS.PwSnap.save s2).restoreNoDirec [])).x
        ≠ (PowellS.stepAt pwObj pwCfg pwLs s2).x := by
  decide +kernel

/-- **the periodic dump of PowellDirectionalSolver, in the real step function**: the state pickled by
`__save_state()` in the middle of `_Step` (new point / record / direction set, OLD `__internals`) is not the state
at any Step boundary, and a solver restored from it starts a NEW iteration from the hybrid state: after one Step
its step monitor and its number of evaluations are those of the uninterrupted solver neither one nor two Steps
after the boundary (known finding F32) -/
theorem powellS_midstep_dump_diverges :
    let s2 := PowellS.steps pwObj pwCfg pwLs 2 pwStart
    let d := PowellS.midDump pwObj pwCfg pwLs s2
    PowellS.PwSnap.save d ≠ PowellS.PwSnap.save s2
    ∧ PowellS.PwSnap.save d ≠ PowellS.PwSnap.save (PowellS.stepAt pwObj pwCfg pwLs s2)
    ∧ (PowellS.stepAt pwObj pwCfg pwLs d).stepLog ≠ (PowellS.steps pwObj pwCfg pwLs 1 s2).stepLog
    ∧ (PowellS.stepAt pwObj pwCfg pwLs d).stepLog ≠ (PowellS.steps pwObj pwCfg pwLs 2 s2).stepLog
    ∧ (PowellS.stepAt pwObj pwCfg pwLs d).log.length ≠ (PowellS.steps pwObj pwCfg pwLs 1 s2).log.length
    ∧ (PowellS.stepAt pwObj pwCfg pwLs d).log.length ≠ (PowellS.steps pwObj pwCfg pwLs 2 s2).log.length := by
  decide +kernel

/-- **copies with their own `_direc` array are independent**: a `_Step` of one solver object leaves the state every
other object sees unchanged, provided they do not point to the same direction-set array -/
theorem powellS_step_frame [Sub R] [Mul R] [LT E] [DecidableLT E] (o : Obj (Pt R) E) (c : PowellS.PwCfg R E)
    (ls : Nat → Pt R → Pt R → PowellS.LsRec R) (h : PowellS.DHeap R) (a b : PowellS.PwObj R E) (hne : a.dptr ≠ b.dptr) :
    b.load (PowellS.stepObj o c ls h a).1 = b.load h := by
  unfold PowellS.stepObj PowellS.PwObj.load
  simp only [getD_set_ne _ _ _ hne]

/-- a deep copy sees what the original sees, owns a fresh array, and stepping either side never moves the other -/
theorem powellS_deepcopy_independent [Sub R] [Mul R] [LT E] [DecidableLT E] (o : Obj (Pt R) E) (c : PowellS.PwCfg R E)
    (ls : Nat → Pt R → Pt R → PowellS.LsRec R) (h : PowellS.DHeap R) (a : PowellS.PwObj R E) (hv : a.dptr < h.cells.length) :
    let h' := (PowellS.deepCopyObj h a).1
    let b := (PowellS.deepCopyObj h a).2
    b.load h' = a.load h ∧ a.load h' = a.load h
    ∧ b.load (PowellS.stepObj o c ls h' a).1 = b.load h'
    ∧ a.load (PowellS.stepObj o c ls h' b).1 = a.load h' := by
  have hne : a.dptr ≠ h.cells.length := Nat.ne_of_lt hv
  refine ⟨?_, ?_, ?_, ?_⟩
  · unfold PowellS.deepCopyObj PowellS.PwObj.load
    simp only [getD_append_length]
  · unfold PowellS.deepCopyObj PowellS.PwObj.load
    simp only [getD_append_of_lt _ _ _ hv]
  · exact powellS_step_frame o c ls _ _ _ hne
  · exact powellS_step_frame o c ls _ _ _ (Ne.symm hne)

/-- **a copy that shares the `_direc` array is NOT independent** (what `__copy__` gives, and what a `__deepcopy__`
that forgot the array would give): one Step of the original replaces a direction in place and the copy, which was
never advanced, now holds another direction set - and continues differently from the solver it was copied from -/
theorem powellS_shared_direc_not_independent :
    let s1 := PowellS.steps pwObj pwCfg pwLs 1 pwStart
    let h : PowellS.DHeap Int := { cells := [s1.direc] }
    let a : PowellS.PwObj Int Int := { s := s1, dptr := 0 }
    let b := (PowellS.shallowCopyObj h a).2
    let h1 := (PowellS.stepObj pwObj pwCfg pwLs h a).1
    (b.load h).direc = [[1, 0], [0, 1]] ∧ (b.load h1).direc = [[0, 1], [-1, 1]]
    ∧ (PowellS.stepAt pwObj pwCfg pwLs (b.load h)).x = [4, -2] ∧ (PowellS.stepAt pwObj pwCfg pwLs (b.load h1)).x = [3, -1]
    ∧ (PowellS.stepAt pwObj pwCfg pwLs (b.load h1)).fval ≠ (PowellS.stepAt pwObj pwCfg pwLs (b.load h)).fval := by
  decide +kernel

/-! ## (b) the shared cells -/

theorem calls_append (h : Heap) (l : Links) : ∀ (a b : List Nat), calls h l (a ++ b) = calls (calls h l a) l b := by
  intro a
  induction a generalizing h with
  | nil => intro b; rfl
  | cons t a ih => intro b; simp only [List.cons_append, calls]; exact ih _ b

/-- while the solver is linked to its objective, after `n` real calls of the user's cost
`evaluations` has grown by exactly `n` and the evaluation monitor holds exactly the `n` new records, in order -/
theorem linked_counts {l : Links} (hl : l.Linked) :
    ∀ (ts : List Nat) (h : Heap), l.Valid h →
      evaluations (calls h l ts) l = evaluations h l + ts.length ∧ monitor (calls h l ts) l = monitor h l ++ ts := by
  exact fun ts h hv => ⟨calls_evaluations_self hl.1 ts h hv.1, calls_monitor_self hl.2 ts h hv.2.2.1⟩

/-- if the cells the objective of `a` writes are none of `b`'s cells, then advancing `a`
(any number of evaluations) leaves `b`'s counter, evaluation monitor and hiddenCount closure cells unchanged -/
theorem copies_independent (a b : Links)
    (h1 : a.closureCtr ≠ b.solverCtr) (h2 : a.closureCtr ≠ b.closureCtr)
    (h3 : a.closureMon ≠ b.solverMon) (h4 : a.closureMon ≠ b.closureMon) :
    ∀ (ts : List Nat) (h : Heap),
      evaluations (calls h a ts) b = evaluations h b ∧ monitor (calls h a ts) b = monitor h b
      ∧ hiddenCount (calls h a ts) b = hiddenCount h b
      ∧ (calls h a ts).mon.getD b.closureMon [] = h.mon.getD b.closureMon [] := by
  exact fun ts h =>
    ⟨calls_invariant a (evaluations · b) (fun g t => evaluations_call_ne g t h1) ts h,
     calls_invariant a (monitor · b) (fun g t => monitor_call_ne g t h3) ts h,
     calls_invariant a (hiddenCount · b) (fun g t => hiddenCount_call_ne g t h2) ts h,
     calls_invariant a (fun g => g.mon.getD b.closureMon []) (fun g t => mon_call_ne g a t h4) ts h⟩

/-- ONE pickle of the whole object graph (SaveSolver+LoadSolver, dill.dumps/loads)
gives a copy that is linked iff the original is, with the same counter value and monitor contents -/
theorem pickle_preserves_links (h : Heap) (l : Links) (hv : l.Valid h) :
    ((pickleCopy h l).2.Linked ↔ l.Linked)
    ∧ evaluations (pickleCopy h l).1 (pickleCopy h l).2 = evaluations h l
    ∧ monitor (pickleCopy h l).1 (pickleCopy h l).2 = monitor h l
    ∧ hiddenCount (pickleCopy h l).1 (pickleCopy h l).2 = hiddenCount h l
    ∧ (pickleCopy h l).2.Valid (pickleCopy h l).1 := by
  obtain ⟨cShared, cSolver, cClosure, cSolverLt, cClosureLt, _, _⟩ := copy_cells h.ctr 0 l.solverCtr l.closureCtr
  obtain ⟨mShared, mSolver, _, mSolverLt, mClosureLt, _, _⟩ := copy_cells h.mon [] l.solverMon l.closureMon
  exact ⟨and_congr cShared mShared, cSolver, mSolver, cClosure, cSolverLt, cClosureLt, mSolverLt, mClosureLt⟩

/-- the restored solver shares no cell with the original: `copies_independent` applies in both directions -/
theorem pickle_copy_disjoint (h : Heap) (l : Links) (hv : l.Valid h) :
    let l' := (pickleCopy h l).2
    l'.closureCtr ≠ l.solverCtr ∧ l'.closureCtr ≠ l.closureCtr ∧ l'.closureMon ≠ l.solverMon ∧ l'.closureMon ≠ l.closureMon
    ∧ l.closureCtr ≠ l'.solverCtr ∧ l.closureCtr ≠ l'.closureCtr ∧ l.closureMon ≠ l'.solverMon ∧ l.closureMon ≠ l'.closureMon := by
  obtain ⟨v1, v2, v3, v4⟩ := hv
  intro l'
  obtain ⟨_, _, _, _, _, hc, _⟩ := copy_cells h.ctr 0 l.solverCtr l.closureCtr
  obtain ⟨_, _, _, _, _, hm, _⟩ := copy_cells h.mon [] l.solverMon l.closureMon
  have hc : h.ctr.length ≤ l'.closureCtr := hc
  have hm : h.mon.length ≤ l'.closureMon := hm
  exact ⟨Nat.ne_of_gt (Nat.lt_of_lt_of_le v1 hc), Nat.ne_of_gt (Nat.lt_of_lt_of_le v2 hc),
    Nat.ne_of_gt (Nat.lt_of_lt_of_le v3 hm), Nat.ne_of_gt (Nat.lt_of_lt_of_le v4 hm),
    Nat.ne_of_lt v2, Nat.ne_of_lt (Nat.lt_of_lt_of_le v2 hc), Nat.ne_of_lt v4, Nat.ne_of_lt (Nat.lt_of_lt_of_le v4 hm)⟩

/-- **a restored solver keeps counting its own evaluations and never touches the original**: after restoring a
linked solver from one pickle, `n` evaluations on the copy add `n` to the copy's `evaluations` and records to the
copy's monitor, and the original's `evaluations` / monitor are unchanged -/
theorem restored_counts_own (h : Heap) (l : Links) (hv : l.Valid h) (hl : l.Linked) (ts : List Nat) :
    let h' := (pickleCopy h l).1
    let l' := (pickleCopy h l).2
    evaluations (calls h' l' ts) l' = evaluations h l + ts.length
    ∧ monitor (calls h' l' ts) l' = monitor h l ++ ts
    ∧ evaluations (calls h' l' ts) l = evaluations h l
    ∧ monitor (calls h' l' ts) l = monitor h l := by
  obtain ⟨hlink, he, hm, _, hv'⟩ := pickle_preserves_links h l hv
  obtain ⟨d1, d2, d3, d4, _⟩ := pickle_copy_disjoint h l hv
  obtain ⟨c1, c2⟩ := linked_counts (hlink.mpr hl) ts _ hv'
  obtain ⟨i1, i2, _, _⟩ := copies_independent (pickleCopy h l).2 l d1 d2 d3 d4 ts (pickleCopy h l).1
  obtain ⟨_, _, _, _, _, _, cOld⟩ := copy_cells h.ctr 0 l.solverCtr l.closureCtr
  obtain ⟨_, _, _, _, _, _, mOld⟩ := copy_cells h.mon [] l.solverMon l.closureMon
  exact ⟨by rw [c1, he], by rw [c2, hm], i1.trans (cOld _ hv.1), i2.trans (mOld _ hv.2.2.1)⟩

/-- `AbstractSolver.__deepcopy__` copies `_cost` through a separate
`dill.copy`, so the copy is NEVER linked - whatever the original looked like -/
theorem deepcopy_as_implemented_unlinks (h : Heap) (l : Links) : ¬ (deepcopyImpl h l).2.Linked := by
  unfold Links.Linked deepcopyImpl
  simp

/-- ... which means: **the deep copy stops counting**. Its objective still runs (the hiddenCount counter moves), but
`evaluations` and the evaluation monitor of the copied solver stay where they were at the time of the copy -/
theorem deepcopy_copy_stops_counting (h : Heap) (l : Links) (ts : List Nat) :
    let h' := (deepcopyImpl h l).1
    let l' := (deepcopyImpl h l).2
    evaluations (calls h' l' ts) l' = evaluations h l ∧ monitor (calls h' l' ts) l' = monitor h l := by
  intro h' l'
  -- the copy's objective writes cells `c0 + 1`, `m0 + 1`; the copied solver reads `c0`, `m0`
  refine ⟨(calls_invariant l' (evaluations · l') (fun g t => evaluations_call_ne g t (Nat.succ_ne_self _)) ts h').trans ?_,
    (calls_invariant l' (monitor · l') (fun g t => monitor_call_ne g t (Nat.succ_ne_self _)) ts h').trans ?_⟩
  · show (h.ctr ++ [_] ++ [_]).getD h.ctr.length 0 = _
    rw [List.append_assoc]; exact getD_append_length h.ctr _ _ 0
  · show (h.mon ++ [_] ++ [_]).getD h.mon.length [] = _
    rw [List.append_assoc]; exact getD_append_length h.mon _ _ []

/-- the closed witness: a solver with 3 evaluations is deep-copied, the copy evaluates twice: its `evaluations`
is still 3 (5 real calls were made through its objective), while a pickled copy says 5 -/
theorem deepcopy_stops_counting_witness :
    let a := fresh { ctr := [], mon := [] }
    let h := calls a.1 a.2 [10, 11, 12]
    let d := deepcopyImpl h a.2
    let p := pickleCopy h a.2
    evaluations (calls d.1 d.2 [13, 14]) d.2 = 3 ∧ hiddenCount (calls d.1 d.2 [13, 14]) d.2 = 5
    ∧ monitor (calls d.1 d.2 [13, 14]) d.2 = [10, 11, 12]
    ∧ evaluations (calls p.1 p.2 [13, 14]) p.2 = 5 ∧ monitor (calls p.1 p.2 [13, 14]) p.2 = [10, 11, 12, 13, 14] := by
  decide

/-- the deep copy IS independent of the original (its four cells are fresh) -/
theorem deepcopy_disjoint (h : Heap) (l : Links) (hv : l.Valid h) :
    let l' := (deepcopyImpl h l).2
    l'.closureCtr ≠ l.solverCtr ∧ l'.closureCtr ≠ l.closureCtr ∧ l'.closureMon ≠ l.solverMon ∧ l'.closureMon ≠ l.closureMon
    ∧ l.closureCtr ≠ l'.solverCtr ∧ l.closureCtr ≠ l'.closureCtr ∧ l.closureMon ≠ l'.solverMon ∧ l.closureMon ≠ l'.closureMon := by
  obtain ⟨v1, v2, v3, v4⟩ := hv
  intro l'
  exact ⟨Nat.ne_of_gt (Nat.lt_succ_of_lt v1), Nat.ne_of_gt (Nat.lt_succ_of_lt v2), Nat.ne_of_gt (Nat.lt_succ_of_lt v3),
    Nat.ne_of_gt (Nat.lt_succ_of_lt v4), Nat.ne_of_lt v2, Nat.ne_of_lt (Nat.lt_succ_of_lt v2), Nat.ne_of_lt v4,
    Nat.ne_of_lt (Nat.lt_succ_of_lt v4)⟩

/-- the next `_decorate_objective` (a `Step` after `Finalize` / any `Set*` / with a cost
object that is not the stored one) links solver and objective again and keeps the count (`wrap_function(.., start=self._fcalls[0])`) -/
theorem redecorate_relinks (h : Heap) (l : Links) (hv : l.Valid h) :
    (decorate h l).2.Linked ∧ evaluations (decorate h l).1 (decorate h l).2 = evaluations h l
    ∧ monitor (decorate h l).1 (decorate h l).2 = monitor h l ∧ (decorate h l).2.Valid (decorate h l).1 := by
  obtain ⟨_, _, v3, _⟩ := hv
  refine ⟨⟨rfl, rfl⟩, getD_append_length h.ctr [] _ 0, rfl, ?_⟩
  have hl : (decorate h l).1.ctr.length = h.ctr.length + 1 := List.length_append
  exact ⟨hl ▸ Nat.lt_succ_self _, hl ▸ Nat.lt_succ_self _, v3, v3⟩

/-- non-vacuity of the hypotheses of `linked_counts` / `pickle_preserves_links`: a fresh solver is valid and linked -/
example : (fresh { ctr := [7], mon := [[1]] }).2.Linked ∧ (fresh { ctr := [7], mon := [[1]] }).2.Valid (fresh { ctr := [7], mon := [[1]] }).1 := by
  decide

/-! ### the shallow copy protocol (`__copy__`) -/

/-- **a solver object counts its own evaluations iff its counter IS the counter of its objective**: for valid
pointers, `n` real calls of the cost add exactly `n` to `evaluations` - for every `n` - exactly when
`solver._fcalls` is the list the decorated objective increments.  (Every way of producing a second solver object -
pickle, `__deepcopy__`, `__copy__` - keeps "each keeps counting its own evaluations" iff it keeps this identity.) -/
theorem counts_iff_ctr_linked (h : Heap) (l : Links) (hv : l.Valid h) :
    (∀ ts : List Nat, evaluations (calls h l ts) l = evaluations h l + ts.length) ↔ l.solverCtr = l.closureCtr := by
  constructor
  · intro hall
    by_contra hne
    have h1 := hall [0]
    rw [show calls h l [0] = call h l 0 from rfl, evaluations_call_ne h 0 (Ne.symm hne)] at h1
    exact absurd h1 (Nat.ne_of_lt (Nat.lt_succ_self _))
  · exact fun heq ts => calls_evaluations_self heq ts h hv.1

/-- **`__copy__` as implemented keeps the link**: the shallow copy holds the very objects of the original, so it is
linked iff the original is, shows the same counter and monitor, and `n` evaluations made through the copy add
exactly `n` to ITS `evaluations` and `n` records to ITS evaluation monitor (the clause "keeps counting its own
evaluations" for a solver continued through `copy.copy`) -/
theorem shallowcopy_keeps_counting (h : Heap) (l : Links) (hv : l.Valid h) (hl : l.Linked) (ts : List Nat) :
    let h' := (shallowCopy h l).1
    let l' := (shallowCopy h l).2
    l'.Linked ∧ l'.Valid h' ∧ evaluations h' l' = evaluations h l ∧ monitor h' l' = monitor h l
    ∧ evaluations (calls h' l' ts) l' = evaluations h l + ts.length
    ∧ monitor (calls h' l' ts) l' = monitor h l ++ ts := by
  obtain ⟨c1, c2⟩ := linked_counts hl ts h hv
  exact ⟨hl, hv, rfl, rfl, c1, c2⟩

/-- ... and it is NOT independent of the original (the property promises independence for restored solvers and DEEP
copies only): the evaluations made through the shallow copy are counted by the original as well -/
theorem shallowcopy_shares_the_counter (h : Heap) (l : Links) (hv : l.Valid h) (hl : l.Linked) (ts : List Nat) :
    evaluations (calls (shallowCopy h l).1 (shallowCopy h l).2 ts) l = evaluations h l + ts.length :=
  (linked_counts hl ts h hv).1

/-- **a shallow copy with a private counter list stops counting**: if `__copy__` gave the copy its own `_fcalls`
list while the (shared) decorated objective keeps incrementing the old one, the copy is never linked and its
`evaluations` stay frozen whatever it evaluates - for every heap and every valid original -/
theorem shallow_copy_private_counter_stops_counting (h : Heap) (l : Links) (hv : l.Valid h) (ts : List Nat) :
    let h' := (shallowCopyPrivateCtr h l).1
    let l' := (shallowCopyPrivateCtr h l).2
    ¬ l'.Linked ∧ evaluations (calls h' l' ts) l' = evaluations h l := by
  have hne : l.closureCtr ≠ h.ctr.length := Nat.ne_of_lt hv.2.1
  intro h' l'
  refine ⟨fun hh => hne hh.1.symm, ?_⟩
  rw [calls_invariant l' (evaluations · l') (fun g t => evaluations_call_ne g t hne) ts h']
  exact getD_append_length h.ctr [] _ 0

/-- the closed witness: 3 evaluations, shallow copy, 2 more through the copy: `__copy__` as implemented says 5 (and so
does the original), the private-counter variant says 3 -/
theorem shallow_copy_witness :
    let a := fresh { ctr := [], mon := [] }
    let h := calls a.1 a.2 [10, 11, 12]
    let c := shallowCopy h a.2
    let p := shallowCopyPrivateCtr h a.2
    evaluations (calls c.1 c.2 [13, 14]) c.2 = 5 ∧ evaluations (calls c.1 c.2 [13, 14]) a.2 = 5
    ∧ monitor (calls c.1 c.2 [13, 14]) c.2 = [10, 11, 12, 13, 14]
    ∧ evaluations (calls p.1 p.2 [13, 14]) p.2 = 3 ∧ hiddenCount (calls p.1 p.2 [13, 14]) p.2 = 5 := by
  decide

/-! ## (c) solver-private settings given to `Solve` / `Step` as keywords travel in the fields, not in `settings` -/

theorem iter_add {α : Type} (f : α → α) : ∀ (m n : Nat) (a : α), iter f (m + n) a = iter f n (iter f m a) := by
  intro m
  induction m with
  | zero => intro n a; rw [Nat.zero_add]; rfl
  | succ m ih => intro n a; rw [Nat.add_right_comm]; exact ih n _

private theorem iter_inv {α : Type} (f : α → α) (I : α → Prop) (hI : ∀ a, I a → I (f a)) :
    ∀ (n : Nat) (a : α), I a → I (iter f n a) := by
  intro n
  induction n with
  | zero => intro _ ha; exact ha
  | succ n ih => intro a ha; exact ih (f a) (hI a ha)

/-- once a strategy OF THE MODULE is in force, `_process_inputs` returns it and leaves the fields alone - whether the
keyword is given again (what `Solve` does for every `Step`) or not (a bare `Step()` / `Solve()`) -/
theorem de_process_fixed {C : Type} (nKnown : Nat) (s : DESet C) (hk : s.strategy < nKnown) :
    DESet.process nKnown s {} = (s.strategy, s) ∧ DESet.process nKnown s { strategy := some s.strategy } = (s.strategy, s) := by
  cases s
  -- a name `< nKnown` resolves to itself
  simp_all [DESet.process, resolve]

/-- **resume = uninterrupted for a run STARTED with keywords (differential evolution 1 and 2)**: `Solve(strategy=..,
CrossProbability=.., ScalingFactor=..)` interrupted after `m` generations (the restart file carries the three fields
and the rest of the state `σ`) and continued by a BARE `Solve()` for `n` generations is the uninterrupted
`Solve(..)` after `m + n` generations - for every generator `gen` of trial vectors, provided the strategy given is a
function of `mystic.strategy` (resolvable by its name) -/
theorem solve_kwds_resume_de {C σ : Type} (nKnown : Nat) (h0 : 0 < nKnown) (gen : Nat → C → C → σ → σ) (kw : DEKw C)
    (hk : ∀ k, kw.strategy = some k → k < nKnown) (m n : Nat) (st : DESet C × σ) :
    deSolveKw (DESet.process nKnown) gen {} n (deSolveKw (DESet.process nKnown) gen kw m st)
      = deSolveKw (DESet.process nKnown) gen kw (m + n) st := by
  -- the strategy in force
  have heff : (DESet.process nKnown st.1 kw).1 < nKnown := by
    unfold DESet.process
    cases hs : kw.strategy with
    | none =>
      simp only [Option.getD_none]
      unfold resolve
      split
      · assumption
      · exact h0
    | some k => simpa using hk k hs
  generalize hE : (DESet.process nKnown st.1 kw).1 = eff at heff
  -- every state of the run stores the strategy in force: `_process_inputs` writes it back
  have hm := iter_inv (deStepKw (DESet.process nKnown) gen { strategy := some eff }) (fun a => a.1.strategy = eff)
    (fun _ _ => rfl) m ((DESet.process nKnown st.1 kw).2, st.2) hE
  unfold deSolveKw
  rw [hE, iter_add]
  generalize iter (deStepKw (DESet.process nKnown) gen { strategy := some eff }) m ((DESet.process nKnown st.1 kw).2, st.2)
    = sm at hm ⊢
  rw [(de_process_fixed nKnown sm.1 (hm ▸ heff)).1, hm]

/-- **which state must travel / where it must be written (DE)**: if `_process_inputs` wrote back the local default
instead of the entry of `settings`, a strategy given to `Solve` would be used for that call and never recorded: the
run cut after 2 generations and continued by a bare `Solve()` generates with another strategy than the
uninterrupted one (`σ` = the list of strategies the generations were made with) -/
theorem de_writeback_must_be_the_setting_in_force :
    let gen : Nat → Nat → Nat → List Nat → List Nat := fun strat _ _ used => used ++ [strat]
    let st : DESet Nat × List Nat := ({ strategy := 0, probability := 9, scale := 8 }, [])
    let kw : DEKw Nat := { strategy := some 2, cr := some 5 }
    (deSolveKw (DESet.process 7) gen {} 1 (deSolveKw (DESet.process 7) gen kw 2 st)).2 = [2, 2, 2]
    ∧ (deSolveKw (DESet.process 7) gen kw 3 st).2 = [2, 2, 2]
    ∧ (deSolveKw (DESet.processLocal 7) gen kw 3 st).2 = [2, 2, 2]
    ∧ (deSolveKw (DESet.processLocal 7) gen {} 1 (deSolveKw (DESet.processLocal 7) gen kw 2 st)).2 = [2, 2, 0]
    ∧ (deSolveKw (DESet.processLocal 7) gen kw 2 st).1.probability = 5 := by
  decide

/-- **a user's own strategy function is NOT resumable** (the hypothesis `hk` of `solve_kwds_resume_de` cannot be
dropped; known finding F56): the name written to `self.strategy` is not an attribute of `mystic.strategy`, so the
restored solver continued by a bare `Solve()` resolves it to `Best1Bin` -/
theorem solve_kwds_custom_strategy_not_resumed :
    let gen : Nat → Nat → Nat → List Nat → List Nat := fun strat _ _ used => used ++ [strat]
    let st : DESet Nat × List Nat := ({ strategy := 0, probability := 9, scale := 8 }, [])
    let kw : DEKw Nat := { strategy := some 9 }
    (deSolveKw (DESet.process 7) gen kw 3 st).2 = [9, 9, 9]
    ∧ (deSolveKw (DESet.process 7) gen kw 2 st).1.strategy = 9
    ∧ (deSolveKw (DESet.process 7) gen {} 1 (deSolveKw (DESet.process 7) gen kw 2 st)).2 = [9, 9, 0] := by
  decide

/-- inside that class the strongest true statement: handing the SAME function to the resumed `Solve` again is exact,
for every strategy object (module function or not) -/
theorem solve_kwds_resume_de_repassed {C σ : Type} (nKnown : Nat) (gen : Nat → C → C → σ → σ) (kw : DEKw C) (k : Nat)
    (hs : kw.strategy = some k) (m n : Nat) (st : DESet C × σ) :
    deSolveKw (DESet.process nKnown) gen { strategy := some k } n (deSolveKw (DESet.process nKnown) gen kw m st)
      = deSolveKw (DESet.process nKnown) gen kw (m + n) st := by
  have hE : (DESet.process nKnown st.1 kw).1 = k := by simp [DESet.process, hs]
  have hP : ∀ s : DESet C, DESet.process nKnown s { strategy := some k }
      = (k, { strategy := k, probability := s.probability, scale := s.scale }) := by
    intro s; simp [DESet.process]
  have hm := iter_inv (deStepKw (DESet.process nKnown) gen { strategy := some k }) (fun a => a.1.strategy = k)
    (fun _ _ => rfl) m ((DESet.process nKnown st.1 kw).2, st.2) hE
  unfold deSolveKw
  rw [hE, iter_add]
  generalize iter (deStepKw (DESet.process nKnown) gen { strategy := some k }) m ((DESet.process nKnown st.1 kw).2, st.2)
    = sm at hm ⊢
  have h2 : (DESet.process nKnown sm.1 { strategy := some k }).2 = sm.1 := by
    rw [hP]; cases hsm : sm.1; simp_all
  rw [show (DESet.process nKnown sm.1 { strategy := some k }).1 = k from rfl, h2]

/-- **the same for Nelder-Mead (`radius`, `adaptive`) and Powell (`xtol`, `imax`)**: a run started with
`Solve(radius=.., adaptive=..)` / `Solve(xtol=.., imax=..)`, cut anywhere, and continued by a bare `Solve()` is the
uninterrupted run, for every step function `gen` of the two settings - no hypothesis -/
theorem solve_kwds_resume_2 {A B σ : Type} (gen : A → B → σ → σ) (kw : Kw2 A B) (m n : Nat) (st : Set2 A B × σ) :
    solve2Kw gen {} n (solve2Kw gen kw m st) = solve2Kw gen kw (m + n) st := by
  let eff := st.1.process kw
  let I : Set2 A B × σ → Prop := fun a => a.1 = eff
  have hP : ∀ s : Set2 A B, s.process { a := some eff.a, b := some eff.b } = eff := by
    intro s; simp [Set2.process]
  have hm := iter_inv (step2Kw gen { a := some eff.a, b := some eff.b }) I (fun a _ => hP a.1) m (eff, st.2) rfl
  unfold solve2Kw
  show iter _ n (_, (iter (step2Kw gen { a := some eff.a, b := some eff.b }) m (eff, st.2)).2) = _
  generalize hS : iter (step2Kw gen { a := some eff.a, b := some eff.b }) m (eff, st.2) = sm at hm
  have h1 : sm.1.process ({} : Kw2 A B) = eff := by
    have : sm.1 = eff := hm
    rw [this]; simp [Set2.process]
  rw [h1, iter_add, hS]
  have : sm = (eff, sm.2) := by
    have : sm.1 = eff := hm
    rw [← this]
  rw [← this]

/-- non-vacuity: a DE run started with `strategy=Rand1Bin (2)`, `CrossProbability=5`, cut after two generations and
resumed bare, really generates with the given settings after the cut -/
example :
    let gen : Nat → Nat → Nat → List (Nat × Nat × Nat) → List (Nat × Nat × Nat) := fun s p f used => used ++ [(s, p, f)]
    (deSolveKw (DESet.process 7) gen {} 1
        (deSolveKw (DESet.process 7) gen { strategy := some 2, cr := some 5 } 2
          ({ strategy := 0, probability := 9, scale := 8 }, []))).2 = [(2, 5, 8), (2, 5, 8), (2, 5, 8)]
    ∧ (solve2Kw (fun (a b : Nat) (used : List (Nat × Nat)) => used ++ [(a, b)]) {} 1
        (solve2Kw (fun (a b : Nat) (used : List (Nat × Nat)) => used ++ [(a, b)]) { a := some 3 } 2
          ({ a := 1, b := 4 }, []))).2 = [(3, 4), (3, 4), (3, 4)] := by
  decide

end MysticVerif.C06
