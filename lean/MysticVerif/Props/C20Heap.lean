/-
C20 - "never alters the monitor passed to it", as theorems about the aliasing model
Model/MonitorHeap.lean: which list cells an operation writes, which it allocates, and that the heap model
refines the functional model of Model/Monitor.lean (`Heap.view`).  Imported by Props/C20.lean.
-/
import MysticVerif.Proofs.Monitor
import MysticVerif.Model.MonitorHeap

namespace MysticVerif.C20
open MysticVerif.Mon MysticVerif.MonHeap

variable {R : Type} {α : Type}

private theorem rd_append_old (s : List (List α)) (v : List α) (a : Nat) (h : a < s.length) :
    rd (s ++ [v]) a = rd s a := by
  rw [rd, rd, List.getD_eq_getElem?_getD, List.getD_eq_getElem?_getD, List.getElem?_append_left h]

private theorem rd_append_new (s : List (List α)) (v : List α) : rd (s ++ [v]) s.length = v := by
  rw [rd, List.getD_eq_getElem?_getD, List.getElem?_append_right (Nat.le_refl _), Nat.sub_self]
  rfl

private theorem rd_wr_other (s : List (List α)) (v : List α) (a b : Nat) (h : a ≠ b) : rd (wr s b v) a = rd s a := by
  rw [rd, rd, wr, List.getD_eq_getElem?_getD, List.getD_eq_getElem?_getD, List.getElem?_set_ne (Ne.symm h)]

private theorem rd_wr_same (s : List (List α)) (v : List α) (a : Nat) (h : a < s.length) : rd (wr s a v) a = v := by
  rw [rd, wr, List.getD_eq_getElem?_getD, List.getElem?_set_self h]
  rfl

/-- `view` forgets the logging interval (an attribute of the Python object, not of its list cells) -/
def noIv (m : Mon R) : Mon R := { m with interval := none }

theorem store_frame (h : Heap R) (o p : Obj R) (m : Mon R) (hd : p.Disj o) : (h.store o m).view p = h.view p := by
  obtain ⟨d1, d2, d3, d4⟩ := hd
  simp only [Heap.view, Heap.store, rd_wr_other _ _ _ _ d1, rd_wr_other _ _ _ _ d2, rd_wr_other _ _ _ _ d3,
    rd_wr_other _ _ _ _ d4]

/-- `k` lives in the handle `o`, not in a cell, hence `hk` -/
theorem store_view (h : Heap R) (o : Obj R) (m : Mon R) (hv : o.Valid h) (hk : m.k = o.k) :
    (h.store o m).view o = noIv m := by
  obtain ⟨v1, v2, v3, v4⟩ := hv
  simp only [Heap.view, Heap.store, rd_wr_same _ _ _ v1, rd_wr_same _ _ _ v2, rd_wr_same _ _ _ v3,
    rd_wr_same _ _ _ v4, ← hk]
  rfl

theorem store_valid (h : Heap R) (o p : Obj R) (m : Mon R) (hv : p.Valid h) : p.Valid (h.store o m) := by
  simpa only [Obj.Valid, Heap.store, wr, List.length_set] using hv

/-- allocation: the new object holds the given contents in four cells that no allocated object uses; nothing
that was allocated changes -/
theorem alloc_spec (h : Heap R) (m : Mon R) :
    (h.allocMon m).1.view (h.allocMon m).2 = noIv m ∧ (h.allocMon m).2.Valid (h.allocMon m).1 ∧
    ∀ p : Obj R, p.Valid h → (h.allocMon m).1.view p = h.view p ∧ (h.allocMon m).2.Disj p ∧ p.Disj (h.allocMon m).2 ∧
      p.Valid (h.allocMon m).1 := by
  have fresh : ∀ {β : Type} (s : List β) (v : β), s.length < (s ++ [v]).length := fun s v => by
    rw [List.length_append]; exact Nat.lt_succ_self _
  refine ⟨?_, ⟨fresh _ _, fresh _ _, fresh _ _, fresh _ _⟩, ?_⟩
  · simp only [Heap.view, Heap.allocMon, rd_append_new]; rfl
  · intro p ⟨v1, v2, v3, v4⟩
    refine ⟨?_, ⟨Nat.ne_of_gt v1, Nat.ne_of_gt v2, Nat.ne_of_gt v3, Nat.ne_of_gt v4⟩,
      ⟨Nat.ne_of_lt v1, Nat.ne_of_lt v2, Nat.ne_of_lt v3, Nat.ne_of_lt v4⟩,
      ⟨Nat.lt_trans v1 (fresh _ _), Nat.lt_trans v2 (fresh _ _), Nat.lt_trans v3 (fresh _ _),
        Nat.lt_trans v4 (fresh _ _)⟩⟩
    simp only [Heap.view, Heap.allocMon, rd_append_old _ _ _ v1, rd_append_old _ _ _ v2, rd_append_old _ _ _ v3,
      rd_append_old _ _ _ v4]

/-- **`__call__` writes only its own monitor.** The receiver afterwards holds one more record (exactly
`Mon.call` of the functional model); every monitor object that shares no list cell with it holds what it
held before. -/
theorem heap_call_spec [Mul R] (h : Heap R) (o : Obj R) (hv : o.Valid h) (x y : PV R) (id : Option Int) :
    (h.call o x y id).view o = noIv ((h.view o).call x y id) ∧
    (∀ p : Obj R, p.Disj o → (h.call o x y id).view p = h.view p) ∧
    (∀ p : Obj R, p.Valid h → p.Valid (h.call o x y id)) :=
  ⟨store_view h o _ hv rfl, fun p hd => store_frame h o p _ hd, fun p hp => store_valid h o p _ hp⟩

/-- **later calls do not show up elsewhere.** Any number of calls through `r` leave every object with
disjoint cells unchanged. -/
theorem heap_calls_invisible [Mul R] (cs : List (PV R × PV R × Option Int)) :
    ∀ (h : Heap R) (r p : Obj R), p.Disj r → (h.calls r cs).view p = h.view p := by
  induction cs with
  | nil => intro h r p _; rfl
  | cons c cs ih =>
    intro h r p hd
    simp only [Heap.calls]
    rw [ih _ r p hd]
    exact store_frame h r p _ hd

/-- **`a.extend(b)` / `a.prepend(b)` never alter `b`** (nor any other monitor that shares no cell with `a`),
and `a` afterwards holds exactly the functional `extend` / `prepend` of the two contents. -/
theorem heap_extend_spec [Div R] [OfNat R 1] (h : Heap R) (a b : Obj R) (ha : a.Valid h) (hab : b.Disj a) :
    (h.extend a b).view b = h.view b ∧ (h.extend a b).view a = noIv ((h.view a).extend (h.view b)) ∧
    (∀ p : Obj R, p.Disj a → (h.extend a b).view p = h.view p) ∧
    (h.prepend a b).view b = h.view b ∧ (h.prepend a b).view a = noIv ((h.view a).prepend (h.view b)) ∧
    (∀ p : Obj R, p.Disj a → (h.prepend a b).view p = h.view p) :=
  ⟨store_frame h a b _ hab, store_view h a _ ha rfl, fun p hd => store_frame h a p _ hd,
   store_frame h a b _ hab, store_view h a _ ha rfl, fun p hd => store_frame h a p _ hd⟩

/-- **`a + b` never alters `a` or `b` and shares no list with them.** The sum is a new object whose four
cells are disjoint from the cells of every monitor allocated before (in particular `a` and `b`, also when
`a` and `b` are the same object); `a`, `b` and every other monitor hold what they held; the sum holds exactly
the functional `Mon.add`.  Together with `heap_calls_invisible`: later calls on the sum do not show up in an
operand, and later calls on an operand do not show up in the sum. -/
theorem heap_add_spec [Div R] [OfNat R 1] (h : Heap R) (a b : Obj R) (ha : a.Valid h) (hb : b.Valid h) :
    let h' := (h.add a b).1
    let r := (h.add a b).2
    h'.view a = h.view a ∧ h'.view b = h.view b ∧ r.Disj a ∧ r.Disj b ∧ a.Disj r ∧ b.Disj r ∧
    r.Valid h' ∧ a.Valid h' ∧ b.Valid h' ∧
    (∀ p : Obj R, p.Valid h → h'.view p = h.view p ∧ p.Disj r) ∧
    h'.view r = noIv ((h.view a).add (h.view b)) := by
  intro h' r
  obtain ⟨c1, c2, c3⟩ := alloc_spec h (h.view a)
  have hframe : ∀ p : Obj R, p.Valid h → h'.view p = h.view p ∧ p.Disj r := fun p hp =>
    ⟨(store_frame _ _ p _ (c3 p hp).2.2.1).trans (c3 p hp).1, (c3 p hp).2.2.1⟩
  obtain ⟨_, a2, a3, a4⟩ := c3 a ha
  obtain ⟨b1, b2, b3, b4⟩ := c3 b hb
  refine ⟨(hframe a ha).1, (hframe b hb).1, a2, b2, a3, b3, store_valid _ _ _ _ c2, store_valid _ _ _ _ a4,
    store_valid _ _ _ _ b4, hframe, ?_⟩
  · -- `A`: heap and handle after copying `a`
    simp only [h', r, Heap.add, Heap.deepcopy, Heap.extend]
    generalize h.allocMon (h.view a) = A at c1 c2 b1 ⊢
    refine (store_view A.1 A.2 ((A.1.view A.2).extend (A.1.view b)) c2 rfl).trans ?_
    rw [c1, b1]
    rfl

/-- **`m[start:stop:step]` never alters `m` and shares no list with it**. -/
theorem heap_slice_spec (h : Heap R) (o : Obj R) (ho : o.Valid h) (s e : Option Int) (t : Int) :
    let h' := (h.slice o s e t).1
    let r := (h.slice o s e t).2
    h'.view o = h.view o ∧ r.Disj o ∧ o.Disj r ∧ r.Valid h' ∧ o.Valid h' ∧
    (∀ p : Obj R, p.Valid h → h'.view p = h.view p ∧ p.Disj r) ∧
    h'.view r = noIv ((h.view o).slice s e t) := by
  intro h' r
  obtain ⟨c1, c2, c3⟩ := alloc_spec h ((h.view o).slice s e t)
  obtain ⟨o1, o2, o3, o4⟩ := c3 o ho
  exact ⟨o1, o2, o3, c2, o4, fun p hp => ⟨(c3 p hp).1, (c3 p hp).2.2.1⟩, c1⟩

/-- **`m[list]` / `m[array]`** allocates the same way: nothing allocated changes, the result shares no cell. -/
theorem heap_fancy_spec (h : Heap R) (o : Obj R) (ho : o.Valid h) (sel : Nat → Option (List Nat))
    (h' : Heap R) (r : Obj R) (hr : h.fancy o sel = .ok (h', r)) :
    h'.view o = h.view o ∧ r.Disj o ∧ r.Valid h' ∧ (∀ p : Obj R, p.Valid h → h'.view p = h.view p ∧ p.Disj r) := by
  unfold Heap.fancy at hr
  split at hr
  · rename_i m _
    simp only [Except.ok.injEq] at hr
    obtain ⟨rfl, rfl⟩ := hr
    obtain ⟨_, c2, c3⟩ := alloc_spec h m
    obtain ⟨o1, o2, _, _⟩ := c3 o ho
    exact ⟨o1, o2, c2, fun p hp => ⟨(c3 p hp).1, (c3 p hp).2.2.1⟩⟩
  · simp at hr

/-- **hand-over to a solver** (`SetGenerationMonitor / SetEvaluationMonitor(monitor, new)`).  The solver's slot
afterwards IS `monitor` (the same object: what the solver records shows up in the caller's monitor - by design);
the previous monitor `cur` is only read: it holds what it held, and when `new` is false and it is a different
object its records are prepended to `monitor`; with `None` the slot is a new object sharing nothing. -/
theorem heap_handover_spec [Div R] [OfNat R 1] (h : Heap R) (cur m : Obj R) (hm : m.Valid h) (hcur : cur.Valid h)
    (hd : cur.Disj m) (new : Bool) :
    (h.handOver cur (some m) new).2 = m ∧
    (h.handOver cur (some m) new).1.view cur = h.view cur ∧
    (h.handOver cur (some m) new).1.view m =
      (if new = true then h.view m else noIv ((h.view m).prepend (h.view cur))) ∧
    ((h.handOver cur none new).2.Disj cur ∧ (h.handOver cur none new).1.view cur = h.view cur ∧
      (∀ p : Obj R, p.Valid h → (h.handOver cur none new).1.view p = h.view p ∧ p.Disj (h.handOver cur none new).2)) := by
  have hns : cur.same m = false := by
    rw [Obj.same, beq_false_of_ne hd.1]; rfl
  obtain ⟨_, _, untouched⟩ := alloc_spec h ({ k := none } : Mon R)
  obtain ⟨hview, hdisj, hdisj', _⟩ := untouched cur hcur
  cases new with
  | true => exact ⟨rfl, rfl, rfl, hdisj, hview, fun p hp => ⟨(untouched p hp).1, (untouched p hp).2.2.1⟩⟩
  | false =>
    have e : h.handOver cur (some m) false = (h.prepend m cur, m) := by rw [Heap.handOver, hns]; rfl
    rw [e]
    exact ⟨rfl, store_frame h m cur _ hd, store_view h m _ hm rfl, hdisj, (store_frame _ _ cur _ hdisj').trans hview,
      fun p hp => ⟨(store_frame _ _ p _ (untouched p hp).2.2.1).trans (untouched p hp).1, (untouched p hp).2.2.1⟩⟩

/-- an empty heap with one new monitor -/
def exA : Heap Int × Obj Int := ({} : Heap Int).new none
def exH1 : Heap Int := exA.1.call exA.2 (.vec [1, 2]) (.sc 3) none
def exQ : Heap Int × Obj Int := exH1.add exA.2 exA.2
def exH2 : Heap Int := exQ.1.call exQ.2 (.vec [7, 8]) (.sc 9) (some 1)

/-- `r = a + a` on a real heap: three objects, `a` untouched by a later call through `r` -/
example : (exH2.view exA.2).x = [.vec [1, 2]] ∧ (exH2.view exQ.2).x = [.vec [1, 2], .vec [1, 2], .vec [7, 8]] ∧
    (exH2.view exQ.2).id = [none, none, some 1] ∧ exQ.2.cx ≠ exA.2.cx := by decide +kernel

/-- a second monitor on the heap `exH1` -/
def exM : Heap Int × Obj Int := exH1.new none
def exH3 : Heap Int := exM.1.call exM.2 (.sc 3) (.sc 4) none
def exS : Heap Int × Obj Int := exH3.handOver exA.2 (some exM.2) false
def exH4 : Heap Int := exS.1.call exS.2 (.sc 5) (.sc 6) none

/-- hand-over: the solver's slot and the caller's monitor are one object; the old monitor keeps its records -/
example : (exH4.view exM.2).x = [.vec [1, 2], .sc 3, .sc 5] ∧ (exH4.view exA.2).x = [.vec [1, 2]] ∧ exS.2.cx = exM.2.cx := by
  decide +kernel

end MysticVerif.C20
