/-
C05 - stopping discipline: limits, termination and exit requests are honoured.

Model: `Ctl` in Model/Solver.lean (`Step`, `Terminated`, `_SetEvaluationLimits`, `SetEvaluationLimits`, `Finalize`;
abstract_solver.py l.615-714, 1018-1113).  The termination condition's verdict and the effect of `_Step` on the
counters are parameters (`termPre`, `termPost`, `Delta`): the theorems hold for every termination condition and
every algorithm.
-/
import MysticVerif.Proofs.Ctl
import MysticVerif.Model.Signal
import Mathlib.Order.Basic

namespace MysticVerif.C05
open MysticVerif.Solver

theorem reached_iff (l : Lim) (n : Nat) : l.reached n = true ↔ ∃ m, l = .val m ∧ m ≤ n := by
  cases l <;> simp [Lim.reached]

@[simp] theorem resolve_gens (c : Ctl) : c.resolve.gens = c.gens := rfl
@[simp] theorem resolve_evals (c : Ctl) : c.resolve.evals = c.evals := rfl
@[simp] theorem resolve_nstep (c : Ctl) : c.resolve.nstep = c.nstep := rfl
@[simp] theorem resolve_powell (c : Ctl) : c.resolve.powell = c.powell := rfl
@[simp] theorem resolve_earlyExit (c : Ctl) : c.resolve.earlyExit = c.earlyExit := rfl

/-- **no further iteration when stopped**: after the initial evaluation (`nstep ≠ 0`), if at this moment a limit
is reached, an exit was requested or the termination condition holds, `Step` does not run `_Step`: the counters
and the step monitor are untouched and a message is returned. -/
theorem no_step_when_stopped (c : Ctl) (termPre termPost : Bool) (d : Delta) (hn : c.nstep ≠ 0)
    (hstop : c.pre.maxfun.reached c.evals = true ∨ c.pre.maxiter.reached c.gens = true ∨ c.earlyExit = true
      ∨ termPre = true) :
    (c.step termPre termPost d).2.2 = false ∧ (c.step termPre termPost d).2.1.isSome = true ∧
    (c.step termPre termPost d).1.evals = c.evals ∧ (c.step termPre termPost d).1.gens = c.gens ∧
    (c.step termPre termPost d).1.nstep = c.nstep := by
  have hm : (c.preMsg termPre).isSome = true := by
    unfold Ctl.preMsg
    rw [if_neg hn, message_isSome_iff]
    simpa using hstop
  unfold Ctl.step
  cases hmsg : c.preMsg termPre with
  | none => rw [hmsg] at hm; cases hm
  | some m => exact ⟨rfl, rfl, pre_evals c, pre_gens c, pre_nstep c⟩

/-- **the stop message names a condition that is true of the state it was computed on** -/
theorem message_truthful (c : Ctl) (term : Bool) (m : Msg) (h : c.message term = some m) :
    (m = .lim → c.maxfun.reached c.evals = true ∨ c.maxiter.reached c.gens = true) ∧
    (m = .sig → c.earlyExit = true) ∧ (m = .cond → term = true) := by
  unfold Ctl.message at h
  by_cases h1 : c.maxfun.reached c.evals = true
  · rw [if_pos h1] at h; cases h
    exact ⟨fun _ => Or.inl h1, nofun, nofun⟩
  · rw [if_neg h1] at h
    by_cases h2 : c.maxiter.reached c.gens = true
    · rw [if_pos h2] at h; cases h
      exact ⟨fun _ => Or.inr h2, nofun, nofun⟩
    · rw [if_neg h2] at h
      by_cases h3 : c.earlyExit = true
      · rw [if_pos h3] at h; cases h
        exact ⟨nofun, fun _ => h3, nofun⟩
      · rw [if_neg h3] at h
        by_cases h4 : term = true
        · rw [if_pos h4] at h; cases h
          exact ⟨nofun, nofun, fun _ => h4⟩
        · rw [if_neg h4] at h; cases h

/-- **the message `Step` returns is true of the state it returns**: counters, limits and the exit flag of the
returned state are those the message was computed on -/
theorem step_message_truthful (c : Ctl) (termPre termPost : Bool) (d : Delta) (m : Msg)
    (h : (c.step termPre termPost d).2.1 = some m) :
    (m = .lim → (c.step termPre termPost d).1.maxfun.reached (c.step termPre termPost d).1.evals = true ∨
                (c.step termPre termPost d).1.maxiter.reached (c.step termPre termPost d).1.gens = true) ∧
    (m = .sig → (c.step termPre termPost d).1.earlyExit = true) := by
  rcases step_cases c termPre termPost d with ⟨m', hpre, hs⟩ | ⟨_, m', hpost, hs⟩ | ⟨_, _, hs⟩
  · rw [hs] at h ⊢
    simp only [Option.some.injEq] at h
    subst h
    unfold Ctl.preMsg at hpre
    split at hpre
    · cases hpre
    · have := message_truthful _ _ _ hpre
      exact ⟨this.1, this.2.1⟩
  · rw [hs] at h ⊢
    have := message_truthful _ _ _ h
    exact ⟨this.1, this.2.1⟩
  · rw [hs] at h; cases h

/-- **generations never exceed the generation limit**: with a numeric limit `g` in force, `gens ≤ g` is kept by
every `Step` of every solver whose `_Step` adds at most one generation (and none at generation 0) -/
theorem gens_le_maxiter (c : Ctl) (termPre termPost : Bool) (d : Delta) (g : Nat)
    (hlim : c.maxiter = .val g) (hle : c.gens ≤ g) (hd : d.dGens ≤ 1) (hd0 : c.nstep = 0 → d.dGens = 0)
    (hp : c.powell = false) :
    (c.step termPre termPost d).1.gens ≤ g ∧ (c.step termPre termPost d).1.maxiter = .val g
      ∧ (c.step termPre termPost d).1.powell = false := by
  -- the generation count after a step that ran
  have hafter : c.preMsg termPre = none → (c.after d).gens ≤ g := by
    intro hpre
    rw [after_gens c d hp]
    by_cases hn : c.nstep = 0
    · rw [hd0 hn]; simpa using hle
    · unfold Ctl.preMsg at hpre
      rw [if_neg hn] at hpre
      have := (message_isSome_iff c.pre termPre)
      rw [hpre] at this
      simp only [Option.isSome_none, Bool.false_eq_true, false_iff, not_or] at this
      have hnr := this.2.1
      rw [pre_maxiter_val c g hlim, pre_gens] at hnr
      -- the limit was not yet reached, and the step adds at most one generation
      have hlt : c.gens < g := Nat.lt_of_not_le (fun h => hnr (decide_eq_true h))
      exact Nat.le_trans (Nat.add_le_add_left hd _) hlt
  rcases step_cases c termPre termPost d with ⟨m, _, hs⟩ | ⟨hpre, m, _, hs⟩ | ⟨hpre, _, hs⟩ <;> rw [hs]
  · exact ⟨Nat.le_trans (Nat.le_of_eq (pre_gens c)) hle, pre_maxiter_val c g hlim, (pre_powell c).trans hp⟩
  · have hpa := (after_powell c d).trans hp
    exact ⟨Nat.le_trans (Nat.le_of_eq (finalize_gens _ hpa)) (hafter hpre), (finalize_maxiter _).trans (after_maxiter_val c d g hlim),
      (finalize_powell _).trans hpa⟩
  · exact ⟨hafter hpre, after_maxiter_val c d g hlim, (after_powell c d).trans hp⟩

/-- **generations never exceed the generation limit** over any sequence of `Step`s after the initial evaluation -/
theorem gens_le_maxiter_run (g : Nat) :
    ∀ (steps : List (Bool × Bool × Delta)) (c : Ctl), c.maxiter = .val g → c.gens ≤ g → c.powell = false →
      c.nstep ≠ 0 → (∀ s ∈ steps, s.2.2.dGens ≤ 1) →
      (steps.foldl (fun c s => (c.step s.1 s.2.1 s.2.2).1) c).gens ≤ g := by
  intro steps
  induction steps with
  | nil => intro c _ hle _ _ _; exact hle
  | cons s ss ih =>
    intro c hlim hle hp hn h1
    simp only [List.foldl_cons]
    obtain ⟨a, b, e⟩ := gens_le_maxiter c s.1 s.2.1 s.2.2 g hlim hle (h1 s List.mem_cons_self)
      (fun h0 => absurd h0 hn) hp
    have hge := step_nstep_ge c s.1 s.2.1 s.2.2
    exact ih _ b a e (fun h0 => hn (Nat.le_zero.mp (h0 ▸ hge))) (fun t ht => h1 t (List.mem_cons_of_mem _ ht))

/-- **limits given with `new=True` count from the call**: the numeric limits installed are current count + n -/
theorem new_limits_from_call (c : Ctl) (g e : Nat) :
    (c.setLimits (some g) (some e) true).maxiter = .val (g + c.gens) ∧
    (c.setLimits (some g) (some e) true).maxfun = .val (e + c.evals) := by
  simp [Ctl.setLimits]

/-- limits given otherwise bound the totals -/
theorem total_limits (c : Ctl) (g e : Nat) :
    (c.setLimits (some g) (some e) false).maxiter = .val g ∧ (c.setLimits (some g) (some e) false).maxfun = .val e := by
  simp [Ctl.setLimits]

/-- `Terminated` always installs numeric limits (`None` and `"*"` are resolved), so a generation limit exists -/
theorem resolve_maxiter_isVal (c : Ctl) : ∃ g, c.resolve.maxiter = .val g := by
  unfold Ctl.resolve
  cases c.maxiter <;> simp

/-- `while not stop: stop = Step()`, at most `fuel` calls, verdicts `termF`, the same effect `d` per iteration -/
def solveLoop (termF : Nat → Bool × Bool) (d : Delta) : Nat → Ctl → Option (Ctl × Msg × Nat)
  | 0, _ => none
  | fuel + 1, c =>
    match c.step (termF fuel).1 (termF fuel).2 d with
    | (c', some m, _) => some (c', m, fuel)
    | (c', none, _) => solveLoop termF d fuel c'

/-- **Solve returns**: as long as every iteration adds a generation, a message is produced within
`limit - gens + 1` further `Step`s (the loop cannot run forever) -/
theorem solve_returns (termF : Nat → Bool × Bool) (d : Delta) (hd : d.dGens = 1) (g : Nat) :
    ∀ (k : Nat) (c : Ctl), c.maxiter = .val g → c.powell = false → c.nstep ≠ 0 → g ≤ c.gens + k →
      (solveLoop termF d (k + 1) c).isSome = true := by
  intro k
  induction k with
  | zero =>
    intro c hlim hp hn hg
    have hstop : c.pre.maxfun.reached c.evals = true ∨ c.pre.maxiter.reached c.gens = true ∨ c.earlyExit = true
        ∨ (termF 0).1 = true := by
      right; left
      rw [pre_maxiter_val c g hlim]
      exact decide_eq_true hg
    have := no_step_when_stopped c (termF 0).1 (termF 0).2 d hn hstop
    unfold solveLoop
    cases hs : c.step (termF 0).1 (termF 0).2 d with
    | mk c' r =>
      obtain ⟨m, ran⟩ := r
      rw [hs] at this
      cases m with
      | none => exact absurd this.2.1 Bool.false_ne_true
      | some m => rfl
  | succ k ih =>
    intro c hlim hp hn hg
    unfold solveLoop
    rcases step_cases c (termF (k + 1)).1 (termF (k + 1)).2 d with ⟨m', _, h1⟩ | ⟨_, m', hm, h1⟩ | ⟨_, _, h1⟩
    · rw [h1]; rfl
    · rw [h1, finalize_message _ _ ((after_powell c d).trans hp), hm]; rfl
    · rw [h1]
      simp only
      apply ih (c.after d) (after_maxiter_val c d g hlim) ((after_powell c d).trans hp)
        (by rw [after_nstep]; exact fun h0 => hn (Nat.eq_zero_of_add_eq_zero_right h0))
      rw [after_gens c d hp, hd, Nat.add_assoc, Nat.add_comm 1 k]
      exact hg

/-- **evaluation limit.** If `Step` ran an iteration (after the initial evaluation) the evaluation limit in force
was not yet reached when it began, so afterwards the evaluation count exceeds that limit by less than what this one
iteration added (`d.dEvals`). -/
theorem evals_overshoot_lt_one_step (c : Ctl) (termPre termPost : Bool) (d : Delta) (hn : c.nstep ≠ 0)
    (hran : (c.step termPre termPost d).2.2 = true) (m : Nat) (hm : c.pre.maxfun = .val m) :
    (c.step termPre termPost d).1.evals < m + d.dEvals := by
  have hpre := step_ran_only_if_not_stopped c termPre termPost d hran
  have hlt : c.evals < m := by
    unfold Ctl.preMsg at hpre
    rw [if_neg hn] at hpre
    have hnone : ¬ (c.pre.message termPre).isSome = true := by rw [hpre]; decide
    rw [message_isSome_iff] at hnone
    have h1 : ¬ c.pre.maxfun.reached c.pre.evals = true := fun h => hnone (Or.inl h)
    rw [pre_evals, hm] at h1
    exact Nat.lt_of_not_le (fun h => h1 (decide_eq_true h))
  rw [step_evals_of_ran c termPre termPost d hran]
  exact Nat.add_lt_add_right hlt _

/-- **the wrappers' warnflag names a condition that is true of the final state**: 1 only if the evaluation limit is
reached, 2 only if the generation limit is reached (and the evaluation limit is not), 0 only if neither is. -/
theorem warnflag_truthful (c : Ctl) :
    (c.warnflag = 1 → c.maxfun.reached c.evals = true) ∧
    (c.warnflag = 2 → c.maxiter.reached c.gens = true ∧ c.maxfun.reached c.evals = false) ∧
    (c.warnflag = 0 → c.maxfun.reached c.evals = false ∧ c.maxiter.reached c.gens = false) ∧
    c.warnflag ≤ 2 := by
  unfold Ctl.warnflag
  cases h1 : c.maxfun.reached c.evals <;> cases h2 : c.maxiter.reached c.gens <;> simp

/-- the warnflag is non-zero exactly when `Terminated` attributes the stop to the limits -/
theorem warnflag_iff_limit_message (c : Ctl) (term : Bool) : c.message term = some .lim ↔ c.warnflag ≠ 0 := by
  unfold Ctl.message Ctl.warnflag
  by_cases h1 : c.maxfun.reached c.evals = true
  · rw [if_pos h1, if_pos h1]; exact ⟨fun _ => Nat.one_ne_zero, fun _ => rfl⟩
  · rw [if_neg h1, if_neg h1]
    by_cases h2 : c.maxiter.reached c.gens = true
    · rw [if_pos h2, if_pos h2]; exact ⟨fun _ => Nat.succ_ne_zero 1, fun _ => rfl⟩
    · -- neither limit reached: the message is the interrupt's, the condition's, or none
      rw [if_neg h2, if_neg h2]
      refine ⟨fun h => ?_, fun h => absurd rfl h⟩
      by_cases h3 : c.earlyExit = true
      · rw [if_pos h3] at h; cases h
      · rw [if_neg h3] at h
        by_cases h4 : term = true
        · rw [if_pos h4] at h; cases h
        · rw [if_neg h4] at h; cases h

example : ({ evals := 7, gens := 3, maxfun := .val 7, maxiter := .val 3 } : Ctl).warnflag = 1 ∧
    ({ evals := 6, gens := 3, maxfun := .val 7, maxiter := .val 3 } : Ctl).warnflag = 2 ∧
    ({ evals := 6, gens := 2, maxfun := .val 7, maxiter := .val 3 } : Ctl).warnflag = 0 := by decide

open MysticVerif.Signal in
private theorem handle_spec (cb : Bool) : ∀ (inputs : List Switch) (e : Effect),
    (handle cb inputs e).earlyExit = (e.earlyExit || decide (firstEnding inputs = some .exit)) ∧
    (handle cb inputs e).finished = (e.finished || (firstEnding inputs).isSome) ∧
    (handle cb inputs e).consumed ≤ e.consumed + inputs.length := by
  intro inputs
  induction inputs with
  | nil => intro e; exact ⟨(Bool.or_false _).symm, (Bool.or_false _).symm, Nat.le_refl _⟩
  | cons s rest ih =>
    intro e
    -- a skipped switch: the rest of the dialogue runs on an effect that differs in the counters only
    have skip : ∀ e' : Effect, e'.earlyExit = e.earlyExit → e'.finished = e.finished → e'.consumed = e.consumed + 1 →
        (handle cb rest e').earlyExit = (e.earlyExit || decide (firstEnding rest = some .exit)) ∧
        (handle cb rest e').finished = (e.finished || (firstEnding rest).isSome) ∧
        (handle cb rest e').consumed ≤ e.consumed + (rest.length + 1) := by
      intro e' h1 h2 h3
      obtain ⟨a, b, c⟩ := ih e'
      rw [h1] at a; rw [h2] at b; rw [h3, Nat.add_assoc, Nat.add_comm 1] at c
      exact ⟨a, b, c⟩
    cases s
    · exact skip _ rfl rfl rfl
    · exact ⟨(Bool.or_false _).symm, (Bool.or_true _).symm, Nat.add_le_add_left (Nat.le_add_left 1 _) _⟩
    · exact skip _ rfl rfl rfl
    · exact ⟨(Bool.or_true _).symm, (Bool.or_true _).symm, Nat.add_le_add_left (Nat.le_add_left 1 _) _⟩
    · exact skip _ rfl rfl rfl

open MysticVerif.Signal in
/-- **an exit is requested iff the dialogue is ended by `exit`** (whatever was typed before: `sol`, `call`, unknown
options), the dialogue reads inputs only up to the first `cont` / `exit`, and `sigint_callback` runs once per `call` -/
theorem signal_exit_iff (cb : Bool) (inputs : List Switch) :
    ((deliver cb inputs).earlyExit = true ↔ firstEnding inputs = some .exit) ∧
    ((deliver cb inputs).finished = true ↔ (firstEnding inputs).isSome = true) ∧
    (deliver cb inputs).consumed ≤ inputs.length := by
  obtain ⟨a, b, c⟩ := handle_spec cb inputs start
  unfold deliver
  rw [a, b]
  exact ⟨by simp [start], by simp [start], by simpa [start] using c⟩

open MysticVerif.Signal in
/-- **a delivered `exit` stops the run at the next stop test**: with the flag the handler sets, `Step` does not begin a
further iteration and reports the interrupt unless a limit is reached as well -/
theorem no_step_after_signal_exit (c : Ctl) (cb : Bool) (inputs : List Switch) (hx : firstEnding inputs = some .exit)
    (termPre termPost : Bool) (d : Delta) (hn : c.nstep ≠ 0) :
    ({ c with earlyExit := c.earlyExit || (deliver cb inputs).earlyExit } : Ctl).step termPre termPost d |>.2.2 = false := by
  have he : (deliver cb inputs).earlyExit = true := (signal_exit_iff cb inputs).1.mpr hx
  have := no_step_when_stopped ({ c with earlyExit := c.earlyExit || (deliver cb inputs).earlyExit } : Ctl) termPre termPost d
    (by simpa using hn) (Or.inr (Or.inr (Or.inl (by simp [he]))))
  exact this.1

example : MysticVerif.Signal.deliver true [.sol, .other, .call, .exit, .cont]
    = { earlyExit := true, consumed := 4, printed := 1, called := 1, unknown := 1, finished := true } := by decide

/-- non-vacuity: a run that stops by its generation limit, with a truthful message -/
example : (({ nstep := 1, gens := 2, maxiter := .val 2, live := true } : Ctl).step false false { dEvals := 3 }).2.1 = some .lim := by
  decide

end MysticVerif.C05
