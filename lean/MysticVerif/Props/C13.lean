/-
C13 - compiled constraint functions enforce exactly the stated relation.

Objects (Model/Emitted.lean): `Rel` = the relation `x_i ⋈ rhs` the TEXT states; `Assign` = one statement
`x[i] = e` of the source that `generate_solvers` exec's (parsed from the current tree on every run by the
harness); `recognise r code` = "`code` is one of the shapes `constraints_parser` may emit for `r`"
(the decidable validator run on every generated program); `Assign.exec` = running that statement;
`chain` = `generate_constraint` (inner-nested composition).  `K` is ANY linearly ordered field,
`env.ι` ANY reading of the numerals, `x` ANY vector.

Property clause                                   theorem
  relation holds on the output (strictly ..)      solver_enforces (from solver_enforces_margin)
  differs from the input at most in x_i           solver_frame
  equals the input when it already satisfies ..   solver_identity_nonstrict  (=, <=, >=, != : full strength)
                                                  solver_identity_partial    (<, > : needs the tolerance margin;
                                                  the unrestricted clause is FALSE for the code as it is:
                                                  strict_band_moves_feasible_point, DESIGN F9)
  several relations not feeding one another       chain_independent, chain_frame, chain_identity
  bounds constraint clips into the box / identity bounds_in_box, bounds_identity_inside
`chain_opt_eq` ties the exception-aware `chain?` the driver runs to the total `chain` of the theorems.

Composition modes of `generate_constraint` (Model/EmittedJoin.lean):
  ctype= any mix of inner / outer couplers          compose_eq_chain_order, compose_opt_eq, compose_independent,
                                                    compose_frame (independent systems: EVERY order works)
  relations that DO feed one another                compose_feeding_partial (only the relation applied last is guaranteed),
                                                    compose_feeding_order_matters (closed witness: the default inner nesting
                                                    of `x0 = x1 ; x1 = 5` violates `x0 = x1`, the outer nesting satisfies both)
  join=and_ / or_ (mystic.constraints)              fixed_point_margin (a vector a solver leaves unchanged satisfies its
                                                    relation - for ALL systems, fed or not), member_idem,
                                                    join_and_all_hold, join_and_independent (independent systems: and_ ALWAYS succeeds,
                                                    draws nothing, all relations hold; generic part Proofs/AndSuccess.lean),
                                                    join_and_identity, join_or_some_holds, join_or_total (or_ ALWAYS succeeds on statements that do
                                                    not read their own target, draws nothing, one relation holds), join_or_identity;
                                                    compose_identity (every coupler list is the identity on feasible input)

Argument SHAPES of `generate_constraint` (Model/EmittedShape.lean: one solver / a list / any nesting of lists and tuples, as
`generate_solvers` returns for a tuple of texts; `ctype` = None / one coupler / a (nested) list):
  every solver of the nesting is compiled in           gc_shape_compiles_every_solver (None, one coupler, a list with an entry per solver)
  the nesting is irrelevant                             gc_shape_default_eq_chain (= `chain` of the flattening)
  independent systems, any nesting, any couplers        gc_shape_independent, gc_shape_frame, gc_shape_identity
  a list as long as the OUTER sequence of nested        gc_shape_short_ctype_drops (closed witness: `zip` silently leaves the
  solvers                                               trailing solvers out - the code as it is; DESIGN F57)
  join= over GROUPS (every top-level item one member)   group_fixed_all_hold (distinct targets: a group that leaves y unchanged
                                                        satisfies all its relations there), join_groups_or_member_holds,
                                                        join_groups_and_all_hold (idempotent members),
                                                        group_member_idem (a group of independent, division-free lines IS idempotent:
                                                        chain_independent_margin, compose_independent_margin, compose_idempotent),
                                                        join_groups_and_indep_all_hold (groups may feed one another),
                                                        join_groups_and_feeding_false_success (closed witness: a group whose lines
                                                        feed one another makes `constraints.and_` report a false success)
-/
import MysticVerif.Proofs.Emitted
import MysticVerif.Proofs.EmittedJoin
import MysticVerif.Proofs.EmittedShape
import MysticVerif.Props.C17
import MysticVerif.Proofs.AndSuccess
import Mathlib.Tactic.Linarith

set_option linter.unusedSectionVars false

namespace MysticVerif.C13
open MysticVerif.Emitted

private theorem independent_maps {C : Type} {ps : List (Rel C × Assign C)} (htarget : ∀ p ∈ ps, p.2.i = p.1.i)
    (hnodup : ((ps.map (·.1)).map (·.i)).Nodup)
    (hfree : ∀ r ∈ ps.map (·.1), ∀ r' ∈ ps.map (·.1), r'.rhs.mentions r.i = false)
    (hB : ∀ c ∈ ps.map (·.2), ∀ r ∈ ps.map (·.1), c.factor.mentions r.i = false) : Independent ps where
  target := htarget
  nodup := by rwa [List.map_map] at hnodup
  free p hp q hq := hfree p.1 (List.mem_map_of_mem hp) q.1 (List.mem_map_of_mem hq)
  factor p hp q hq := hB p.2 (List.mem_map_of_mem hp) q.1 (List.mem_map_of_mem hq)

section
variable {K : Type} [Field K] [LinearOrder K] [IsStrictOrderedRing K] {C : Type}

set_option linter.unusedVariables false in -- `htol`
/-- **Clause 1, with the margin the code works with.** For every statement the validator accepts for
`x_i ⋈ rhs` (`i ∉ vars rhs`, `0 ≤ tol`, `0 ≤ rel`, and `0 < tol` for `!=`), the output satisfies the
relation with its margin: `x_i' ≤ rhs - tol(rhs)` for `<`, `≥ rhs + tol(rhs)` for `>`, the plain relation
for `=`, `<=`, `>=` (margin `tol(rhs)*B`, `B ∈ {0,1}`) and `!=`. -/
theorem solver_enforces_margin [DecidableEq C] (env : Env C K) (isPos : C → Bool) (d : C)
    (hpos : ∀ c, isPos c = true → 0 < env.ι c) (htol : 0 ≤ env.tol) (hrel : 0 ≤ env.rel)
    (r : Rel C) (code : Assign C) (x : List K)
    (hrec : recognise isPos d r code = true) (hi : r.i < x.length)
    (hfree : r.rhs.mentions r.i = false) (hB : code.factor.mentions r.i = false)
    (hne : r.cmp = .ne → 0 < env.tol) :
    r.margin env code.factor (code.exec env x) := by
  obtain ⟨hcode, _, hp⟩ := recognise_spec hrec
  have := emitG_margin env r code.factor (code.scale d) x hi hfree hB
    fun h => mul_pos (tolf_pos env (hne h) hrel _) (hpos _ (hp h))
  rwa [← hcode] at this

/-- the margin implies the relation (strictly for `<`, `>` when `0 < tol`) -/
theorem margin_holds (env : Env C K) (htol : 0 ≤ env.tol) (hrel : 0 ≤ env.rel) (r : Rel C) (B : Expr C)
    (x : List K) (hBnn : (r.cmp = .le ∨ r.cmp = .ge) → 0 ≤ B.eval env x)
    (hstrict : r.cmp.strict = true → 0 < env.tol) (h : r.margin env B x) : r.holds env x := by
  refine Cmp.within_holds ?_ ?_ ((Rel.margin_iff env r B x).mp h)
  · intro hc; exact mul_nonneg (tolf_nonneg env htol hrel _) (hBnn hc)
  · intro hc; exact tolf_pos env (hstrict hc) hrel _

private theorem margin_holds_of_recognise [DecidableEq C] {isPos : C → Bool} {d : C} {r : Rel C} {code : Assign C}
    (hrec : recognise isPos d r code = true) (env : Env C K) (htol : 0 ≤ env.tol) (hrel : 0 ≤ env.rel) (x : List K)
    (hstrict : r.cmp.strict = true → 0 < env.tol) (h : r.margin env code.factor x) : r.holds env x :=
  margin_holds env htol hrel r code.factor x
    (fun hc => isBool_eval_nonneg env x _ ((recognise_spec hrec).2.1 hc)) hstrict h

/-- **Clause 1.** The vector returned by an accepted statement satisfies the stated relation -
strictly for `<`, `>`, and `≠` for `!=` (these three need `0 < tol`; the default is `1e-15`). -/
theorem solver_enforces [DecidableEq C] (env : Env C K) (isPos : C → Bool) (d : C)
    (hpos : ∀ c, isPos c = true → 0 < env.ι c) (htol : 0 ≤ env.tol) (hrel : 0 ≤ env.rel)
    (r : Rel C) (code : Assign C) (x : List K)
    (hrec : recognise isPos d r code = true) (hi : r.i < x.length)
    (hfree : r.rhs.mentions r.i = false) (hB : code.factor.mentions r.i = false)
    (hstrict : r.cmp.strict = true → 0 < env.tol) :
    r.holds env (code.exec env x) :=
  margin_holds_of_recognise hrec env htol hrel _ hstrict
    (solver_enforces_margin env isPos d hpos htol hrel r code x hrec hi hfree hB
      fun h => hstrict (Cmp.strict_of_ne h))

/-- **Clause 2 (frame).** The output has the input's length and differs from it at most in `x_i`. -/
theorem solver_frame [DecidableEq C] (env : Env C K) (isPos : C → Bool) (d : C)
    (r : Rel C) (code : Assign C) (x : List K) (hrec : recognise isPos d r code = true) :
    (code.exec env x).length = x.length ∧ ∀ j, j ≠ r.i → (code.exec env x).getD j 0 = x.getD j 0 :=
  ⟨exec_length env code x, fun j hj => exec_getD_ne env code x j (recognise_i hrec ▸ hj)⟩

/-- **Clause 3, partial (`<`, `>` need the margin).** If the input satisfies the relation with the margin
of the emitted code, the statement returns the input unchanged.
Full clause: `r.holds env x → code.exec env x = x`; see `solver_identity_nonstrict` for `= <= >= !=`
and `strict_band_moves_feasible_point` for why it fails for `<`, `>`. -/
theorem solver_identity_partial [DecidableEq C] (env : Env C K) (isPos : C → Bool) (d : C)
    (r : Rel C) (code : Assign C) (x : List K) (hrec : recognise isPos d r code = true)
    (h : r.margin env code.factor x) : code.exec env x = x := by
  have := emitG_exec_of_margin env r code.factor (code.scale d) x h
  rwa [← (recognise_spec hrec).1] at this

/-- **Clause 3 at full strength for `=`, `<=`, `>=`, `!=`** (whenever the boolean factor of the statement
is 0 at `x`, in particular always for a text without `!=` lines, where it is the literal `any([])`). -/
theorem solver_identity_nonstrict [DecidableEq C] (env : Env C K) (isPos : C → Bool) (d : C)
    (r : Rel C) (code : Assign C) (x : List K) (hrec : recognise isPos d r code = true)
    (hlt : r.cmp ≠ .lt) (hgt : r.cmp ≠ .gt) (hfac : code.factor.eval env x = 0)
    (h : r.holds env x) : code.exec env x = x :=
  solver_identity_partial env isPos d r code x hrec
    ((Rel.margin_iff env r _ x).mpr (Cmp.within_of_holds hlt hgt hfac h))

/-- **Argument order of the outer `min`/`max` does not matter.** The driver validates `code.canon`; every theorem of
this file about an accepted `code.canon` is a theorem about `code` itself, because they compute the same vector. -/
theorem canon_exec (env : Env C K) (code : Assign C) (x : List K) : code.canon.exec env x = code.exec env x := by
  obtain ⟨i, e⟩ := code
  unfold Assign.canon
  split
  · -- `min(x[j], b)`: for `j = i` canon swaps the arguments (`min_comm`), else it is `code`
    rename_i j b he; simp only at he; subst he
    split
    · simp only [Assign.exec, Expr.eval]; rw [pyMin_eq_min, pyMin_eq_min, min_comm]
    · rfl
  · rename_i j b he; simp only at he; subst he
    split
    · simp only [Assign.exec, Expr.eval]; rw [pyMax_eq_max, pyMax_eq_max, max_comm]
    · rfl
  · rfl

theorem chain_canon (env : Env C K) (codes : List (Assign C)) (x : List K) :
    chain env (codes.map Assign.canon) x = chain env codes x := by
  induction codes with
  | nil => rfl
  | cons c cs ih => simp only [List.map_cons, chain_cons, ih, canon_exec]

/-- `chain?` (what the driver runs, with python's exceptions) agrees with the total `chain` -/
theorem chain_opt_eq (env : Env C K) (codes : List (Assign C)) (x y : List K)
    (h : chain? env codes x = some y) : y = chain env codes x := (chainOpt_sound env codes x y h).1

/-- **Frame of the composition.** Coordinates that are no statement's target are untouched. -/
theorem chain_frame (env : Env C K) (codes : List (Assign C)) (x : List K) :
    (chain env codes x).length = x.length ∧
    ∀ j, (∀ c ∈ codes, c.i ≠ j) → (chain env codes x).getD j 0 = x.getD j 0 :=
  ⟨chain_length env codes x, chain_getD_of_not_target env codes x⟩

/-- **Accepted statements of an independent system, composed in any order, establish every margin.** -/
private theorem independent_margin [DecidableEq C] {isPos : C → Bool} {d : C} (env : Env C K)
    (hpos : ∀ c, isPos c = true → 0 < env.ι c) (htol : 0 ≤ env.tol) (hrel : 0 ≤ env.rel) (x : List K)
    {ps qs : List (Rel C × Assign C)}
    (h : Independent ps) (hrec : ∀ p ∈ ps, recognise isPos d p.1 p.2 = true) (hlen : ∀ p ∈ ps, p.1.i < x.length)
    (hne : ∀ p ∈ ps, p.1.cmp = .ne → 0 < env.tol) (hqs : qs.Perm ps) :
    ∀ p ∈ ps, p.1.margin env p.2.factor (chain env (qs.map (·.2)) x) := by
  have hm := (h.perm hqs).chain_margin env x fun p hp z hz =>
    have hp' := hqs.mem_iff.mp hp
    solver_enforces_margin env isPos d hpos htol hrel p.1 p.2 z (hrec p hp') (hz ▸ hlen p hp') (h.free p hp' p hp')
      (h.factor p hp' p hp') (hne p hp')
  exact fun p hp => hm p (hqs.mem_iff.mpr hp)

/-- **Independent systems, with margins.** The output of the default composition satisfies every relation with the margin
the code works with (what makes a second run the identity). -/
theorem chain_independent_margin [DecidableEq C] (env : Env C K) (isPos : C → Bool) (d : C)
    (hpos : ∀ c, isPos c = true → 0 < env.ι c) (htol : 0 ≤ env.tol) (hrel : 0 ≤ env.rel)
    (rels : List (Rel C)) (codes : List (Assign C)) (x : List K)
    (hrec : List.Forall₂ (fun r c => recognise isPos d r c = true) rels codes)
    (hlen : ∀ r ∈ rels, r.i < x.length)
    (hnodup : (rels.map (·.i)).Nodup)
    (hfree : ∀ r ∈ rels, ∀ r' ∈ rels, r'.rhs.mentions r.i = false)
    (hB : ∀ c ∈ codes, ∀ r ∈ rels, c.factor.mentions r.i = false)
    (hne : ∀ r ∈ rels, r.cmp = .ne → 0 < env.tol) :
    List.Forall₂ (fun r c => recognise isPos d r c = true ∧ r.margin env c.factor (chain env codes x)) rels codes := by
  obtain ⟨ps, rfl, rfl, hps⟩ := forall₂_eq_maps hrec
  have hm := independent_margin env hpos htol hrel x
    (independent_maps (fun p hp => recognise_i (hps p hp)) hnodup hfree hB) hps (fun p hp => hlen p.1 (List.mem_map_of_mem hp))
    (fun p hp => hne p.1 (List.mem_map_of_mem hp)) (List.Perm.refl ps)
  exact forall₂_maps _ _ ps fun p hp => ⟨hps p hp, hm p hp⟩

/-- **Independent systems.** Accepted statements for relations with pairwise distinct left-hand variables,
none of which occurs in any right-hand side (nor in a `!=` factor), composed as `generate_constraint`
composes them: the output satisfies ALL relations at once. -/
theorem chain_independent [DecidableEq C] (env : Env C K) (isPos : C → Bool) (d : C)
    (hpos : ∀ c, isPos c = true → 0 < env.ι c) (htol : 0 ≤ env.tol) (hrel : 0 ≤ env.rel)
    (rels : List (Rel C)) (codes : List (Assign C)) (x : List K)
    (hrec : List.Forall₂ (fun r c => recognise isPos d r c = true) rels codes)
    (hlen : ∀ r ∈ rels, r.i < x.length)
    (hnodup : (rels.map (·.i)).Nodup)
    (hfree : ∀ r ∈ rels, ∀ r' ∈ rels, r'.rhs.mentions r.i = false)
    (hB : ∀ c ∈ codes, ∀ r ∈ rels, c.factor.mentions r.i = false)
    (hstrict : ∀ r ∈ rels, r.cmp.strict = true → 0 < env.tol) :
    ∀ r ∈ rels, r.holds env (chain env codes x) := by
  obtain ⟨ps, rfl, rfl, hps⟩ := forall₂_eq_maps (chain_independent_margin env isPos d hpos htol hrel rels codes x
    hrec hlen hnodup hfree hB fun r hr h => hstrict r hr (Cmp.strict_of_ne h))
  intro r hr
  obtain ⟨p, hp, rfl⟩ := List.mem_map.mp hr
  exact margin_holds_of_recognise (hps p hp).1 env htol hrel _ (hstrict _ hr) (hps p hp).2

/-- **Identity of the composition.** If the input satisfies every relation with its margin, the composed
function returns the input unchanged. -/
theorem chain_identity [DecidableEq C] (env : Env C K) (isPos : C → Bool) (d : C)
    (rels : List (Rel C)) (codes : List (Assign C)) (x : List K)
    (hrec : List.Forall₂ (fun r c => recognise isPos d r c = true ∧ r.margin env c.factor x) rels codes) :
    chain env codes x = x := by
  induction hrec with
  | nil => rfl
  | @cons r c rs cs hrc _ ih => rw [chain_cons, ih]; exact solver_identity_partial env isPos d r c x hrc.1 hrc.2

/-- a bound line `x_i >= c` / `x_i <= c` with a numeral right-hand side -/
def IsBound (r : Rel C) : Prop := (r.cmp = .le ∨ r.cmp = .ge) ∧ ∃ c, r.rhs = .num c

/-- every lower bound of a variable is below every upper bound of the same variable (`min[i] <= max[i]`) -/
def Consistent (env : Env C K) (rels : List (Rel C)) : Prop :=
  ∀ r ∈ rels, ∀ r' ∈ rels, r.i = r'.i → r.cmp = .ge → r'.cmp = .le →
    r.rhs.eval env [] ≤ r'.rhs.eval env []

private theorem bound_exec_val [DecidableEq C] (env : Env C K) (isPos : C → Bool) (d : C)
    (r : Rel C) (c : Assign C) (z : List K) (hrc : recognise isPos d r c = true)
    (hb : IsBound r) (hf : c.factor = .false_) (hi : r.i < z.length) :
    (r.cmp = .le → (c.exec env z).getD r.i 0 = min (r.rhs.eval env []) (z.getD r.i 0)) ∧
    (r.cmp = .ge → (c.exec env z).getD r.i 0 = max (r.rhs.eval env []) (z.getD r.i 0)) := by
  have he : c.e = (emitG r .false_ (c.scale d)).e := hf ▸ congrArg Assign.e (recognise_spec hrc).1
  have hself : (c.exec env z).getD c.i 0 = c.e.eval env z := exec_getD_self env c z (recognise_i hrc ▸ hi)
  rw [recognise_i hrc, he, emitG_eval] at hself
  obtain ⟨_, k, hk⟩ := hb
  rw [hself, hk]
  constructor
  · intro hc
    rw [hc]
    show pyMin (env.ι k - _ * 0) _ = _
    rw [mul_zero, sub_zero, pyMin_eq_min]; rfl
  · intro hc
    rw [hc]
    show pyMax (env.ι k + _ * 0) _ = _
    rw [mul_zero, add_zero, pyMax_eq_max]; rfl

/-- **Bounds: into the box.** The composition of accepted statements for any list of consistent bound
lines (any order, any number of lines per variable, no `!=` lines) returns a vector inside the box. -/
theorem bounds_in_box [DecidableEq C] (env : Env C K) (isPos : C → Bool) (d : C)
    (rels : List (Rel C)) (codes : List (Assign C)) (x : List K)
    (hrec : List.Forall₂ (fun r c => recognise isPos d r c = true ∧ c.factor = .false_) rels codes)
    (hbound : ∀ r ∈ rels, IsBound r) (hcons : Consistent env rels)
    (hlen : ∀ r ∈ rels, r.i < x.length) :
    ∀ r ∈ rels, r.holds env (chain env codes x) := by
  induction hrec with
  | nil => intro r hr; cases hr
  | @cons r c rs cs hrc _ ih =>
    have hr : r ∈ r :: rs := List.mem_cons_self
    have ih' := ih (fun r hr => hbound r (List.mem_cons_of_mem _ hr))
      (fun a ha b hb => hcons a (List.mem_cons_of_mem _ ha) b (List.mem_cons_of_mem _ hb))
      (fun r hr => hlen r (List.mem_cons_of_mem _ hr))
    obtain ⟨hle, hge⟩ := bound_exec_val env isPos d r c (chain env cs x) hrc.1 (hbound r hr) hrc.2
      ((chain_length env cs x).symm ▸ hlen r hr)
    have numeval : ∀ (q : Rel C), IsBound q → ∀ w : List K, q.rhs.eval env w = q.rhs.eval env [] := by
      intro q hq w; obtain ⟨_, k, hk⟩ := hq; rw [hk]; rfl
    intro r' hr'
    have hb' := hbound r' hr'
    unfold Rel.holds
    rw [chain_cons, numeval r' hb']
    rcases List.mem_cons.mp hr' with rfl | hmem
    · rcases hb'.1 with hc | hc
      · rw [hc, hle hc]; exact min_le_left _ _
      · rw [hc, hge hc]; exact le_max_left _ _
    · have hz := ih' r' hmem
      unfold Rel.holds at hz
      rw [numeval r' hb'] at hz
      by_cases hii : r'.i = r.i
      · -- another line for the same variable: clipping at `r` keeps it, by consistency
        rw [hii] at hz ⊢
        rcases (hbound r hr).1 with hc | hc
        · rw [hle hc]
          rcases hb'.1 with hc' | hc'
          · rw [hc'] at hz ⊢; exact min_le_of_right_le hz
          · rw [hc'] at hz ⊢; exact le_min (hcons r' hr' r hr hii hc' hc) hz
        · rw [hge hc]
          rcases hb'.1 with hc' | hc'
          · rw [hc'] at hz ⊢; exact max_le (hcons r hr r' hr' hii.symm hc hc') hz
          · rw [hc'] at hz ⊢; exact le_max_of_le_right hz
      · rwa [exec_getD_ne env c _ _ (recognise_i hrc.1 ▸ hii)]

/-- **Bounds: identity inside the box.** If the input satisfies every bound line, the composition returns it
unchanged. -/
theorem bounds_identity_inside [DecidableEq C] (env : Env C K) (isPos : C → Bool) (d : C)
    (rels : List (Rel C)) (codes : List (Assign C)) (x : List K)
    (hrec : List.Forall₂ (fun r c => recognise isPos d r c = true ∧ c.factor = .false_) rels codes)
    (hbound : ∀ r ∈ rels, IsBound r) (hin : ∀ r ∈ rels, r.holds env x) :
    chain env codes x = x := by
  obtain ⟨ps, rfl, rfl, hps⟩ := forall₂_eq_maps hrec
  refine chain_identity env isPos d _ _ x (forall₂_maps _ _ ps fun p hp => ⟨(hps p hp).1, ?_⟩)
  -- without `!=` lines the factor is `any([])` = 0: a bound line has no margin
  have hr := List.mem_map_of_mem (f := (·.1)) hp
  have hc : p.1.cmp ≠ .lt ∧ p.1.cmp ≠ .gt := by
    rcases (hbound p.1 hr).1 with hc | hc
    all_goals rw [hc]; decide
  exact (Rel.margin_iff env p.1 _ x).mpr
    (Cmp.within_of_holds hc.1 hc.2 (by rw [(hps p hp).2]; rfl) (hin p.1 hr))

/-- **`ctype=` is a reordering.** `generate_constraint(solvers, ctype=[..])` with any mix of `inner` and `outer`
couplers computes `chain` of the statements in the order `order ws`, which is a permutation of the solvers
(`order_perm`): an `inner` level runs its solver before, an `outer` level after everything wrapped so far. -/
theorem compose_eq_chain_order (env : Env C K) (ws : List (CType × Assign C)) (x : List K) :
    compose env ws x = chain env (order ws) x ∧ (order ws).Perm (ws.map (·.2)) :=
  ⟨compose_eq_chain env ws x, order_perm ws⟩

/-- `compose?` (what the driver runs, with python's exceptions) agrees with the total `compose` -/
theorem compose_opt_eq (env : Env C K) (ws : List (CType × Assign C)) (x y : List K)
    (h : compose? env ws x = some y) : y = compose env ws x := (composeOpt_sound env ws x y h).1

/-- **Independent systems, every order, with margins.** -/
theorem compose_independent_margin [DecidableEq C] (env : Env C K) (isPos : C → Bool) (d : C)
    (hpos : ∀ c, isPos c = true → 0 < env.ι c) (htol : 0 ≤ env.tol) (hrel : 0 ≤ env.rel)
    (items : List (CType × Rel C × Assign C)) (x : List K)
    (hrec : ∀ t ∈ items, recognise isPos d t.2.1 t.2.2 = true)
    (hlen : ∀ t ∈ items, t.2.1.i < x.length)
    (hnodup : (items.map (·.2.1.i)).Nodup)
    (hfree : ∀ t ∈ items, ∀ t' ∈ items, t'.2.1.rhs.mentions t.2.1.i = false)
    (hB : ∀ t ∈ items, ∀ t' ∈ items, t.2.2.factor.mentions t'.2.1.i = false)
    (hne : ∀ t ∈ items, t.2.1.cmp = .ne → 0 < env.tol) :
    ∀ t ∈ items, t.2.1.margin env t.2.2.factor (compose env (items.map fun t => (t.1, t.2.2)) x) := by
  have hind : Independent (items.map (·.2)) :=
    { target := List.forall_mem_map.mpr fun t ht => recognise_i (hrec t ht)
      nodup := by rw [List.map_map]; exact hnodup
      free := List.forall_mem_map.mpr fun t ht => List.forall_mem_map.mpr (hfree t ht)
      factor := List.forall_mem_map.mpr fun t ht => List.forall_mem_map.mpr (hB t ht) }
  rw [compose_eq_chain, order_map (fun q : Rel C × Assign C => q.2) items]
  have hm := independent_margin env hpos htol hrel x hind (List.forall_mem_map.mpr hrec) (List.forall_mem_map.mpr hlen)
    (List.forall_mem_map.mpr hne) (order_perm items)
  exact fun t ht => hm t.2 (List.mem_map_of_mem ht)

/-- **Independent systems, every order (property clause 4 for every `ctype`).** Accepted statements for relations
with pairwise distinct left-hand variables, none of which occurs in any right-hand side (nor in a `!=` factor),
composed through ANY list of `inner` / `outer` couplers: the output satisfies ALL relations at once. -/
theorem compose_independent [DecidableEq C] (env : Env C K) (isPos : C → Bool) (d : C)
    (hpos : ∀ c, isPos c = true → 0 < env.ι c) (htol : 0 ≤ env.tol) (hrel : 0 ≤ env.rel)
    (items : List (CType × Rel C × Assign C)) (x : List K)
    (hrec : ∀ t ∈ items, recognise isPos d t.2.1 t.2.2 = true)
    (hlen : ∀ t ∈ items, t.2.1.i < x.length)
    (hnodup : (items.map (·.2.1.i)).Nodup)
    (hfree : ∀ t ∈ items, ∀ t' ∈ items, t'.2.1.rhs.mentions t.2.1.i = false)
    (hB : ∀ t ∈ items, ∀ t' ∈ items, t.2.2.factor.mentions t'.2.1.i = false)
    (hstrict : ∀ t ∈ items, t.2.1.cmp.strict = true → 0 < env.tol) :
    ∀ t ∈ items, t.2.1.holds env (compose env (items.map fun t => (t.1, t.2.2)) x) :=
  fun t ht => margin_holds_of_recognise (hrec t ht) env htol hrel _ (hstrict t ht)
    (compose_independent_margin env isPos d hpos htol hrel items x hrec hlen hnodup hfree hB
      (fun t ht h => hstrict t ht (Cmp.strict_of_ne h)) t ht)

/-- **Identity of every composition mode.** If the input satisfies every relation with its margin, the function composed
through ANY list of couplers returns the input unchanged (no independence hypothesis). -/
theorem compose_identity [DecidableEq C] (env : Env C K) (isPos : C → Bool) (d : C)
    (items : List (CType × Rel C × Assign C)) (x : List K)
    (h : ∀ t ∈ items, recognise isPos d t.2.1 t.2.2 = true ∧ t.2.1.margin env t.2.2.factor x) :
    compose env (items.map fun t => (t.1, t.2.2)) x = x := by
  rw [compose_eq_chain, order_map (fun q : Rel C × Assign C => q.2) items]
  refine chain_identity env isPos d ((order items).map (·.1)) _ x (forall₂_maps _ _ _ fun p hp => ?_)
  obtain ⟨t, ht, rfl⟩ := mem_order.mp hp
  exact h t ht

/-- **Frame of every composition mode.** Coordinates that are no statement's target are untouched, whatever the couplers. -/
theorem compose_frame (env : Env C K) (ws : List (CType × Assign C)) (x : List K) :
    (compose env ws x).length = x.length ∧
    ∀ j, (∀ w ∈ ws, w.2.i ≠ j) → (compose env ws x).getD j 0 = x.getD j 0 := by
  rw [compose_eq_chain]
  refine ⟨chain_length env _ x, fun j hj => chain_getD_of_not_target env _ x j fun c hc => ?_⟩
  obtain ⟨w, hw, rfl⟩ := mem_order.mp hc
  exact hj w hw

/-- **Relations that feed one another, partial.** Without independence only the relation whose statement runs LAST
is guaranteed (for `ctype=None`: the LAST line of the text, because `constraints_parser` reverses the lines and
`inner` nesting reverses them again). Full clause (`∀ r, r.holds ..`) is false: `compose_feeding_order_matters`. -/
theorem compose_feeding_partial [DecidableEq C] (env : Env C K) (isPos : C → Bool) (d : C)
    (hpos : ∀ c, isPos c = true → 0 < env.ι c) (htol : 0 ≤ env.tol) (hrel : 0 ≤ env.rel)
    (r : Rel C) (code : Assign C) (rest : List (Assign C)) (x : List K)
    (hrec : recognise isPos d r code = true) (hi : r.i < x.length)
    (hfree : r.rhs.mentions r.i = false) (hB : code.factor.mentions r.i = false)
    (hstrict : r.cmp.strict = true → 0 < env.tol) :
    r.holds env (chain env (code :: rest) x) := by
  rw [chain_cons]
  exact solver_enforces env isPos d hpos htol hrel r code _ hrec (by rw [chain_length]; exact hi) hfree hB hstrict

/-- **A vector that a solver leaves unchanged satisfies its relation** (with the margin of the code; NO independence
hypothesis: this holds for systems whose lines feed one another, too). It is what turns the fixed-point
guarantees of `constraints.and_ / or_` (C17) into statements about the relations of the text. -/
theorem fixed_point_margin [DecidableEq C] (env : Env C K) (isPos : C → Bool) (d : C)
    (hpos : ∀ c, isPos c = true → 0 < env.ι c) (hrel : 0 ≤ env.rel)
    (r : Rel C) (code : Assign C) (x : List K)
    (hrec : recognise isPos d r code = true) (hi : r.i < x.length)
    (hne : r.cmp = .ne → 0 < env.tol) (hfix : code.exec env x = x) :
    r.margin env code.factor x := by
  obtain ⟨hcode, _, hp⟩ := recognise_spec hrec
  rw [hcode] at hfix
  exact emitG_margin_of_fixed env r code.factor (code.scale d) x hi
    (fun h => mul_pos (tolf_pos env (hne h) hrel _) (hpos _ (hp h))) hfix

/-- **Solver members are idempotent** (the hypothesis of C17's `and_success_fixed`): where an accepted statement
whose right-hand side and `!=` factor do not read `x_i` runs without raising, running it again raises nothing
and changes nothing. -/
theorem member_idem [DecidableEq C] (env : Env C K) (isPos : C → Bool) (d : C)
    (hpos : ∀ c, isPos c = true → 0 < env.ι c) (htol : 0 ≤ env.tol) (hrel : 0 ≤ env.rel)
    (rels : List (Rel C)) (codes : List (Assign C))
    (hrec : List.Forall₂ (fun r c => recognise isPos d r c = true) rels codes)
    (hfree : ∀ r ∈ rels, r.rhs.mentions r.i = false)
    (hB : List.Forall₂ (fun r (c : Assign C) => c.factor.mentions r.i = false) rels codes)
    (hne : ∀ r ∈ rels, r.cmp = .ne → 0 < env.tol) (i : Nat) :
    C17.Idem (member env codes i) := by
  intro a b hab
  rcases Nat.lt_or_ge i codes.length with hlt | hge
  · obtain ⟨hri, hrc⟩ := forall₂_getElem hrec hlt
    obtain ⟨_, hBc⟩ := forall₂_getElem hB hlt
    have hfr := hfree _ (List.getElem_mem hri)
    rw [member_of_lt env codes hlt] at hab ⊢
    split at hab
    · rename_i hdef
      cases hab
      -- the output is within the margin, so the second run is the identity; it is defined because the first was
      have hm := solver_enforces_margin env isPos d hpos htol hrel _ _ a hrc (recognise_i hrc ▸ Assign.lt_of_defined hdef) hfr hBc
        (hne _ (List.getElem_mem hri))
      have hcode := (recognise_spec hrc).1
      have hdefb : codes[i].defined env (codes[i].exec env a) = true := by
        have := emitG_defined_exec env rels[i] codes[i].factor (codes[i].scale d) a hfr hBc (hcode ▸ hdef)
        rwa [← hcode] at this
      rw [if_pos hdefb, solver_identity_partial env isPos d _ _ _ hrc hm]
    · cases hab
  · unfold member
    rw [List.getElem?_eq_none hge]

private theorem holds_of_member_fixed [DecidableEq C] (env : Env C K) {isPos : C → Bool} {d : C}
    (hpos : ∀ c, isPos c = true → 0 < env.ι c) (htol : 0 ≤ env.tol) (hrel : 0 ≤ env.rel)
    {rels : List (Rel C)} {codes : List (Assign C)}
    (hrec : List.Forall₂ (fun r c => recognise isPos d r c = true) rels codes) {i : Nat} (hlt : i < codes.length)
    (hri : i < rels.length) (y : List K) (hstrict : rels[i].cmp.strict = true → 0 < env.tol)
    (hm : member env codes i y = some y) : rels[i].holds env y := by
  obtain ⟨_, hrc⟩ := forall₂_getElem hrec hlt
  rw [member_of_lt env codes hlt] at hm
  split at hm
  · rename_i hdef
    exact margin_holds_of_recognise hrc env htol hrel y hstrict
      (fixed_point_margin env isPos d hpos hrel _ _ y hrc (recognise_i hrc ▸ Assign.lt_of_defined hdef)
        (fun h => hstrict (Cmp.strict_of_ne h)) (Option.some.inj hm))
  · cases hm

/-- **`join=and_`: a success is a solution of the whole text.** If `constraints.and_` over the solver members
reports success with an intact history window (`n ≤ links`: no random replacement inside it, in particular on
every run that draws nothing), every relation holds at the returned vector - for ANY accepted system whose
statements do not read their own target, whether or not the lines feed one another. -/
theorem join_and_all_hold [DecidableEq C] (env : Env C K) (isPos : C → Bool) (d : C)
    (hpos : ∀ c, isPos c = true → 0 < env.ι c) (htol : 0 ≤ env.tol) (hrel : 0 ≤ env.rel)
    (rels : List (Rel C)) (codes : List (Assign C)) (x : List K) (draws : List (List K))
    (hrec : List.Forall₂ (fun r c => recognise isPos d r c = true) rels codes)
    (hfree : ∀ r ∈ rels, r.rhs.mentions r.i = false)
    (hB : List.Forall₂ (fun r (c : Assign C) => c.factor.mentions r.i = false) rels codes)
    (hstrict : ∀ r ∈ rels, r.cmp.strict = true → 0 < env.tol)
    (y : List K) (t links : Nat) (st : Comb.Stats)
    (hr : joinAnd env codes x draws = (.success y t links, st)) (hlinks : codes.length ≤ links) :
    ∀ r ∈ rels, r.holds env y := by
  have hfix := C17.and_success_fixed (member env codes) (fun d _ => d) codes.length (100 * codes.length) x draws
    y t links st (fun i _ => member_idem env isPos d hpos htol hrel rels codes hrec hfree hB
      (fun r hr h => hstrict r hr (Cmp.strict_of_ne h)) i) hr hlinks
  intro r hrm
  obtain ⟨i, hi, rfl⟩ := List.getElem_of_mem hrm
  have hlt : i < codes.length := hrec.length_eq ▸ hi
  exact holds_of_member_fixed env hpos htol hrel hrec hlt hi y (hstrict _ hrm) (hfix i hlt)

/-- on a vector that every member returns unchanged the first pass of `and_` only stacks copies of it -/
private theorem andFirst_fixed {X : Type} (c : Nat → X → Option X) (n : Nat) (x : X)
    (hfix : ∀ j, c (j % n) x = some x) :
    ∀ (k i : Nat) (h : List X) (links : Nat),
      Comb.andFirst c n k i h x false links = (List.replicate k x ++ h, x, false, links + k) := by
  intro k
  induction k with
  | zero => intro i h links; simp [Comb.andFirst]
  | succ k ih =>
    intro i h links
    unfold Comb.andFirst
    have hy := Comb.applyM_of_some (hfix i)
    simp only [hy, Bool.or_false, Bool.false_eq_true, if_false]
    rw [ih (i + 1) (x :: h) (links + 1)]
    have e1 : List.replicate k x ++ x :: h = List.replicate (k + 1) x ++ h := by
      rw [List.replicate_succ', List.append_assoc]; rfl
    rw [e1]
    rw [Nat.add_assoc links 1 k, Nat.add_comm 1 k]

/-- **`join=and_` is the identity on jointly feasible input.** If every statement runs without raising at `x` and
`x` satisfies every relation with its margin, `constraints.and_` over the solver members succeeds in its first pass
(`n` member calls, no random draw) and returns `x` itself. -/
theorem join_and_identity [DecidableEq C] (env : Env C K) (isPos : C → Bool) (d : C)
    (rels : List (Rel C)) (codes : List (Assign C)) (x : List K) (draws : List (List K))
    (hrec : List.Forall₂ (fun r c => recognise isPos d r c = true ∧ r.margin env c.factor x) rels codes)
    (hdef : ∀ c ∈ codes, c.defined env x = true) (hn : codes ≠ []) :
    joinAnd env codes x draws = (.success x (codes.length - 1) codes.length, { calls := codes.length }) := by
  have hn' : codes.length ≠ 0 := by simpa using hn
  have hfix : ∀ j, member env codes (j % codes.length) x = some x := by
    intro j
    have hlt : j % codes.length < codes.length := Nat.mod_lt _ (Nat.pos_of_ne_zero hn')
    obtain ⟨_, hrc, hm⟩ := forall₂_getElem hrec hlt
    rw [member_of_lt env codes hlt, if_pos (hdef _ (List.getElem_mem hlt)), solver_identity_partial env isPos d _ _ x hrc hm]
  unfold joinAnd Comb.and_
  rw [if_neg hn']
  simp only [andFirst_fixed (member env codes) codes.length x hfix codes.length 0 [] 0]
  have hw : Comb.lastAllEq (codes.length - 1) (List.replicate codes.length x) x = true := by
    rw [← List.append_nil (List.replicate _ x), Comb.lastAllEq_replicate_append, Comb.lastAllEq, List.take_nil]; rfl
  simp [hw]

/-- the first pass of `or_` stops at the first member that returns the vector unchanged, if none before it raises -/
private theorem orFirst_fixed {X : Type} [BEq X] [LawfulBEq X] (c : Nat → X → Option X) (x : X) (i0 : Nat)
    (hfix : c i0 x = some x) :
    ∀ (k i : Nat) (h : List X) (calls : Nat), i ≤ i0 → i0 < i + k → (∀ j, i ≤ j → j ≤ i0 → c j x ≠ none) →
      ∃ h' calls', Comb.orFirst c x k i h false calls = (some x, h', calls') := by
  intro k
  induction k with
  | zero => intro i h calls h1 h2; omega
  | succ k ih =>
    intro i h calls h1 h2 hdef
    unfold Comb.orFirst
    cases hci : c i x with
    | none => exact absurd hci (hdef i (Nat.le_refl _) h1)
    | some y =>
      have hy := Comb.applyM_of_some hci
      simp only [hy, Bool.or_false, Bool.not_false, Bool.and_true]
      by_cases hyx : y = x
      · subst hyx; simp
      · have hne : (y == x) = false := by simpa using hyx
        simp only [hne, Bool.false_eq_true, if_false]
        have hlt : i < i0 := by
          rcases Nat.lt_or_ge i i0 with h | h
          · exact h
          · have : i = i0 := Nat.le_antisymm h1 h
            subst this; rw [hfix] at hci; exact absurd (Option.some.inj hci).symm hyx
        exact ih (i + 1) (y :: h) (calls + 1) hlt (by omega) (fun j hj1 hj2 => hdef j (Nat.le_of_succ_le hj1) hj2)

/-- **`join=or_` is the identity where one line already holds.** If the input satisfies the relation of member `i0` with
its margin and members `0..i0` run without raising at `x`, `constraints.or_` over the solver members succeeds in its
first pass and returns `x` itself. -/
theorem join_or_identity [DecidableEq C] (env : Env C K) (isPos : C → Bool) (d : C)
    (codes : List (Assign C)) (x : List K) (draws : List Nat) (i0 : Nat) (hi0 : i0 < codes.length)
    (r : Rel C) (hrec : recognise isPos d r codes[i0] = true) (hm : r.margin env codes[i0].factor x)
    (hdef : ∀ j, j ≤ i0 → ∀ (hj : j < codes.length), codes[j].defined env x = true) :
    ∃ t l st, joinOr env codes x draws = (.success x t l, st) := by
  have hfix : member env codes i0 x = some x := by
    rw [member_of_lt env codes hi0, if_pos (hdef i0 (Nat.le_refl _) hi0), solver_identity_partial env isPos d r _ x hrec hm]
  have hnone : ∀ j, 0 ≤ j → j ≤ i0 → member env codes j x ≠ none := by
    intro j _ hj
    have hlt : j < codes.length := Nat.lt_of_le_of_lt hj hi0
    rw [member_of_lt env codes hlt, if_pos (hdef j hj hlt)]
    exact Option.some_ne_none _
  obtain ⟨h', calls', hof⟩ := orFirst_fixed (member env codes) x i0 hfix codes.length 0 [x] 0 (Nat.zero_le _) (by rwa [Nat.zero_add]) hnone
  unfold joinOr Comb.or_
  rw [hof]
  exact ⟨0, 1, _, rfl⟩

/-- **`join=or_`: a success satisfies at least one line.** Every success of `constraints.or_` over the solver members
returns a vector at which at least one relation of the text holds (no independence hypothesis). -/
theorem join_or_some_holds [DecidableEq C] (env : Env C K) (isPos : C → Bool) (d : C)
    (hpos : ∀ c, isPos c = true → 0 < env.ι c) (htol : 0 ≤ env.tol) (hrel : 0 ≤ env.rel)
    (rels : List (Rel C)) (codes : List (Assign C)) (x : List K) (draws : List Nat)
    (hrec : List.Forall₂ (fun r c => recognise isPos d r c = true) rels codes)
    (hstrict : ∀ r ∈ rels, r.cmp.strict = true → 0 < env.tol)
    (y : List K) (t links : Nat) (st : Comb.Stats)
    (hr : joinOr env codes x draws = (.success y t links, st)) :
    ∃ r ∈ rels, r.holds env y := by
  obtain ⟨i, hlt, hm⟩ := C17.or_success_fixed (member env codes) id codes.length (100 * codes.length) x draws
    y t links st (fun h => by rw [h]) hr
  have hi : i < rels.length := hrec.length_eq ▸ hlt
  exact ⟨rels[i], List.getElem_mem hi,
    holds_of_member_fixed env hpos htol hrel hrec hlt hi y (hstrict _ (List.getElem_mem hi)) hm⟩

/-- **`join=or_` always succeeds on statements that do not read their own target.** If the first solver member runs
without raising at the input, `constraints.or_` over accepted, non-self-referential statements (fed or not) reports
success without a random draw, and at least one relation of the text holds at the vector it returns. -/
theorem join_or_total [DecidableEq C] (env : Env C K) (isPos : C → Bool) (d : C)
    (hpos : ∀ c, isPos c = true → 0 < env.ι c) (htol : 0 ≤ env.tol) (hrel : 0 ≤ env.rel)
    (rels : List (Rel C)) (codes : List (Assign C)) (x : List K) (draws : List Nat)
    (hrec : List.Forall₂ (fun r c => recognise isPos d r c = true) rels codes)
    (hfree : ∀ r ∈ rels, r.rhs.mentions r.i = false)
    (hB : List.Forall₂ (fun r (c : Assign C) => c.factor.mentions r.i = false) rels codes)
    (hstrict : ∀ r ∈ rels, r.cmp.strict = true → 0 < env.tol)
    (hn : 0 < codes.length) (hdef0 : codes[0].defined env x = true) :
    ∃ y t l st, joinOr env codes x draws = (.success y t l, st) ∧ st.draws = 0 ∧ ∃ r ∈ rels, r.holds env y := by
  have hne : ∀ r ∈ rels, r.cmp = .ne → 0 < env.tol := fun r hr h => hstrict r hr (Cmp.strict_of_ne h)
  have h0 : member env codes 0 x = some (codes[0].exec env x) := by
    rw [member_of_lt env codes hn, if_pos hdef0]
  have hid := member_idem env isPos d hpos htol hrel rels codes hrec hfree hB hne 0 _ _ h0
  obtain ⟨y, t, l, st, hr, hd⟩ := Comb.or_succeeds (member env codes) id codes.length (100 * codes.length) x draws
    hn (by omega) _ h0 hid
  exact ⟨y, t, l, st, hr, hd, join_or_some_holds env isPos d hpos htol hrel rels codes x draws hrec hstrict y t l st hr⟩

/-- an independent isolated-form system, compiled by the current tree, at the input `x` -/
structure Indep [DecidableEq C] (env : Env C K) (isPos : C → Bool) (d : C) (rels : List (Rel C))
    (codes : List (Assign C)) (x : List K) : Prop where
  hrec : List.Forall₂ (fun r c => recognise isPos d r c = true) rels codes
  hnodup : (rels.map (·.i)).Nodup
  hfree : ∀ r ∈ rels, ∀ r' ∈ rels, r'.rhs.mentions r.i = false
  hB : ∀ c ∈ codes, ∀ r ∈ rels, c.factor.mentions r.i = false
  hlen : ∀ r ∈ rels, r.i < x.length
  hne : ∀ r ∈ rels, r.cmp = .ne → 0 < env.tol
  /-- no statement raises at a vector that has the input's non-target coordinates -/
  hdef : ∀ c ∈ codes, ∀ z : List K, z.length = x.length →
    (∀ j, (∀ r ∈ rels, r.i ≠ j) → z.getD j 0 = x.getD j 0) → c.defined env z = true

section
variable [DecidableEq C] {env : Env C K} {isPos : C → Bool} {d : C} {rels : List (Rel C)} {codes : List (Assign C)}
  {x : List K}

private theorem Indep.defined_chain (h : Indep env isPos d rels codes x) (L : List (Assign C))
    (hL : ∀ c ∈ L, c ∈ codes) (c : Assign C) (hc : c ∈ codes) : c.defined env (chain env L x) = true := by
  refine h.hdef c hc _ (chain_length env L x) fun j hj => chain_getD_of_not_target env L x j fun c' hc' e => ?_
  obtain ⟨ps, rfl, rfl, hps⟩ := forall₂_eq_maps h.hrec
  obtain ⟨p, hp, rfl⟩ := List.mem_map.mp (hL c' hc')
  exact hj p.1 (List.mem_map_of_mem hp) ((recognise_i (hps p hp)).symm.trans e)

/-- first-pass states of `and_` over the solver members -/
private abbrev firstPass (env : Env C K) (codes : List (Assign C)) (x : List K) (k : Nat) : List K :=
  Comb.seqF (member env codes) codes.length x k

/-- member `k` on `chain` of the first `k` statements, the last one outermost: the next state of the first pass -/
private theorem Indep.call (h : Indep env isPos d rels codes x) {k : Nat} (hk : k < codes.length) :
    Comb.applyM (member env codes (k % codes.length)) (chain env (codes.take k).reverse x)
      = (chain env (codes.take (k + 1)).reverse x, false) := by
  have hd := h.defined_chain (codes.take k).reverse (fun c hc => List.mem_of_mem_take (List.mem_reverse.mp hc))
    _ (List.getElem_mem hk)
  have hrev : (codes.take (k + 1)).reverse = codes[k] :: (codes.take k).reverse := by
    rw [List.take_succ_eq_append_getElem hk, List.reverse_append, List.reverse_singleton, List.singleton_append]
  rw [Nat.mod_eq_of_lt hk, Comb.applyM, member_of_lt env codes hk, if_pos hd, hrev, chain_cons]

private theorem Indep.first_pass (h : Indep env isPos d rels codes x) : ∀ k, k ≤ codes.length →
    firstPass env codes x k = chain env (codes.take k).reverse x
  | 0, _ => rfl
  | k + 1, hk => by
    show (Comb.applyM (member env codes (k % codes.length)) (firstPass env codes x k)).1 = _
    rw [Indep.first_pass h k (Nat.le_of_lt hk), h.call hk]

/-- **`join=and_` on an independent system always succeeds, without a random draw, at a vector satisfying ALL
relations.** (Completes `join_and_all_hold`: the success it assumes is guaranteed for systems whose left-hand variables
are distinct and feed no right-hand side, provided no statement raises.) -/
theorem join_and_independent (h : Indep env isPos d rels codes x) (hpos : ∀ c, isPos c = true → 0 < env.ι c)
    (htol : 0 ≤ env.tol) (hrel : 0 ≤ env.rel) (hstrict : ∀ r ∈ rels, r.cmp.strict = true → 0 < env.tol)
    (hn : codes ≠ []) (draws : List (List K)) :
    ∃ y t l st, joinAnd env codes x draws = (.success y t l, st) ∧ st.draws = 0 ∧ ∀ r ∈ rels, r.holds env y := by
  have hn' : 0 < codes.length := List.length_pos_iff.mpr hn
  -- the first pass ends at `chain` of the reversed statements, where every margin holds
  have hN := h.first_pass codes.length (Nat.le_refl _)
  rw [List.take_length] at hN
  have hdefN : ∀ c ∈ codes, c.defined env (firstPass env codes x codes.length) = true :=
    fun c hc => hN ▸ h.defined_chain codes.reverse (fun c hc => List.mem_reverse.mp hc) c hc
  have hmg : List.Forall₂ (fun r c => recognise isPos d r c = true ∧
      r.margin env c.factor (firstPass env codes x codes.length)) rels codes := by
    obtain ⟨ps, rfl, rfl, hps⟩ := forall₂_eq_maps h.hrec
    rw [hN, ← List.map_reverse]
    have hm := independent_margin env hpos htol hrel x
      (independent_maps (fun p hp => recognise_i (hps p hp)) h.hnodup h.hfree h.hB) hps
      (fun p hp => h.hlen p.1 (List.mem_map_of_mem hp)) (fun p hp => h.hne p.1 (List.mem_map_of_mem hp))
      (List.reverse_perm ps)
    exact forall₂_maps _ _ ps fun p hp => ⟨hps p hp, hm p hp⟩
  have hok : ∀ k, k < codes.length →
      (Comb.applyM (member env codes (k % codes.length)) (firstPass env codes x k)).2 = false := by
    intro k hk
    rw [h.first_pass k (Nat.le_of_lt hk), h.call hk]
  -- so there every statement is the identity
  have hfix : ∀ j, member env codes (j % codes.length) (firstPass env codes x codes.length)
      = some (firstPass env codes x codes.length) := by
    intro j
    have hlt : j % codes.length < codes.length := Nat.mod_lt _ hn'
    obtain ⟨_, hrc, hm⟩ := forall₂_getElem hmg hlt
    rw [member_of_lt env codes hlt, if_pos (hdefN _ (List.getElem_mem hlt)),
      solver_identity_partial env isPos d _ _ _ hrc hm]
  obtain ⟨t, l, st, hr, hd⟩ := Comb.and_succeeds (member env codes) (fun d _ => d) codes.length (100 * codes.length) x draws
    hn' (by omega) hok hfix
  refine ⟨_, t, l, st, hr, hd, fun r hrm => ?_⟩
  obtain ⟨ps, rfl, rfl, hps⟩ := forall₂_eq_maps hmg
  obtain ⟨p, hp, rfl⟩ := List.mem_map.mp hrm
  exact margin_holds_of_recognise (hps p hp).1 env htol hrel _ (hstrict _ hrm) (hps p hp).2

end

/-- **Every solver is compiled in, whatever the nesting.** For `ctype=None`, one coupler, or a (nested) list whose
flattening has an entry for every solver, the statements `generate_constraint` composes are EXACTLY the flattening of the
`conditions` argument - a flat tuple, the tuple of tuples `generate_solvers` returns for a tuple of texts, a one-element
wrapper, any hand-made nesting: no relation is left out and none is added. (The coupler list is sized by the FLATTENED
length, symbolic.py l.1503-1510; sizing it by the outer length loses the tail in the `zip` of l.1517.) -/
theorem gc_shape_compiles_every_solver {α : Type} (conds : Nest α) (ct : CArg)
    (hcov : ct.covers (Nest.flatL conds.top).length) :
    (gcItems conds ct).map (·.2) = Nest.flatL conds.top := gcItems_snd conds ct hcov

/-- **The nesting is irrelevant.** With the default couplers, `generate_constraint` of ANY nesting of the solvers is `chain`
(the default inner composition) of their flattening. -/
theorem gc_shape_default_eq_chain (env : Env C K) (conds : Nest (Assign C)) (x : List K) :
    gcShaped env conds .none x = chain env (Nest.flatL conds.top) x :=
  (compose_eq_chain env _ x).trans (congrArg (fun L => chain env L x) (orderFrom_all_inner _ []))

/-- **Independent systems, any nesting, any couplers (property clause 4 for every shape of the arguments).** Accepted
statements for relations with pairwise distinct left-hand variables, none of which occurs in a right-hand side, handed to
`generate_constraint` in ANY nesting with `ctype` = None, one coupler, or a (nested) list covering the solvers: the output
satisfies ALL relations at once. -/
theorem gc_shape_independent [DecidableEq C] (env : Env C K) (isPos : C → Bool) (d : C)
    (hpos : ∀ c, isPos c = true → 0 < env.ι c) (htol : 0 ≤ env.tol) (hrel : 0 ≤ env.rel)
    (items : Nest (Rel C × Assign C)) (ct : CArg) (x : List K)
    (hcov : ct.covers (Nest.flatL items.top).length)
    (hrec : ∀ t ∈ Nest.flatL items.top, recognise isPos d t.1 t.2 = true)
    (hlen : ∀ t ∈ Nest.flatL items.top, t.1.i < x.length)
    (hnodup : ((Nest.flatL items.top).map (·.1.i)).Nodup)
    (hfree : ∀ t ∈ Nest.flatL items.top, ∀ t' ∈ Nest.flatL items.top, t'.1.rhs.mentions t.1.i = false)
    (hB : ∀ t ∈ Nest.flatL items.top, ∀ t' ∈ Nest.flatL items.top, t.2.factor.mentions t'.1.i = false)
    (hstrict : ∀ t ∈ Nest.flatL items.top, t.1.cmp.strict = true → 0 < env.tol) :
    ∀ t ∈ Nest.flatL items.top, t.1.holds env (gcShaped env (Nest.map (·.2) items) ct x) := by
  have hsnd := gcItems_snd items ct hcov
  have hmem : ∀ w ∈ gcItems items ct, w.2 ∈ Nest.flatL items.top := gcItems_snd_mem items ct
  unfold gcShaped
  rw [gcItems_map]
  have key := compose_independent env isPos d hpos htol hrel (gcItems items ct) x
    (fun w hw => hrec _ (hmem w hw)) (fun w hw => hlen _ (hmem w hw))
    (by rw [← hsnd, List.map_map] at hnodup; exact hnodup)
    (fun w hw w' hw' => hfree _ (hmem w hw) _ (hmem w' hw'))
    (fun w hw w' hw' => hB _ (hmem w hw) _ (hmem w' hw'))
    (fun w hw => hstrict _ (hmem w hw))
  intro t ht
  rw [← hsnd] at ht
  obtain ⟨w, hw, rfl⟩ := List.mem_map.mp ht
  exact key w hw

/-- **Frame, any nesting, any `ctype`.** Coordinates that are no statement's target are untouched. -/
theorem gc_shape_frame (env : Env C K) (conds : Nest (Assign C)) (ct : CArg) (x : List K) :
    (gcShaped env conds ct x).length = x.length ∧
    ∀ j, (∀ c ∈ Nest.flatL conds.top, c.i ≠ j) → (gcShaped env conds ct x).getD j 0 = x.getD j 0 := by
  unfold gcShaped
  refine ⟨(compose_frame env _ x).1, fun j hj => (compose_frame env _ x).2 j ?_⟩
  intro w hw
  exact hj w.2 (gcItems_snd_mem conds ct w hw)

/-- **Identity, any nesting, any `ctype`.** If the input satisfies every relation with its margin, the composed function
returns the input unchanged. -/
theorem gc_shape_identity [DecidableEq C] (env : Env C K) (isPos : C → Bool) (d : C)
    (items : Nest (Rel C × Assign C)) (ct : CArg) (x : List K)
    (h : ∀ t ∈ Nest.flatL items.top, recognise isPos d t.1 t.2 = true ∧ t.1.margin env t.2.factor x) :
    gcShaped env (Nest.map (·.2) items) ct x = x := by
  unfold gcShaped
  rw [gcItems_map]
  exact compose_identity env isPos d (gcItems items ct) x (fun w hw => h _ (gcItems_snd_mem items ct w hw))

/-- **A group that leaves a vector unchanged satisfies all its relations there.** For accepted statements with pairwise
distinct left-hand variables composed through ANY couplers (one member of a joined constraint): if the composition returns
`y` itself, every relation of the group holds at `y` with its margin - whether or not the lines feed one another. -/
theorem group_fixed_all_hold [DecidableEq C] (env : Env C K) (isPos : C → Bool) (d : C)
    (hpos : ∀ c, isPos c = true → 0 < env.ι c) (hrel : 0 ≤ env.rel)
    (g : List (CType × Rel C × Assign C)) (y : List K)
    (hrec : ∀ t ∈ g, recognise isPos d t.2.1 t.2.2 = true)
    (hnodup : (g.map (·.2.1.i)).Nodup)
    (hlen : ∀ t ∈ g, t.2.1.i < y.length)
    (hne : ∀ t ∈ g, t.2.1.cmp = .ne → 0 < env.tol)
    (hfix : compose env (g.map fun t => (t.1, t.2.2)) y = y) :
    ∀ t ∈ g, t.2.1.margin env t.2.2.factor y := by
  have hnd : ((g.map fun t => (t.1, t.2.2)).map (·.2.i)).Nodup := by
    rw [List.map_map]
    have : g.map ((fun w : CType × Assign C => w.2.i) ∘ fun t => (t.1, t.2.2)) = g.map (·.2.1.i) :=
      List.map_congr_left (fun t ht => recognise_i (hrec t ht))
    rw [this]; exact hnodup
  have hall := compose_fixed_all_fixed env _ y hnd hfix
  intro t ht
  have hex : t.2.2.exec env y = y := hall (t.1, t.2.2) (List.mem_map.mpr ⟨t, ht, rfl⟩)
  exact fixed_point_margin env isPos d hpos hrel t.2.1 t.2.2 y (hrec t ht) (hlen t ht) (hne t ht) hex

private theorem holds_of_gmember_fixed [DecidableEq C] (env : Env C K) {isPos : C → Bool} {d : C}
    (hpos : ∀ c, isPos c = true → 0 < env.ι c) (htol : 0 ≤ env.tol) (hrel : 0 ≤ env.rel)
    {groups : List (List (CType × Rel C × Assign C))}
    (hrec : ∀ g ∈ groups, ∀ t ∈ g, recognise isPos d t.2.1 t.2.2 = true)
    (hnodup : ∀ g ∈ groups, (g.map (·.2.1.i)).Nodup)
    (hstrict : ∀ g ∈ groups, ∀ t ∈ g, t.2.1.cmp.strict = true → 0 < env.tol)
    {i : Nat} (hlt : i < groups.length) (y : List K)
    (hm : gmember env (groups.map fun g => g.map fun t => (t.1, t.2.2)) i y = some y) :
    ∀ t ∈ groups[i], t.2.1.holds env y := by
  rw [gmember_of_lt env _ (by rwa [List.length_map]), List.getElem_map] at hm
  have hg : groups[i] ∈ groups := List.getElem_mem hlt
  intro t ht
  refine margin_holds_of_recognise (hrec _ hg t ht) env htol hrel y (hstrict _ hg t ht)
    (group_fixed_all_hold env isPos d hpos hrel groups[i] y (hrec _ hg) (hnodup _ hg) ?_
      (fun t ht h => hstrict _ hg t ht (Cmp.strict_of_ne h)) (compose_opt_eq env _ y y hm).symm t ht)
  exact fun t ht => recognise_i (hrec _ hg t ht) ▸
    composeOpt_target_lt env _ y y hm (t.1, t.2.2) (List.mem_map.mpr ⟨t, ht, rfl⟩)

/-- **`join=or_` over groups: a success satisfies ALL relations of at least one member.** Members are the top-level items
of `conditions` (single solvers or whole groups, each composed through its own couplers); the lines of a group have
pairwise distinct left-hand variables. No independence hypothesis. -/
theorem join_groups_or_member_holds [DecidableEq C] (env : Env C K) (isPos : C → Bool) (d : C)
    (hpos : ∀ c, isPos c = true → 0 < env.ι c) (htol : 0 ≤ env.tol) (hrel : 0 ≤ env.rel)
    (groups : List (List (CType × Rel C × Assign C))) (x : List K) (draws : List Nat)
    (hrec : ∀ g ∈ groups, ∀ t ∈ g, recognise isPos d t.2.1 t.2.2 = true)
    (hnodup : ∀ g ∈ groups, (g.map (·.2.1.i)).Nodup)
    (hstrict : ∀ g ∈ groups, ∀ t ∈ g, t.2.1.cmp.strict = true → 0 < env.tol)
    (y : List K) (t links : Nat) (st : Comb.Stats)
    (hr : joinOrG env (groups.map fun g => g.map fun t => (t.1, t.2.2)) x draws = (.success y t links, st)) :
    ∃ g ∈ groups, ∀ t ∈ g, t.2.1.holds env y := by
  unfold joinOrG at hr
  obtain ⟨i, hlt, hm⟩ := C17.or_success_fixed _ id _ _ x draws y t links st (fun h => by rw [h]) hr
  rw [List.length_map] at hlt
  exact ⟨groups[i], List.getElem_mem hlt, holds_of_gmember_fixed env hpos htol hrel hrec hnodup hstrict hlt y hm⟩

/-- **`join=and_` over groups: a success is a solution of the whole text**, for idempotent members (a single solver that
does not read its own target is: `member_idem`; a group is when running it twice equals running it once, e.g. when its
lines do not feed one another) and an intact history window. For a member that is NOT idempotent - a group whose lines
feed one another - `constraints.and_` may report success at a vector that the member would still move. -/
theorem join_groups_and_all_hold [DecidableEq C] (env : Env C K) (isPos : C → Bool) (d : C)
    (hpos : ∀ c, isPos c = true → 0 < env.ι c) (htol : 0 ≤ env.tol) (hrel : 0 ≤ env.rel)
    (groups : List (List (CType × Rel C × Assign C))) (x : List K) (draws : List (List K))
    (hrec : ∀ g ∈ groups, ∀ t ∈ g, recognise isPos d t.2.1 t.2.2 = true)
    (hnodup : ∀ g ∈ groups, (g.map (·.2.1.i)).Nodup)
    (hstrict : ∀ g ∈ groups, ∀ t ∈ g, t.2.1.cmp.strict = true → 0 < env.tol)
    (hidem : ∀ i, i < groups.length → C17.Idem (gmember env (groups.map fun g => g.map fun t => (t.1, t.2.2)) i))
    (y : List K) (t links : Nat) (st : Comb.Stats)
    (hr : joinAndG env (groups.map fun g => g.map fun t => (t.1, t.2.2)) x draws = (.success y t links, st))
    (hlinks : groups.length ≤ links) :
    ∀ g ∈ groups, ∀ t ∈ g, t.2.1.holds env y := by
  unfold joinAndG at hr
  have hfixall := C17.and_success_fixed _ (fun d _ => d) _ _ x draws
    y t links st (fun i hi => hidem i (by simpa using hi)) hr (by simpa using hlinks)
  intro g hg
  obtain ⟨i, hlt, rfl⟩ := List.getElem_of_mem hg
  exact holds_of_gmember_fixed env hpos htol hrel hrec hnodup hstrict hlt y (hfixall i (by simpa using hlt))

/-- **A group of independent lines is idempotent**: running it on its own output changes nothing. -/
theorem compose_idempotent [DecidableEq C] (env : Env C K) (isPos : C → Bool) (d : C)
    (hpos : ∀ c, isPos c = true → 0 < env.ι c) (htol : 0 ≤ env.tol) (hrel : 0 ≤ env.rel)
    (items : List (CType × Rel C × Assign C)) (x : List K)
    (hrec : ∀ t ∈ items, recognise isPos d t.2.1 t.2.2 = true)
    (hlen : ∀ t ∈ items, t.2.1.i < x.length)
    (hnodup : (items.map (·.2.1.i)).Nodup)
    (hfree : ∀ t ∈ items, ∀ t' ∈ items, t'.2.1.rhs.mentions t.2.1.i = false)
    (hB : ∀ t ∈ items, ∀ t' ∈ items, t.2.2.factor.mentions t'.2.1.i = false)
    (hne : ∀ t ∈ items, t.2.1.cmp = .ne → 0 < env.tol) :
    compose env (items.map fun t => (t.1, t.2.2)) (compose env (items.map fun t => (t.1, t.2.2)) x)
      = compose env (items.map fun t => (t.1, t.2.2)) x :=
  compose_identity env isPos d items _ (fun t ht => ⟨hrec t ht,
    compose_independent_margin env isPos d hpos htol hrel items x hrec hlen hnodup hfree hB hne t ht⟩)

/-- **Group members are idempotent when their lines do not feed one another.** A member of a joined constraint whose
accepted statements have distinct left-hand variables, none of which occurs in a right-hand side of the SAME group (other
groups may read them), and whose statements cannot raise ZeroDivisionError (definedness depends on the vector's length
only): where the member runs without raising, running it again raises nothing and changes nothing. -/
theorem group_member_idem [DecidableEq C] (env : Env C K) (isPos : C → Bool) (d : C)
    (hpos : ∀ c, isPos c = true → 0 < env.ι c) (htol : 0 ≤ env.tol) (hrel : 0 ≤ env.rel)
    (groups : List (List (CType × Rel C × Assign C)))
    (hrec : ∀ g ∈ groups, ∀ t ∈ g, recognise isPos d t.2.1 t.2.2 = true)
    (hnodup : ∀ g ∈ groups, (g.map (·.2.1.i)).Nodup)
    (hfree : ∀ g ∈ groups, ∀ t ∈ g, ∀ t' ∈ g, t'.2.1.rhs.mentions t.2.1.i = false)
    (hB : ∀ g ∈ groups, ∀ t ∈ g, ∀ t' ∈ g, t.2.2.factor.mentions t'.2.1.i = false)
    (hne : ∀ g ∈ groups, ∀ t ∈ g, t.2.1.cmp = .ne → 0 < env.tol)
    (hdef : ∀ g ∈ groups, ∀ t ∈ g, ∀ z z' : List K, z.length = z'.length →
      t.2.2.defined env z = true → t.2.2.defined env z' = true)
    (i : Nat) : C17.Idem (gmember env (groups.map fun g => g.map fun t => (t.1, t.2.2)) i) := by
  intro a b hab
  rcases Nat.lt_or_ge i groups.length with hlt | hge
  · have hlt' : i < (groups.map fun g => g.map fun t => (t.1, t.2.2)).length := by rwa [List.length_map]
    rw [gmember_of_lt env _ hlt', List.getElem_map] at hab ⊢
    have hg : groups[i] ∈ groups := List.getElem_mem hlt
    obtain ⟨hb, hran⟩ := composeOpt_sound env _ a b hab
    have hbl : b.length = a.length := hb ▸ (compose_frame env _ a).1
    have hlen : ∀ t ∈ groups[i], t.2.1.i < a.length := fun t ht => recognise_i (hrec _ hg t ht) ▸
      composeOpt_target_lt env _ a b hab (t.1, t.2.2) (List.mem_map.mpr ⟨t, ht, rfl⟩)
    -- every statement ran at some vector of this length, so it is defined on all of them: the second run raises nothing
    rw [composeOpt_total env a.length _ b hbl, hb,
      compose_idempotent env isPos d hpos htol hrel groups[i] a (hrec _ hg) hlen (hnodup _ hg) (hfree _ hg) (hB _ hg)
        (hne _ hg)]
    intro w hw z hz
    obtain ⟨z0, hz0, hd0⟩ := hran w hw
    obtain ⟨t, ht, rfl⟩ := List.mem_map.mp hw
    exact hdef _ hg t ht z0 z (hz0.trans hz.symm) hd0
  · unfold gmember
    rw [List.getElem?_eq_none (by rwa [List.length_map])]

/-- **`join=and_` over groups of independent lines: a success is a solution of the whole text.** Groups may feed ONE ANOTHER
(that is what `and_` iterates for); inside a group the lines are independent and division-free. -/
theorem join_groups_and_indep_all_hold [DecidableEq C] (env : Env C K) (isPos : C → Bool) (d : C)
    (hpos : ∀ c, isPos c = true → 0 < env.ι c) (htol : 0 ≤ env.tol) (hrel : 0 ≤ env.rel)
    (groups : List (List (CType × Rel C × Assign C))) (x : List K) (draws : List (List K))
    (hrec : ∀ g ∈ groups, ∀ t ∈ g, recognise isPos d t.2.1 t.2.2 = true)
    (hnodup : ∀ g ∈ groups, (g.map (·.2.1.i)).Nodup)
    (hfree : ∀ g ∈ groups, ∀ t ∈ g, ∀ t' ∈ g, t'.2.1.rhs.mentions t.2.1.i = false)
    (hB : ∀ g ∈ groups, ∀ t ∈ g, ∀ t' ∈ g, t.2.2.factor.mentions t'.2.1.i = false)
    (hstrict : ∀ g ∈ groups, ∀ t ∈ g, t.2.1.cmp.strict = true → 0 < env.tol)
    (hdef : ∀ g ∈ groups, ∀ t ∈ g, ∀ z z' : List K, z.length = z'.length →
      t.2.2.defined env z = true → t.2.2.defined env z' = true)
    (y : List K) (t links : Nat) (st : Comb.Stats)
    (hr : joinAndG env (groups.map fun g => g.map fun t => (t.1, t.2.2)) x draws = (.success y t links, st))
    (hlinks : groups.length ≤ links) :
    ∀ g ∈ groups, ∀ t ∈ g, t.2.1.holds env y :=
  join_groups_and_all_hold env isPos d hpos htol hrel groups x draws hrec hnodup hstrict
    (fun i _ => group_member_idem env isPos d hpos htol hrel groups hrec hnodup hfree hB
      (fun g hg t ht h => hstrict g hg t ht (Cmp.strict_of_ne h)) hdef i)
    y t links st hr hlinks

end

/-- **Clause 3 fails for strict comparators on the code as it is (F9).** `x0 < x1` with `tol = 1`, `rel = 0`
at `x = [1/2, 1]`: the relation holds strictly, the accepted statement `x[0] = min(x[1] - _tol(x[1]), x[0])`
nevertheless moves `x0` to `0`. (Over `ℚ`; with the default `tol = rel = 1e-15` the same happens for
`x0 = 1 - 2^-53`.) -/
theorem strict_band_moves_feasible_point :
    ∃ (env : Env Nat ℚ) (r : Rel Nat) (code : Assign Nat) (x : List ℚ),
      recognise (fun c => decide (0 < c)) 1 r code = true ∧ r.rhs.mentions r.i = false ∧
      0 < env.tol ∧ 0 ≤ env.rel ∧ r.holds env x ∧ code.exec env x ≠ x := by
  refine ⟨{ ι := fun n => (n : ℚ), tol := 1, rel := 0 }, ⟨0, .lt, .var 1⟩, emitG ⟨0, .lt, .var 1⟩ .false_ 1, [1 / 2, 1],
    by decide, by decide, by decide +kernel, by decide +kernel, ?_, by decide +kernel⟩
  simp only [Rel.holds, Cmp.holds]; decide +kernel

/-- **Order matters when a left-hand variable feeds another line (closed witness).** The text `x0 = x1 ; x1 = 5`
(accepted statements, distinct left-hand variables, but `x1` feeds the first line) at `x = [0, 0]`:
the default inner nesting stores `x0 := x1` BEFORE `x1 := 5` and returns `[0, 5]`, where `x0 = x1` fails;
the same solvers under `ctype=outer` return `[5, 5]`, where both relations hold. -/
theorem compose_feeding_order_matters :
    ∃ (env : Env Nat ℚ) (r0 r1 : Rel Nat) (c0 c1 : Assign Nat) (x : List ℚ),
      recognise (fun c => decide (0 < c)) 1 r0 c0 = true ∧ recognise (fun c => decide (0 < c)) 1 r1 c1 = true ∧
      r0.i ≠ r1.i ∧ r0.rhs.mentions r1.i = true ∧
      compose env [(.inner, c1), (.inner, c0)] x = [0, 5] ∧ ¬ r0.holds env [0, 5] ∧
      compose env [(.outer, c1), (.outer, c0)] x = [5, 5] ∧ r0.holds env [5, 5] ∧ r1.holds env [5, 5] := by
  refine ⟨{ ι := fun n => (n : ℚ), tol := 0, rel := 0 }, ⟨0, .eq, .var 1⟩, ⟨1, .eq, .num 5⟩,
    ⟨0, .var 1⟩, ⟨1, .num 5⟩, [0, 0], by decide, by decide, by decide, by decide, by decide +kernel, ?_,
    by decide +kernel, ?_, ?_⟩
  all_goals simp only [Rel.holds, Cmp.holds]; decide +kernel

/-- **A `ctype` list as long as the OUTER sequence of nested solvers loses relations (closed witness; the code as it is).**
The solvers of `x0 = 1 ; x1 = 2` and of `x2 = 3`, nested as `generate_solvers` returns them for the two texts, with
`ctype=[inner, outer]` - "a list of the same length as conditions" read literally: both arguments are flattened, `zip` pairs
two couplers with the first two of three solvers, and `x2 = 3` is not enforced at `[0, 0, 0]` (no error is raised). -/
theorem gc_shape_short_ctype_drops :
    ∃ (env : Env Nat ℚ) (r2 : Rel Nat) (c0 c1 c2 : Assign Nat),
      recognise (fun c => decide (0 < c)) 1 r2 c2 = true ∧
      (gcItems (.node [.node [.leaf c0, .leaf c1], .node [.leaf c2]]) (.many [.leaf .inner, .leaf .outer])).map (·.2)
        = [c0, c1] ∧
      gcShaped env (.node [.node [.leaf c0, .leaf c1], .node [.leaf c2]]) (.many [.leaf .inner, .leaf .outer]) [0, 0, 0]
        = [1, 2, 0] ∧
      ¬ r2.holds env [1, 2, 0] := by
  refine ⟨{ ι := fun n => (n : ℚ), tol := 0, rel := 0 }, ⟨2, .eq, .num 3⟩, ⟨0, .num 1⟩, ⟨1, .num 2⟩, ⟨2, .num 3⟩,
    by decide, by decide +kernel, by decide +kernel, ?_⟩
  simp only [Rel.holds, Cmp.holds]; decide +kernel

/-- **`and_` over a group whose lines feed one another may report success at a non-solution (closed witness; why
`join_groups_and_all_hold` asks for idempotent members).** Members: the group `x0 = x1 ; x1 = 5` under `outer` couplers (it
stores `x0 := x1` first, then `x1 := 5`) and an empty group. At `[0, 0]` the first pass of `constraints.and_` produces
`[0, 5]` twice, which it takes for convergence (intact window, no random draw) - but `x0 = x1` fails at `[0, 5]`, and
the group applied once more returns `[5, 5]`. -/
theorem join_groups_and_feeding_false_success :
    ∃ (env : Env Nat ℚ) (r0 r1 : Rel Nat) (c0 c1 : Assign Nat),
      recognise (fun c => decide (0 < c)) 1 r0 c0 = true ∧ recognise (fun c => decide (0 < c)) 1 r1 c1 = true ∧
      r0.i ≠ r1.i ∧
      joinAndG env [[(.outer, c0), (.outer, c1)], []] [0, 0] [] = (.success [0, 5] 1 2, { calls := 2, draws := 0 }) ∧
      ¬ r0.holds env [0, 5] ∧ gmember env [[(.outer, c0), (.outer, c1)], []] 0 [0, 5] = some [5, 5] := by
  refine ⟨{ ι := fun n => (n : ℚ), tol := 0, rel := 0 }, ⟨0, .eq, .var 1⟩, ⟨1, .eq, .num 5⟩, ⟨0, .var 1⟩, ⟨1, .num 5⟩,
    by decide, by decide, by decide, by decide, ?_, by decide⟩
  simp only [Rel.holds, Cmp.holds]; decide +kernel

/-- argument shapes: the solvers of the two texts `x0 > x2` and `x1 != 5` nested as `generate_solvers` returns them, with a
`ctype` list nested the same way, satisfy the hypotheses of `gc_shape_independent`; a single function and `None` do, too -/
example :
    let items : Nest (Rel Nat × Assign Nat) :=
      .node [.node [.leaf (⟨0, .gt, .var 2⟩, emit ⟨0, .gt, .var 2⟩ [] 11)], .node [.leaf (⟨1, .ne, .num 5⟩, emit ⟨1, .ne, .num 5⟩ [] 11)]]
    let ct : CArg := .many [.node [.leaf .outer], .node [.leaf .inner]]
    Nest.flatL items.top = [(⟨0, .gt, .var 2⟩, emit ⟨0, .gt, .var 2⟩ [] 11), (⟨1, .ne, .num 5⟩, emit ⟨1, .ne, .num 5⟩ [] 11)] ∧
    ct.covers (Nest.flatL items.top).length ∧ CArg.none.covers 7 ∧
    (gcItems (Nest.map (·.2) items) ct).map (·.1) = [.outer, .inner] ∧
    (gcItems (Nest.leaf (emit (⟨0, .gt, .var 2⟩ : Rel Nat) [] 11)) .none).length = 1 := by
  refine ⟨by decide +kernel, ?_, trivial, by decide +kernel, by decide +kernel⟩
  unfold CArg.covers
  decide +kernel

/-- `join=or_` over groups: the members `[x0 = 1 ; x1 = 2]` and `[x2 = 3]` at `[0, 0, 3]`: the first member moves the input,
the second leaves it unchanged - success at the input, where all relations of the second member hold -/
example :
    let env : Env Nat ℚ := { ι := fun n => (n : ℚ), tol := 0, rel := 0 }
    joinOrG env [[(.inner, ⟨0, .num 1⟩), (.inner, ⟨1, .num 2⟩)], [(.outer, ⟨2, .num 3⟩)]] [0, 0, 3] []
      = (.success [0, 0, 3] 0 1, { calls := 2, draws := 0 }) := by
  decide

/-- `x0 <= x1*3` (no `!=` lines), numerals read as rationals, `tol = rel = 1/1000`, at `x = [10, 2]` -/
example :
    let env : Env Nat ℚ := { ι := fun n => (n : ℚ), tol := 1 / 1000, rel := 1 / 1000 }
    let r : Rel Nat := ⟨0, .le, .mul (.var 1) (.num 3)⟩
    let code := emit r [] 11
    recognise (fun c => decide (0 < c)) 1 r code = true ∧ r.rhs.mentions r.i = false ∧
      code.factor.mentions r.i = false ∧ code.exec env [10, 2] = [6, 2] ∧ ¬ r.holds env [10, 2] := by
  refine ⟨by decide, by decide, by decide, by decide +kernel, ?_⟩
  simp only [Rel.holds, Cmp.holds]; decide +kernel

/-- a two-line independent system `x0 > x2`, `x1 != 5` and a consistent pair of bounds are accepted -/
example :
    List.Forall₂ (fun r c => recognise (fun c => decide (0 < c)) 1 r c = true)
      [⟨0, .gt, .var 2⟩, ⟨1, .ne, .num 5⟩]
      [emit (⟨0, .gt, .var 2⟩ : Rel Nat) [] 11, emit ⟨1, .ne, .num 5⟩ [] 11] ∧
    ([⟨0, .gt, .var 2⟩, ⟨1, .ne, .num 5⟩].map (fun r : Rel Nat => r.i)).Nodup := by
  refine ⟨List.Forall₂.cons (by decide) (List.Forall₂.cons (by decide) List.Forall₂.nil), by decide⟩

example :
    let env : Env Nat ℚ := { ι := fun n => (n : ℚ), tol := 0, rel := 0 }
    Consistent env [⟨0, .ge, .num 1⟩, ⟨0, .le, .num 4⟩] ∧ IsBound (⟨0, .ge, .num 1⟩ : Rel Nat) ∧
      (emit (⟨0, .ge, .num 1⟩ : Rel Nat) [] 11).factor = .false_ := by
  refine ⟨?_, ⟨Or.inr rfl, 1, rfl⟩, rfl⟩
  intro r hr r' hr' _ hge hle
  simp only [List.mem_cons, List.mem_nil_iff, or_false] at hr hr'
  rcases hr with rfl | rfl <;> rcases hr' with rfl | rfl <;> simp_all [Expr.eval]

/-- composition modes: an independent two-line system `x0 > x2`, `x1 != 5` wrapped by an `outer` and an `inner` coupler
satisfies the hypotheses of `compose_independent`; the couplers run the second statement first -/
example :
    let items : List (CType × Rel Nat × Assign Nat) :=
      [(.outer, ⟨0, .gt, .var 2⟩, emit ⟨0, .gt, .var 2⟩ [] 11), (.inner, ⟨1, .ne, .num 5⟩, emit ⟨1, .ne, .num 5⟩ [] 11)]
    (∀ t ∈ items, recognise (fun c => decide (0 < c)) 1 t.2.1 t.2.2 = true) ∧ (items.map (·.2.1.i)).Nodup ∧
    (∀ t ∈ items, ∀ t' ∈ items, t'.2.1.rhs.mentions t.2.1.i = false) ∧
    (∀ t ∈ items, ∀ t' ∈ items, t.2.2.factor.mentions t'.2.1.i = false) ∧
    (order (items.map fun t => (t.1, t.2.2))).map (·.i) = [0, 1] := by
  decide +kernel

/-- `join=and_` / `join=or_` on the FED system `x1 = 5 ; x0 = x1` (solver order as `constraints_parser` emits it) at `[0, 0]`:
`and_` succeeds after 3 member calls with an intact window (`links = 3 ≥ 2`) at `[5, 5]`, where both relations hold;
`or_` returns the input, at which `x0 = x1` already holds (hypotheses of `join_and_all_hold` / `join_or_some_holds`) -/
example :
    let env : Env Nat ℚ := { ι := fun n => (n : ℚ), tol := 0, rel := 0 }
    let rels : List (Rel Nat) := [⟨1, .eq, .num 5⟩, ⟨0, .eq, .var 1⟩]
    let codes : List (Assign Nat) := [⟨1, .num 5⟩, ⟨0, .var 1⟩]
    joinAnd env codes [0, 0] [] = (.success [5, 5] 2 3, { calls := 3, draws := 0 }) ∧
    joinOr env codes [0, 0] [] = (.success [0, 0] 0 1, { calls := 2, draws := 0 }) ∧
    (List.zipWith (fun r c => recognise (fun c => decide (0 < c)) 1 r c) rels codes = [true, true]) ∧
    (∀ r ∈ rels, r.rhs.mentions r.i = false) := by
  decide +kernel

/-- the independent system `x0 > x2`, `x1 != 5` (statements as the parser emits them) at `[0, 0, 0]` satisfies `Indep` -/
example :
    Indep (K := ℚ) (C := Nat) { ι := fun n => (n : ℚ), tol := 1 / 1000, rel := 1 / 1000 } (fun c => decide (0 < c)) 1
      [⟨0, .gt, .var 2⟩, ⟨1, .ne, .num 5⟩]
      [emit (⟨0, .gt, .var 2⟩ : Rel Nat) [] 11, emit ⟨1, .ne, .num 5⟩ [] 11] [0, 0, 0] where
  hrec := List.Forall₂.cons (by decide) (List.Forall₂.cons (by decide) List.Forall₂.nil)
  hnodup := by decide
  hfree := by decide
  hB := by decide
  hlen := by decide
  hne := fun _ _ _ => by decide +kernel
  hdef := by
    intro c hc z hz _
    simp only [List.mem_cons, List.mem_nil_iff, or_false] at hc
    rcases hc with rfl | rfl
    all_goals simp only [emit, emitG, Assign.defined, Expr.defined, hz]; rfl

end MysticVerif.C13
