/-
C02 - strict ranges: the objective is never evaluated outside the box.

`o.useRange = true` models "strict ranges are set" for the current decoration of the objective; a change of the
ranges re-decorates the objective at the next Step (control model, `Ctl.finalize` / `live`), after which these
theorems apply to the new box.
-/
import MysticVerif.Proofs.Solver
import MysticVerif.Proofs.NelderMead
import MysticVerif.Proofs.PowellS
import MysticVerif.Props.C02Init

namespace MysticVerif.C02
open MysticVerif.Solver

variable {X E R : Type}

/-- **every path to the user's cost goes through the box test**: a call is logged only for a point in the box -/
theorem evalB_in_box (o : Obj X E) (y : X) (log : List (X × E)) (hu : o.useRange = true) :
    ∀ p ∈ (o.evalB y log).2, p ∉ log → o.inBox p.1 = true := by
  intro p hp hnot
  rcases evalB_cases o y log with e | ⟨hb, e⟩ <;> rw [e] at hp
  · exact absurd hp hnot
  · rcases List.mem_append.mp hp with hp | hp
    · exact absurd hp hnot
    · rw [List.mem_singleton.mp hp]; exact hb hu

/-- **DE / DE2**: with strict ranges in force, every point at which the user's cost was called, over any number
of iterations and any trial vectors, lies inside the box. -/
theorem de_evaluations_in_box [LinearOrder E] (o : Obj X E) (h : Hyp o) (pop : List X) (x0 : X)
    (trialss : List (List X)) (hu : o.useRange = true) :
    ∀ p ∈ (DE.run1 o trialss (DE.init o pop x0)).log, o.inBox p.1 = true := by
  intro p hp
  exact ((DE.run1_inv h trialss _ (DE.init_inv pop x0)).logOK p hp).2.2 hu

/-- **DE / DE2**: a finite reported best energy comes with a best solution inside the box. -/
theorem de_best_in_box [LinearOrder E] (o : Obj X E) (h : Hyp o) (pop : List X) (x0 : X)
    (trialss : List (List X)) (hu : o.useRange = true)
    (hfin : (DE.run1 o trialss (DE.init o pop x0)).bestE ≠ o.top) :
    o.inBox (DE.run1 o trialss (DE.init o pop x0)).best = true :=
  ((DE.run1_inv h trialss _ (DE.init_inv pop x0)).best hfin).2.2.2 hu

/-- **Nelder-Mead**: every evaluation of an update step lies inside the box -/
theorem nm_evaluations_in_box [Add R] [Sub R] [Mul R] [Div R] [LinearOrder E] (o : Obj (Pt R) E) (h : Hyp o)
    (c : Coef R) (st : Pt R → Pt R) (hst : ∀ x, o.K (st x) = o.K x) (s : NM R E) (hs : NMInv o s)
    (hu : o.useRange = true) : ∀ p ∈ (NM.update o c st s).1.log, o.inBox p.1 = true := by
  intro p hp
  exact ((NM.update_inv h c st hst s hs).logOK p hp).2.2 hu

/-- **Nelder-Mead, reported best inside the box when the constraints do not move it** (the stored vertex is
the evaluated point then).  With constraints that move the vertex the clause fails on the code: known finding F3
(`C01.nm_best_not_evaluated_witness`). -/
theorem nm_best_in_box_of_fixed [LinearOrder E] (o : Obj (Pt R) E) (s : NM R E) (hs : NMInv o s)
    (x : Pt R) (e : E) (tl : List (Pt R × E)) (hsx : s.simplex = (x, e) :: tl) (hfix : o.K x = x)
    (hne : e ≠ o.top) (hu : o.useRange = true) : o.inBox x = true := by
  have hg := hs.good (x, e) (by rw [hsx]; simp) hne
  simp only [hfix] at hg
  exact hg.2.2 hu

/-- **initial clipping** (`_clipGuessWithinRangeBoundary(x0, at=True)`, numpy `clip`): coordinate-wise result in
`[lo, hi]`, and the identity on points already inside -/
def clip1 [LT E] [DecidableLT E] (lo hi x : E) : E := let y := if x < lo then lo else x; if hi < y then hi else y

theorem clip1_in_box [LinearOrder E] (lo hi x : E) (hle : lo ≤ hi) : lo ≤ clip1 lo hi x ∧ clip1 lo hi x ≤ hi := by
  unfold clip1
  simp only
  by_cases h1 : x < lo
  · rw [if_pos h1]
    by_cases h2 : hi < lo
    · rw [if_pos h2]; exact ⟨hle, le_refl _⟩
    · rw [if_neg h2]; exact ⟨le_refl _, hle⟩
  · rw [if_neg h1]
    by_cases h2 : hi < x
    · rw [if_pos h2]; exact ⟨hle, le_refl _⟩
    · rw [if_neg h2]; exact ⟨not_lt.mp h1, not_lt.mp h2⟩

theorem clip1_id [LinearOrder E] (lo hi x : E) (h1 : lo ≤ x) (h2 : x ≤ hi) : clip1 lo hi x = x := by
  unfold clip1
  simp only
  rw [if_neg (not_lt.mpr h1), if_neg (not_lt.mpr h2)]

/-- non-vacuity: a box, a point outside it, the out-of-box evaluation is refused and not logged -/
def exObj : Obj Int Int :=
  { raw := fun x => x, pen := fun _ => 0, K := id, inBox := fun x => decide (0 ≤ x ∧ x ≤ 5), useRange := true,
    top := 100, add := (· + ·) }
example : exObj.evalB 7 [] = (100, []) ∧ exObj.evalB 3 [] = (3, [(3, 3)]) := by decide

open MysticVerif.PowellS

/-- **Powell: every evaluation the line searches, the extrapolation step and the initial evaluation make lies in the
box** - each goes through `Obj.objK`, hence through the box test -/
theorem pw_evaluations_in_box [Sub R] [Mul R] [LinearOrder E] (o : Obj (Pt R) E) (h : Hyp o) (c : PwCfg R E)
    (ls : Nat → Pt R → Pt R → LsRec R) (record : Bool) (x0 : Pt R) (direc : List (Pt R)) (hd : direc ≠ []) (n : Nat)
    (hu : o.useRange = true) : ∀ p ∈ (reach o c ls record x0 direc n).log, o.inBox p.1 = true := by
  intro p hp
  exact ((reach_inv h c ls record x0 direc hd n).logOK p hp).2.2 hu

/-- **Powell: a finite reported best lies in the box** -/
theorem pw_best_in_box [Sub R] [Mul R] [LinearOrder E] (o : Obj (Pt R) E) (h : Hyp o) (c : PwCfg R E)
    (ls : Nat → Pt R → Pt R → LsRec R) (record : Bool) (x0 : Pt R) (direc : List (Pt R)) (hd : direc ≠ []) (n : Nat)
    (hu : o.useRange = true) (hfin : (reach o c ls record x0 direc n).fval ≠ o.top) :
    o.inBox (reach o c ls record x0 direc n).x = true :=
  ((reach_inv h c ls record x0 direc hd n).best hfin).2.2.2 hu

end MysticVerif.C02
