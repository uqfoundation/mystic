/-
C16: `impose_as` with an offset (constraints.py l.1622-1681) - the rounds of the `while pairs:` loop, and the
masks in which several partners share ONE tracker (the docstring's `(0,1),(3,1)`).

The offset loop works in rounds.  In every round the tracking indices of the remaining pairs are first made a SET
(`trac = set(trac)`, l.1670), every entry of the set receives the offset (`x[i] += offset`, out-of-range indices
skipped), and only the pairs whose partner was itself a tracker of the round stay for the next round.
  * `offsetRound_tracker_once`, `offsetRound_frame` : a round adds the offset exactly ONCE to an entry that any number of
    pairs (shared tracker, the same pair listed again) name as their tracker, and leaves every other entry alone -
    for every list of pairs, every length, negative and out-of-range indices included;
  * `imposeAs_shared_tracker` and its corollaries: for the mask `[(p0,t),(p1,t),...]` every partner ends at the value
    of the first listed partner and the tracker at that value plus the offset; hence the pair clause `x[t] = x[p] + offset` for EVERY pair, the frame, conforming input
    returned as it is, idempotence;
  * closed-term checks: the docstring's examples, and the three places where the code as it is breaks a clause when the
    offset is not zero (recorded findings C16-K1..K3).
NOT proved in general: the tied relation for arbitrary forests / DAGs (the result depends on the listing order through
`tools.connected`, findings F26 / C16-K1..K3): covered by the bit-exact correspondence and the monitor.
-/
import MysticVerif.Props.C16.Core
import MysticVerif.Proofs.TransformsTrack

namespace MysticVerif.C16
open MysticVerif.Trans

variable {R : Type}

/-! ## one round of the offset loop -/

/-- **a shared tracker receives the offset once per round**: `trac = set(trac)` - an entry that ANY number of the
round's pairs name as their tracker (several partners of one tracker, the same pair listed again) holds its old value
plus ONE offset after the round.  `NoAlias`: two different index values do not address the same entry. -/
theorem offsetRound_tracker_once [Add R] (off : R) (pairs : List (Int × Int)) (x : List R)
    (hna : NoAlias x.length (pairs.map (·.2))) (k : Nat) (a : R)
    (hk : ∃ p ∈ pairs, wrapIdx x.length p.2 = some k) (ha : x[k]? = some a) :
    (offsetRound off (dedupInt (pairs.map (·.2))) x)[k]? = some (a + off) := by
  have hnd := filterMap_wrap_nodup x.length _ (dedupInt_nodup (pairs.map (·.2))) hna.dedup
  obtain ⟨p, hp, h⟩ := hk
  have hmem : k ∈ (dedupInt (pairs.map (·.2))).filterMap (wrapIdx x.length) :=
    (mem_filterMap_dedup _ _ k).mpr ⟨p.2, List.mem_map_of_mem hp, h⟩
  rw [offsetRound_getElem?_count, ha, hnd.count, if_pos hmem]
  rfl

/-- **frame of a round**: an entry that no pair of the round names as its tracker keeps its value (out-of-range
trackers are skipped) -/
theorem offsetRound_frame [Add R] (off : R) (pairs : List (Int × Int)) (x : List R)
    (hna : NoAlias x.length (pairs.map (·.2))) (k : Nat)
    (hk : ∀ p ∈ pairs, wrapIdx x.length p.2 ≠ some k) :
    (offsetRound off (dedupInt (pairs.map (·.2))) x)[k]? = x[k]? := by
  have hmem : k ∉ (dedupInt (pairs.map (·.2))).filterMap (wrapIdx x.length) := by
    rw [mem_filterMap_dedup]
    rintro ⟨b, hb, h⟩
    obtain ⟨p, hp, rfl⟩ := List.mem_map.mp hb
    exact hk p hp h
  rw [offsetRound_getElem?_count, List.count_eq_zero_of_not_mem hmem, Function.iterate_zero, Option.map_id]
  rfl

theorem offsetRound_keeps_length [Add R] (off : R) (trac : List Int) (x : List R) :
    (offsetRound off trac x).length = x.length := by
  induction trac generalizing x with
  | nil => rfl
  | cons i rest ih => rw [offsetRound_cons, ih, (offsetStep_spec off x i).1]

/-- when no tracker of the mask is the partner of a pair, the `while pairs:` loop is exactly ONE round -/
theorem offsetLoop_flat_one_round [Add R] (off : R) (fuel : Nat) (pairs : List (Int × Int)) (x : List R)
    (hflat : ∀ p ∈ pairs, ∀ q ∈ pairs, q.2 ≠ p.1) :
    offsetLoop off (fuel + 1) pairs x = .ok (offsetRound off (dedupInt (pairs.map (·.2))) x) := by
  cases pairs with
  | nil => rfl
  | cons p rest =>
    -- no tracker of the round is a partner, so no pair is left for a second round
    have hindx : (dedupInt ((p :: rest).map (·.2))).filter (fun t => ((p :: rest).map (·.1)).contains t) = [] := by
      rw [List.filter_eq_nil_iff]
      intro t ht hc
      obtain ⟨q, hq, rfl⟩ := List.mem_map.mp ((mem_dedupInt _ t).mp ht)
      obtain ⟨r, hr, hrq⟩ := List.mem_map.mp (List.contains_iff_mem.mp hc)
      exact hflat r hr q hq hrq.symm
    rw [offsetLoop, List.isEmpty_cons, if_neg Bool.false_ne_true]
    simp only [hindx, List.contains_nil, List.filter_false]
    exact offsetLoop_nil off fuel _

/-! ## several partners of one tracker -/

/-- the mask `[(p0,t), (p1,t), ...]` -/
def sharedMask (p0 t : Nat) (ps : List Nat) : List (Int × Int) := (p0 :: ps).map (fun (p : Nat) => ((p : Int), (t : Int)))

/-- `impose_as([(p0,t),(p1,t),...], offset)(x)` for in-range indices, `t` not a partner; partners may repeat (then the
same pair is listed again): the call returns, the length is kept, every partner holds the ORIGINAL value of the first
listed partner, the tracker holds that value plus ONE offset, every other entry is untouched. -/
theorem imposeAs_shared_tracker [Add R] (off : R) (p0 t : Nat) (ps : List Nat) (x : List R)
    (ht : t ∉ p0 :: ps) (hr : ∀ a ∈ t :: p0 :: ps, a < x.length) :
    ∃ y, imposeAs (sharedMask p0 t ps) off x = .ok y ∧ y.length = x.length ∧
      (∀ p ∈ p0 :: ps, y[p]? = x[p0]?) ∧ y[t]? = (x[p0]?).map (· + off) ∧
      (∀ k, k ∉ t :: p0 :: ps → y[k]? = x[k]?) := by
  have hp0 : p0 < x.length := hr p0 (List.mem_cons_of_mem _ List.mem_cons_self)
  have htl : t < x.length := hr t List.mem_cons_self
  have htp0 : t ≠ p0 := fun h => ht (h ▸ List.mem_cons_self)
  have hmask : sharedMask p0 t ps =
      ((p0 : Int) :: ps.map (fun (p : Nat) => (p : Int))).map (fun p => (p, (t : Int))) := by
    rw [sharedMask, List.map_cons, List.map_cons, List.map_map]
    rfl
  -- `connected`: ONE group keyed `p0`, its members are `t` and the partners other than `p0`
  obtain ⟨v, hv, htv, hmem⟩ := connected_star (p0 : Int) (t : Int) (ps.map (fun (p : Nat) => (p : Int)))
  have hkv : ∀ k : Nat, (k : Int) ∈ v ↔ k = t ∨ (k ∈ ps ∧ k ≠ p0) := fun k => by
    rw [hmem, List.mem_map_of_injective (f := fun (p : Nat) => (p : Int)) (fun _ _ h => Int.natCast_inj.mp h), Ne,
      Int.natCast_inj, Int.natCast_inj]
  have hp0v : (p0 : Int) ∉ v := fun h => by
    rcases (hkv p0).mp h with h1 | ⟨_, h1⟩
    · exact htp0 h1.symm
    · exact h1 rfl
  have hvin : ∀ a ∈ v, 0 ≤ a ∧ a < x.length := fun a ha => by
    rcases (hmem _).mp ha with rfl | ⟨h1, _⟩
    · exact ⟨Int.natCast_nonneg _, Int.ofNat_lt.mpr htl⟩
    · obtain ⟨p, hp, rfl⟩ := List.mem_map.mp h1
      exact ⟨Int.natCast_nonneg _, Int.ofNat_lt.mpr (hr p (List.mem_cons_of_mem _ (List.mem_cons_of_mem _ hp)))⟩
  -- the tie phase
  let x1 := tieAll (connected (sharedMask p0 t ps)) x
  have hx1 : x1 = tieKey (p0 : Int) v x := by
    show tieAll (connected (sharedMask p0 t ps)) x = _
    rw [hmask, hv, tieAll_single]
  have hx1len : x1.length = x.length := by rw [hx1]; exact tieKey_length _ v x
  have hx1k : ∀ k : Nat, x1[k]? = if k = t ∨ (k ∈ ps ∧ k ≠ p0) then x[p0]? else x[k]? := fun k => by
    rw [hx1, tieKey_getElem? p0 v x hp0 hp0v hvin k]
    exact if_congr (hkv k) rfl rfl
  -- the offset loop: one round
  have hsnd : ∀ q ∈ sharedMask p0 t ps, q.2 = (t : Int) := fun q hq => by
    obtain ⟨b, _, rfl⟩ := List.mem_map.mp hq
    rfl
  have hflat : ∀ p ∈ sharedMask p0 t ps, ∀ q ∈ sharedMask p0 t ps, q.2 ≠ p.1 := fun p hp q hq h => by
    obtain ⟨a, ha, rfl⟩ := List.mem_map.mp hp
    exact ht (Int.natCast_inj.mp ((hsnd q hq).symm.trans h) ▸ ha)
  have hna : NoAlias x1.length ((sharedMask p0 t ps).map (·.2)) := fun a ha b hb _ _ _ => by
    obtain ⟨q, hq, rfl⟩ := List.mem_map.mp ha
    obtain ⟨r, hr', rfl⟩ := List.mem_map.mp hb
    rw [hsnd q hq, hsnd r hr']
  have hwt : wrapIdx x1.length (t : Int) = some t := wrapIdx_nat _ _ (by rw [hx1len]; exact htl)
  have hother : ∀ k, k ≠ t → (offsetRound off (dedupInt ((sharedMask p0 t ps).map (·.2))) x1)[k]? = x1[k]? :=
    fun k hk => offsetRound_frame off _ x1 hna k fun q hq h => by
      rw [hsnd q hq, hwt] at h
      exact hk (Option.some.inj h).symm
  refine ⟨offsetRound off (dedupInt ((sharedMask p0 t ps).map (·.2))) x1, ?_, ?_, ?_, ?_, ?_⟩
  · show offsetLoop off ((sharedMask p0 t ps).length + 1) (sharedMask p0 t ps) x1 = _
    exact offsetLoop_flat_one_round off _ _ x1 hflat
  · rw [offsetRound_keeps_length, hx1len]
  · intro p hp
    rw [hother p (fun h => ht (h ▸ hp)), hx1k p]
    rcases List.mem_cons.mp hp with rfl | h
    · exact ite_self _
    · by_cases hne : p = p0
      · rw [hne]; exact ite_self _
      · exact if_pos (Or.inr ⟨h, hne⟩)
  · have hx1t : x1[t]? = some x[p0] := by rw [hx1k t, if_pos (Or.inl rfl), List.getElem?_eq_getElem hp0]
    rw [offsetRound_tracker_once off _ x1 hna t x[p0] ⟨((p0 : Int), (t : Int)), List.mem_map_of_mem List.mem_cons_self, hwt⟩ hx1t,
      List.getElem?_eq_getElem hp0]
    rfl
  · intro k hk
    rw [List.mem_cons, List.mem_cons, not_or, not_or] at hk
    rw [hother k hk.1, hx1k k, if_neg]
    rintro (h | ⟨h, _⟩)
    · exact hk.1 h
    · exact hk.2.2 h

/-- **the tracked partner (+offset)**: after `impose_as([(p0,t),(p1,t),...], offset)` the tracker sits at its partner
plus the offset for EVERY listed pair - one offset, however many partners share the tracker -/
theorem imposeAs_shared_tracker_pair_clause [Add R] (off : R) (p0 t : Nat) (ps : List Nat) (x y : List R)
    (ht : t ∉ p0 :: ps) (hr : ∀ a ∈ t :: p0 :: ps, a < x.length)
    (hy : imposeAs (sharedMask p0 t ps) off x = .ok y) :
    ∀ p ∈ p0 :: ps, y[t]? = (y[p]?).map (· + off) := by
  obtain ⟨y', hy', _, hp, htv, _⟩ := imposeAs_shared_tracker off p0 t ps x ht hr
  rw [hy] at hy'
  cases hy'
  intro p hpm
  rw [htv, hp p hpm]

/-- **frame**: entries that no pair mentions are untouched, and the length is kept -/
theorem imposeAs_shared_tracker_frame [Add R] (off : R) (p0 t : Nat) (ps : List Nat) (x y : List R)
    (ht : t ∉ p0 :: ps) (hr : ∀ a ∈ t :: p0 :: ps, a < x.length)
    (hy : imposeAs (sharedMask p0 t ps) off x = .ok y) :
    y.length = x.length ∧ ∀ k, k ∉ t :: p0 :: ps → y[k]? = x[k]? := by
  obtain ⟨y', hy', hl, _, _, hf⟩ := imposeAs_shared_tracker off p0 t ps x ht hr
  rw [hy] at hy'
  cases hy'
  exact ⟨hl, hf⟩

/-- **conforming input is left alone**: if every partner already equals the first one and the tracker already sits one
offset above it, the input is returned as it is -/
theorem imposeAs_shared_tracker_fix_conform [Add R] (off : R) (p0 t : Nat) (ps : List Nat) (x : List R)
    (ht : t ∉ p0 :: ps) (hr : ∀ a ∈ t :: p0 :: ps, a < x.length)
    (hps : ∀ p ∈ ps, x[p]? = x[p0]?) (htr : x[t]? = (x[p0]?).map (· + off)) :
    imposeAs (sharedMask p0 t ps) off x = .ok x := by
  obtain ⟨y, hy, hl, hp, htv, hf⟩ := imposeAs_shared_tracker off p0 t ps x ht hr
  rw [hy]
  congr 1
  apply List.ext_getElem?
  intro k
  by_cases hkt : k = t
  · subst hkt; rw [htv, htr]
  · by_cases hkp : k ∈ p0 :: ps
    · rw [hp k hkp]
      rcases List.mem_cons.mp hkp with h | h
      · rw [h]
      · exact (hps k h).symm
    · exact hf k (fun h => (List.mem_cons.mp h).elim hkt hkp)

/-- **applying it twice equals applying it once** -/
theorem imposeAs_shared_tracker_idem [Add R] (off : R) (p0 t : Nat) (ps : List Nat) (x y : List R)
    (ht : t ∉ p0 :: ps) (hr : ∀ a ∈ t :: p0 :: ps, a < x.length)
    (hy : imposeAs (sharedMask p0 t ps) off x = .ok y) :
    imposeAs (sharedMask p0 t ps) off y = .ok y := by
  obtain ⟨y', hy', hl, hp, htv, _⟩ := imposeAs_shared_tracker off p0 t ps x ht hr
  rw [hy] at hy'
  cases hy'
  have hr' : ∀ a ∈ t :: p0 :: ps, a < y.length := by intro a ha; rw [hl]; exact hr a ha
  apply imposeAs_shared_tracker_fix_conform off p0 t ps y ht hr'
  · intro p hpm
    rw [hp p (List.mem_cons_of_mem _ hpm), hp p0 List.mem_cons_self]
  · rw [htv, hp p0 List.mem_cons_self]

/-- the hypotheses are satisfiable by a non-trivial instance: three partners (one listed twice) of the tracker `1` -/
example : imposeAs (sharedMask 0 1 [3, 4, 3]) (10 : Int) [9, 8, 7, 6, 5] = .ok [9, 19, 7, 9, 9] := by decide +kernel

/-! ## closed terms: the docstring's examples and the recorded defects -/

/-- the four `doit(...)` examples and the three `same(...)` examples of the docstring (l.1632-1654) -/
theorem imposeAs_docstring_examples :
    imposeAs [(0, 1), (3, 1), (4, 5), (5, 6), (5, 7)] (10 : Int) [9, 8, 7, 6, 5, 4, 3, 2, 1] = .ok [9, 19, 7, 9, 5, 15, 25, 25, 1]
    ∧ imposeAs [(0, 1), (3, 1), (4, 5), (5, 6), (5, 7)] (10 : Int) [0, 1, 0, 1] = .ok [0, 10, 0, 0]
    ∧ imposeAs [(0, 1), (3, 1), (4, 5), (5, 6), (5, 7)] (10 : Int) [-1, -2, -3, -4, -5, -6] = .ok [-1, 9, -3, -1, -5, 5]
    ∧ imposeAs [(0, 1), (3, 1), (4, 5), (5, 6), (5, 7)] (10 : Int) [-1, -2, -3, -4, -5, -6, -7] = .ok [-1, 9, -3, -1, -5, 5, 15]
    ∧ imposeAs [(0, 1), (3, 1), (4, 5), (5, 6), (5, 7)] (0 : Int) [9, 8, 7, 6, 5, 4, 3, 2, 1] = .ok [9, 9, 7, 9, 5, 5, 5, 5, 1]
    ∧ imposeAs [(0, 1), (3, 1), (4, 5), (5, 6), (5, 7)] (0 : Int) [0, 1, 0, 1] = .ok [0, 0, 0, 0]
    ∧ imposeAs [(0, 1), (3, 1), (4, 5), (5, 6), (5, 7)] (0 : Int) [-1, -2, -3, -4, -5, -6, -7] = .ok [-1, -1, -3, -1, -5, -5, -5] := by
  decide +kernel

/-- a pair listed twice changes nothing: `impose_as([(0,1),(0,1),(1,2)], 10)` is `impose_as([(0,1),(1,2)], 10)` here -/
theorem imposeAs_repeated_pair_example :
    imposeAs [(0, 1), (0, 1), (1, 2)] (10 : Int) [5, 6, 7] = .ok [5, 15, 25]
    ∧ imposeAs [(0, 1), (1, 2)] (10 : Int) [5, 6, 7] = .ok [5, 15, 25] := by
  decide +kernel

/-- C16-K1: the chain `0 -> 1 -> 2` listed tracker-first.  `connected` keys the group by `1`, itself a tracker: the
conforming input `[0,10,20]` is moved to `[10,20,30]`, its image to `[20,30,40]` (not idempotent); the same pairs
listed partner-first return the input. -/
theorem imposeAs_offset_key_is_tracker_witness :
    imposeAs [(1, 2), (0, 1)] (10 : Int) [0, 10, 20] = .ok [10, 20, 30]
    ∧ imposeAs [(1, 2), (0, 1)] (10 : Int) [10, 20, 30] = .ok [20, 30, 40]
    ∧ connected [(1, 2), (0, 1)] = [(1, [2, 0])]
    ∧ imposeAs [(0, 1), (1, 2)] (10 : Int) [0, 10, 20] = .ok [0, 10, 20] := by
  decide +kernel

/-- C16-K2: tracker `2` shared by partner `1` (itself a tracker) and partner `3` (tracks nothing): the pair `(3,2)` ends
two offsets apart although `[1,11,21,11]` satisfies every pair; the conforming input `[0,10,20,10]` is changed. -/
theorem imposeAs_unequal_depth_witness :
    imposeAs [(0, 1), (1, 2), (3, 2)] (10 : Int) [1, 2, 3, 4] = .ok [1, 11, 21, 1]
    ∧ imposeAs [(0, 1), (1, 2), (3, 2)] (10 : Int) [0, 10, 20, 10] = .ok [0, 10, 20, 0] := by
  decide +kernel

/-- C16-K3: the partner `5` of the only pair does not exist; the tie is skipped, the offset is still added to the
tracker - on every application -/
theorem imposeAs_offset_out_of_range_key_witness :
    imposeAs [(5, 1)] (10 : Int) [1, 2, 3] = .ok [1, 12, 3]
    ∧ imposeAs [(5, 1)] (10 : Int) [1, 12, 3] = .ok [1, 22, 3] := by
  decide +kernel

end MysticVerif.C16
