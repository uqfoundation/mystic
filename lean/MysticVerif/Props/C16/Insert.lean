/-
C16: the decorators that WRITE addressed entries -
`impose_at` with a LIST target, `tools.masked` / `insert_missing`, `tools.synchronized` for arbitrary masks.
-/
import MysticVerif.Props.C16.Core
import MysticVerif.Proofs.TransformsExt

namespace MysticVerif.C16
open MysticVerif.Trans

variable {R : Type}

/-! ## `impose_at(index, [t0, t1, ...])` (constraints.py l.1684-1724)
`x[[i for i in index if i < len(x)]] = target` : numpy fancy assignment, the r-th kept index receives the r-th
value, a repeated slot keeps the LAST value, the value list must have exactly as many entries as indices were kept
(or one entry, which is broadcast). -/

/-- with as many values as kept indices the decorator is the sequential assignment `x[k_r] = t_r` -/
theorem imposeAt_list_eq (index : List Int) (ts : List R) (x : List R) (ks : List Nat)
    (hks : wrapAll x.length (index.filter (fun i => i < Int.ofNat x.length)) = some ks)
    (hlen : ts.length = ks.length) : imposeAt index (.inr ts) x = .ok (scatter ks ts x) := by
  have hl : (index.filter (fun i => i < Int.ofNat x.length)).length = ks.length := wrapAll_length _ _ _ hks
  simp only [imposeAt, hks, hl, hlen, if_true]

/-- **pinned**: with distinct addressed slots, the `r`-th kept slot holds the `r`-th target -/
theorem imposeAt_list_pinned (index : List Int) (ts : List R) (x y : List R) (ks : List Nat)
    (hks : wrapAll x.length (index.filter (fun i => i < Int.ofNat x.length)) = some ks)
    (hlen : ts.length = ks.length) (hnd : ks.Nodup) (hy : imposeAt index (.inr ts) x = .ok y)
    (r k : Nat) (v : R) (hk : ks[r]? = some k) (hv : ts[r]? = some v) : y[k]? = some v := by
  obtain rfl := Except.ok.inj ((imposeAt_list_eq index ts x ks hks hlen).symm.trans hy)
  have hlt : k < x.length := wrapAll_lt _ _ _ hks k (List.mem_of_getElem? hk)
  rw [scatter_getElem?, List.getElem?_eq_getElem hlt, lastScatter_nodup ks ts hnd r k v hk hv]
  rfl

/-- ... and in general (repeated slots allowed) every addressed slot holds the LAST value listed for it -/
theorem imposeAt_list_last_wins (index : List Int) (ts : List R) (x y : List R) (ks : List Nat)
    (hks : wrapAll x.length (index.filter (fun i => i < Int.ofNat x.length)) = some ks)
    (hlen : ts.length = ks.length) (hy : imposeAt index (.inr ts) x = .ok y) (k : Nat) :
    y[k]? = (x[k]?).map (fun a => (lastScatter ks ts k).getD a) := by
  obtain rfl := Except.ok.inj ((imposeAt_list_eq index ts x ks hks hlen).symm.trans hy)
  exact scatter_getElem? ks ts x k

/-- **frame**: an entry no kept index addresses is untouched -/
theorem imposeAt_list_frame (index : List Int) (ts : List R) (x y : List R) (ks : List Nat)
    (hks : wrapAll x.length (index.filter (fun i => i < Int.ofNat x.length)) = some ks)
    (hlen : ts.length = ks.length) (hy : imposeAt index (.inr ts) x = .ok y) (k : Nat) (hk : k ∉ ks) :
    y[k]? = x[k]? := by
  obtain rfl := Except.ok.inj ((imposeAt_list_eq index ts x ks hks hlen).symm.trans hy)
  exact scatter_not_mem ks ts x k hk

/-- **idempotent** (also with repeated slots) -/
theorem imposeAt_list_idem (index : List Int) (ts : List R) (x y : List R) (ks : List Nat)
    (hks : wrapAll x.length (index.filter (fun i => i < Int.ofNat x.length)) = some ks)
    (hlen : ts.length = ks.length) (hy : imposeAt index (.inr ts) x = .ok y) :
    imposeAt index (.inr ts) y = .ok y := by
  obtain rfl := Except.ok.inj ((imposeAt_list_eq index ts x ks hks hlen).symm.trans hy)
  have hl := scatter_length ks ts x
  rw [imposeAt_list_eq index ts _ ks (by rw [hl]; exact hks) hlen, scatter_scatter]

/-- a one-entry list is broadcast: it is the scalar target -/
theorem imposeAt_list_singleton (index : List Int) (t : R) (x : List R) :
    imposeAt index (.inr [t]) x = imposeAt index (.inl t) x := by
  unfold imposeAt
  simp only
  generalize index.filter (fun i => i < Int.ofNat x.length) = kept
  by_cases h : 1 = kept.length
  · rw [if_pos (show [t].length = kept.length from h), ← h]; rfl
  · rw [if_neg (show ¬ [t].length = kept.length from h)]

/-- the clause the code as it is does NOT satisfy (docstring: `doit([1,1,1,1]) -> [1,0,1,2]`, indices beyond the
length are skipped together with their targets): whenever the value list is neither as long as the KEPT indices nor
of length one, the decorator raises.  `imposeAt_list_target_raises_witness` (Core) is the docstring's own example. -/
theorem imposeAt_list_shape_raises (index : List Int) (ts : List R) (x : List R)
    (h1 : ts.length ≠ (index.filter (fun i => i < Int.ofNat x.length)).length) (h2 : ts.length ≠ 1) :
    imposeAt index (.inr ts) x = .error .value := by
  unfold imposeAt
  simp only [if_neg h1]
  match ts, h2 with
  | [], _ => rfl
  | [_], h2 => simp at h2
  | _ :: _ :: _, _ => rfl

/-! ## `tools.masked(mask)` / `insert_missing(x, mask)` (tools.py l.505-541) -/

/-- the `KeyError` guard, exactly: the call returns iff every key is in `[0, len(x) + len(mask) - 1]` -/
theorem masked_ok_iff (mask : List (Int × R)) (x : List R) :
    (∃ y, masked mask x = .ok y) ↔ ∀ e ∈ mask, 0 ≤ e.1 ∧ e.1 ≤ ((x.length + mask.length : Nat) : Int) - 1 := by
  unfold masked
  simp only [Int.ofNat_eq_natCast]
  constructor
  · rintro ⟨y, hy⟩
    split at hy
    · cases hy
    · rename_i hf
      split at hy
      · cases hy
      · rename_i hl
        intro e he
        have hm : e.1 ∈ mask.map (·.1) := List.mem_map_of_mem (f := (·.1)) he
        exact ⟨((le_foldl_min_iff _ 0 0).mp (not_lt.mp hf)).2 _ hm, ((foldl_max_le_iff _ (-1) _).mp (not_lt.mp hl)).2 _ hm⟩
  · intro h
    have b1 : (0 : Int) ≤ (mask.map (·.1)).foldl min 0 :=
      (le_foldl_min_iff _ 0 0).mpr ⟨le_refl _, List.forall_mem_map.mpr fun e he => (h e he).1⟩
    have b2 : (mask.map (·.1)).foldl max (-1) ≤ ((x.length + mask.length : Nat) : Int) - 1 :=
      (foldl_max_le_iff _ (-1) _).mpr ⟨by omega, List.forall_mem_map.mpr fun e he => (h e he).2⟩
    rw [if_neg (not_lt.mpr b1), if_neg (not_lt.mpr b2)]
    exact ⟨_, rfl⟩

/-- **inserted / frame / length** for every mask with distinct keys (a dict), in ANY listing order: the result has
`len(x) + len(mask)` entries, the value for key `k` sits at position `k`, and the remaining positions are the input
entries in their original order -/
theorem masked_spec (mask : List (Int × R)) (hnd : (mask.map (·.1)).Nodup) (x y : List R)
    (hy : masked mask x = .ok y) :
    y.length = x.length + mask.length ∧ (∀ e ∈ mask, y[e.1.toNat]? = some e.2)
      ∧ dropPos (mask.map (fun e => e.1.toNat)) y 0 = x := by
  have hok := (masked_ok_iff mask x).mp ⟨y, hy⟩
  unfold masked at hy
  simp only at hy
  split at hy
  · cases hy
  · split at hy
    · cases hy
    · injection hy with hy
      set keys := mask.map (·.1) with hkeys
      have hperm : (sortBy true keys).Perm keys := sortBy_perm true keys
      have hpw : (sortBy true keys).Pairwise (· < ·) :=
        ((sortBy_ordered true keys).and (hperm.nodup_iff.mpr hnd)).imp
          (fun h => lt_of_le_of_ne h.1 h.2)
      have hlen : (sortBy true keys).length = mask.length := by rw [hperm.length_eq, hkeys, List.length_map]
      have hentry : ∀ k ∈ sortBy true keys, ∃ e ∈ mask, e.1 = k := fun k hk =>
        List.mem_map.mp (hperm.mem_iff.mp hk)
      obtain ⟨hl, hv, hd⟩ := maskedFold_spec mask (sortBy true keys) x hpw
        (fun k hk => by obtain ⟨e, he, rfl⟩ := hentry k hk; exact (hok e he).1)
        (fun k hk => by obtain ⟨e, he, rfl⟩ := hentry k hk; exact ⟨e, find?_key_of_nodup mask hnd e he⟩)
        (fun k hk => by obtain ⟨e, he, rfl⟩ := hentry k hk; rw [hlen]; exact (hok e he).2)
      obtain rfl : maskedFold mask (sortBy true keys) x = y := hy
      refine ⟨by rw [hl, hlen], fun e he => ?_, hd _ fun j => ?_⟩
      · exact hv e.1 (hperm.mem_iff.mpr (List.mem_map_of_mem (f := (·.1)) he)) e (find?_key_of_nodup mask hnd e he)
      · have : mask.map (fun e => e.1.toNat) = keys.map Int.toNat := by rw [hkeys, List.map_map]; rfl
        rw [this, (hperm.map Int.toNat).mem_iff]

/-! ## `tools.synchronized(mask)` for ARBITRARY masks (tools.py l.613-672)
`for i,j in mask.items(): x[i] = x[j]` (or `c * x[j0]` for a `(j0, c)` value), `IndexError` skipped.
The docstring asks for keys and tracked indices to be different; `SrcNotKey` is that contract on SLOTS (negative
indices wrapped).  Without it the result depends on the dict's listing order (a later entry reads what an earlier one
wrote) - nothing is claimed then except the frame.  On an ndarray the `(j0, c)` form is skipped
(`synchronized_array_scaled_ignored_witness`, Core): `syncVal true` is `none` for it. -/

section sync
variable {R : Type} [Mul R]

theorem synchronized_length (isArray : Bool) (mask : List (Int × Track R)) (x : List R) :
    (synchronized isArray mask x).length = x.length := by
  rw [synchronized_eq_foldl]; exact foldl_syncStep_length isArray mask x

/-- **frame**, every mask: an entry whose slot no key addresses is untouched -/
theorem synchronized_frame (isArray : Bool) (mask : List (Int × Track R)) (x : List R) (k : Nat)
    (h : ∀ e ∈ mask, wrapIdx x.length e.1 ≠ some k) : (synchronized isArray mask x)[k]? = x[k]? := by
  rw [synchronized_eq_foldl]; exact foldl_syncStep_frame isArray mask x k h

/-- **tied**: when no tracked index addresses a slot that a key addresses, every addressed entry holds the value the
LAST mask entry for its slot reads from the ORIGINAL input (`x[j]`, or `c * x[j0]`; an entry whose tracked index is
out of range - or of the `(j0, c)` form on an ndarray - is skipped) -/
theorem synchronized_tied (isArray : Bool) (mask : List (Int × Track R)) (x : List R)
    (hdis : SrcNotKey x.length mask) (k : Nat) :
    (synchronized isArray mask x)[k]? = (x[k]?).map (fun a => (lastSync isArray x mask k).getD a) := by
  rw [synchronized_eq_foldl]
  exact foldl_syncStep_spec isArray x mask x rfl (fun _ _ => rfl) hdis k

/-- list input: an in-range entry that some mask entry assigns holds exactly `lastSync`'s value -/
theorem synchronized_tied_single (mask : List (Int × Track R)) (x : List R) (hdis : SrcNotKey x.length mask)
    (k : Nat) (v : R) (hv : lastSync false x mask k = some v) (hk : k < x.length) :
    (synchronized false mask x)[k]? = some v := by
  rw [synchronized_tied false mask x hdis k, List.getElem?_eq_getElem hk, hv]; rfl

/-- **idempotent** under the same contract -/
theorem synchronized_idem (isArray : Bool) (mask : List (Int × Track R)) (x : List R)
    (hdis : SrcNotKey x.length mask) :
    synchronized isArray mask (synchronized isArray mask x) = synchronized isArray mask x := by
  have hl := synchronized_length isArray mask x
  -- the tracked entries are not written, so the second pass reads the same values
  have hsrc : ∀ e' ∈ mask, getPy (synchronized isArray mask x) e'.2.src = getPy x e'.2.src := by
    intro e' he'
    apply getPy_congr _ _ _ hl
    intro w hw
    apply synchronized_frame
    intro e he hkey
    exact hdis e he e' he' w hkey hw
  apply List.ext_getElem?
  intro k
  rw [synchronized_eq_foldl isArray mask (synchronized isArray mask x), foldl_syncStep_spec isArray x mask _ hl hsrc hdis k,
    synchronized_tied isArray mask x hdis k, Option.map_map]
  congr 1
  funext a
  cases lastSync isArray x mask k <;> rfl

end sync

example : synchronized false [(0, Track.idx 1), (3, Track.idx (-1))] [(0 : Int), 1, 2, 3, 4] = [1, 1, 2, 4, 4] := by decide
example : synchronized false [(0, Track.scaled 1 (2 : Int)), (3, Track.scaled 1 (-1))] [0, 9, 2, 3, 6] = [18, 9, 2, -9, 6] := by decide
/-- the contract matters: with `{0:1, 1:2}` entry 0 gets the OLD `x[1]`, with the listing order reversed the new one -/
example : synchronized false [(0, Track.idx 1), (1, Track.idx 2)] [(0 : Int), 1, 2] = [1, 2, 2]
    ∧ synchronized false [(1, Track.idx 2), (0, Track.idx 1)] [(0 : Int), 1, 2] = [2, 2, 2] := by decide

/-! non-vacuity -/

example : imposeAt [1, 3, 4, 5, 7] (.inr [(0 : Int), 2, 4, 6]) [1, 1, 1, 1, 1, 1, 1] = .ok [1, 0, 1, 2, 4, 6, 1] := by decide
example : imposeAt [1, -1, 1] (.inr [(5 : Int), 6, 7]) [0, 0, 0] = .ok [0, 7, 6] := by decide
/-- unsorted listing order, a key equal to the final length - 1 -/
example : masked [(3, (-1 : Int)), (0, 10)] [1, 2, 4] = .ok [10, 1, 2, -1, 4] := by decide
example : masked [(4, (7 : Int)), (0, 10)] [1, 2, 4] = .ok [10, 1, 2, 4, 7] ∧ masked [(5, (7 : Int))] [1, 2, 4] = .error .key
    ∧ masked [(-1, (7 : Int))] [1, 2, 4] = .error .key := by decide
example : dropPos [3, 0] [(10 : Int), 1, 2, -1, 4] 0 = [1, 2, 4] := by decide

end MysticVerif.C16
