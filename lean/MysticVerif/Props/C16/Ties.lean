/-
C16: the TIE rules -
`discrete` maps an entry to the NEAREST sample (the lowest one when two samples are equally near: the first minimum
of `|x - s|` over the sorted sample array), `integers` / `rounded` / `precision` round half to EVEN (`numpy.round`).
`floor` is a parameter with its defining law `IsFloor`.
-/
import MysticVerif.Props.C16.Core

namespace MysticVerif.C16
open MysticVerif.Trans

section nearest
variable {K : Type} [Field K] [LinearOrder K] [IsStrictOrderedRing K]

theorem ordered_get_le (s : List K) (hs : Ordered true s) (i j : Nat) (a b : K) (hij : i ≤ j)
    (ha : s[i]? = some a) (hb : s[j]? = some b) : a ≤ b :=
  hs.getElem?_beyond hij ha hb

/-- a point between `xi` and `v` is at least as near to `xi` as `v`, and exactly as near only if it is `v` -/
private theorem nearest_first_of_between {xi r v : K} (h : (xi ≤ r ∧ r ≤ v) ∨ (v ≤ r ∧ r ≤ xi)) :
    |r - xi| < |v - xi| ∨ (|r - xi| = |v - xi| ∧ r ≤ v) := by
  rcases h with ⟨h1, h2⟩ | ⟨h2, h1⟩
  · rw [abs_of_nonneg (sub_nonneg.mpr h1), abs_of_nonneg (sub_nonneg.mpr (h1.trans h2))]
    rcases h2.lt_or_eq with h | rfl
    · exact .inl (sub_lt_sub_right h xi)
    · exact .inr ⟨rfl, le_refl _⟩
  · rw [abs_of_nonpos (sub_nonpos.mpr h1), abs_of_nonpos (sub_nonpos.mpr (h2.trans h1))]
    rcases h2.lt_or_eq with h | rfl
    · exact .inl (neg_lt_neg (sub_lt_sub_right h xi))
    · exact .inr ⟨rfl, le_refl _⟩

private theorem near_nearest_first {xi lo hi v : K} (hlo : lo < xi) (hhi : xi ≤ hi) (hv : v ≤ lo ∨ hi ≤ v) :
    |near xi lo hi - xi| < |v - xi| ∨ (|near xi lo hi - xi| = |v - xi| ∧ near xi lo hi ≤ v) := by
  unfold near
  split
  · rename_i hn
    rcases hv with hv | hv
    · -- the far side: `hi - xi < xi - lo ≤ xi - v`
      rw [abs_of_nonneg (sub_nonneg.mpr hhi), abs_of_nonpos (sub_nonpos.mpr (hv.trans hlo.le)), neg_sub]
      exact .inl (hn.trans_le (sub_le_sub_left hv xi))
    · exact nearest_first_of_between (.inl ⟨hhi, hv⟩)
  · rename_i hn
    rcases hv with hv | hv
    · exact nearest_first_of_between (.inr ⟨hv, hlo.le⟩)
    · -- `xi - lo ≤ hi - xi ≤ v - xi`, and `lo < xi ≤ v`
      rw [abs_of_nonpos (sub_nonpos.mpr hlo.le), abs_of_nonneg (sub_nonneg.mpr (hhi.trans hv)), neg_sub]
      rcases ((not_lt.mp hn).trans (sub_le_sub_right hv xi)).lt_or_eq with h | h
      · exact .inl h
      · exact .inr ⟨h, hlo.le.trans (hhi.trans hv)⟩

/-- **nearest member, lowest on a tie**: in the sorted sample array `s`, `nearS s xi` is a sample such that every
other sample `v` is either strictly farther from `xi`, or equally far and not below it.  (So it is the first minimum
of `|xi - s[i]|` over the sorted array - `argmin` with the first-minimum rule.) -/
theorem nearS_nearest_first (s : List K) (hs : Ordered true s) (hne : s ≠ []) (xi v : K) (hv : v ∈ s) :
    |nearS s xi - xi| < |v - xi| ∨ (|nearS s xi - xi| = |v - xi| ∧ nearS s xi ≤ v) := by
  obtain ⟨h1, h2⟩ := countLt_prefix s hs xi
  have hc : countLt s xi ≤ s.length := List.length_filter_le _ _
  have hpos : 0 < s.length := List.length_pos_iff.mpr hne
  obtain ⟨i, hi, rfl⟩ := List.getElem_of_mem hv
  have get : ∀ j (hj : j < s.length), s[j]? = some s[j] := fun j hj => List.getElem?_eq_getElem hj
  have mono : ∀ j k (hj : j < s.length) (hk : k < s.length), j ≤ k → s[j] ≤ s[k] :=
    fun j k hj hk hjk => hs.getElem?_beyond hjk (get j hj) (get k hk)
  unfold nearS
  simp only
  rcases Nat.eq_zero_or_pos (countLt s xi) with hc0 | hcpos
  · -- every sample is ≥ xi : the first one is chosen
    simp only [hc0, Nat.zero_sub, hpos.ne, get 0 hpos, Option.getD_some, near, ite_self]
    exact nearest_first_of_between (.inl ⟨h2 0 _ hc0.le (get 0 hpos), mono 0 i hpos hi (Nat.zero_le _)⟩)
  · by_cases hcl : countLt s xi = s.length
    · -- every sample is < xi : the last one is chosen
      have hl : s.length - 1 < s.length := Nat.sub_lt hpos Nat.one_pos
      simp only [hcl, if_true, get _ hl, Option.getD_some, near, ite_self]
      exact nearest_first_of_between (.inr ⟨mono i _ hi hl (Nat.le_sub_one_of_lt hi), (h1 _ _ (hcl ▸ hl) (get _ hl)).le⟩)
    · -- `s[c-1] < xi ≤ s[c]`, and `v = s[i]` is on one side of the pair
      have hclt : countLt s xi < s.length := lt_of_le_of_ne hc hcl
      have hl : countLt s xi - 1 < s.length := (Nat.sub_le _ _).trans_lt hclt
      simp only [hcl, if_false, get _ hl, get _ hclt, Option.getD_some]
      refine near_nearest_first (h1 _ _ (Nat.sub_lt hcpos Nat.one_pos) (get _ hl)) (h2 _ _ (le_refl _) (get _ hclt)) ?_
      rcases Nat.lt_or_ge i (countLt s xi) with hic | hic
      · exact .inl (mono i _ hi hl (Nat.le_sub_one_of_lt hic))
      · exact .inr (mono _ i hclt hi hic)

private theorem discrete_selected {samples : List K} {idx : Option (List Int)} {x y : List K}
    (hy : discrete samples idx x = .ok y) {k : Nat} {a b v : K}
    (hk : selMask x.length idx k = true) (ha : x[k]? = some a) (hb : y[k]? = some b) (hv : v ∈ samples) :
    |b - a| < |v - a| ∨ (|b - a| = |v - a| ∧ b ≤ v) := by
  obtain ⟨-, -, rfl⟩ := (discrete_eq_ok_iff samples idx x y).mp hy
  rw [maskMap_getElem?, ha, Option.map_some, if_pos hk] at hb
  obtain rfl := Option.some.inj hb
  have hv' : v ∈ sortBy true samples := (sortBy_perm true samples).mem_iff.mpr hv
  exact nearS_nearest_first _ (sortBy_ordered true samples) (List.ne_nil_of_mem hv') a v hv'

/-- **nearest** for the decorator: no sample is nearer to the input entry than the one a selected entry receives -/
theorem discrete_nearest (samples : List K) (idx : Option (List Int)) (x y : List K)
    (hy : discrete samples idx x = .ok y) (k : Nat) (a b v : K)
    (hk : selMask x.length idx k = true) (ha : x[k]? = some a) (hb : y[k]? = some b) (hv : v ∈ samples) :
    |b - a| ≤ |v - a| := by
  rcases discrete_selected hy hk ha hb hv with h | h
  · exact h.le
  · exact h.1.le

/-- **tie rule** for the decorator: a sample exactly as near as the chosen one is not below it (the LOWER of two
equidistant samples is chosen) -/
theorem discrete_tie_lowest (samples : List K) (idx : Option (List Int)) (x y : List K)
    (hy : discrete samples idx x = .ok y) (k : Nat) (a b v : K)
    (hk : selMask x.length idx k = true) (ha : x[k]? = some a) (hb : y[k]? = some b) (hv : v ∈ samples)
    (htie : |v - a| = |b - a|) : b ≤ v := by
  rcases discrete_selected hy hk ha hb hv with h | h
  · exact absurd (htie ▸ h) (lt_irrefl _)
  · exact h.2

end nearest

/-! ## round half to EVEN -/

section halfeven
variable {K : Type} [Field K] [LinearOrder K] [IsStrictOrderedRing K]

private theorem int_eq_of_abs_sub_lt_one {n m : ℤ} (h : |(n : K) - (m : K)| < 1) : n = m := by
  rwa [← Int.cast_sub, ← Int.cast_abs, ← Int.cast_one, Int.cast_lt, Int.abs_lt_one_iff, sub_eq_zero] at h

private theorem floor_add_half {floor : K → K} (hf : IsFloor floor) (m : ℤ) : floor ((m : K) + 1 / 2) = (m : K) :=
  floor_eq_of_le_of_lt hf (le_add_of_nonneg_right one_half_pos.le) (add_lt_add_right one_half_lt_one _)

/-- an input strictly nearer to the integer `m` than `1/2` is rounded to `m` (no tie: the nearest integer is unique) -/
theorem rintHE_of_near (floor : K → K) (hf : IsFloor floor) (a : K) (m : ℤ) (h : |a - (m : K)| < 1 / 2) :
    rintHE floor a = (m : K) := by
  obtain ⟨n, hn, hd⟩ := rintHE_nearest_integer floor hf a
  rw [hn, int_eq_of_abs_sub_lt_one (K := K) ((abs_sub_le (n : K) a m).trans_lt ?_)]
  rw [abs_sub_comm, ← add_halves (1 : K)]
  exact add_lt_add_of_le_of_lt hd h

/-- **half to even**: an exact tie `a = n + 1/2` is rounded to the EVEN neighbour -/
theorem rintHE_half_even (floor : K → K) (hf : IsFloor floor) (n : ℤ) :
    ∃ m : ℤ, rintHE floor ((n : K) + 1 / 2) = ((2 * m : ℤ) : K) ∧ (2 * m = n ∨ 2 * m = n + 1) := by
  unfold rintHE
  simp only [floor_add_half hf n, add_sub_cancel_left, lt_irrefl, if_false]
  -- what is left is `if floor (n / 2) * 2 == n then n else n + 1`
  rcases Int.even_or_odd' n with ⟨q, rfl | rfl⟩
  · -- `n = 2q`: `floor (n/2) * 2 = n`, the tie stays at `n`
    refine ⟨q, ?_, .inl rfl⟩
    rw [Int.cast_mul, Int.cast_ofNat, mul_div_cancel_left₀ _ two_ne_zero, floor_eq_of_le_of_lt hf le_rfl (lt_add_one _),
      if_pos ((eqR_iff _ _).mpr (mul_comm _ _))]
  · -- `n = 2q+1`: `floor (n/2) * 2 = 2q ≠ n`, the tie goes to `n + 1 = 2(q+1)`
    refine ⟨q + 1, ?_, .inr (by ring)⟩
    rw [Int.cast_add, Int.cast_mul, Int.cast_ofNat, Int.cast_one, add_div, mul_div_cancel_left₀ _ two_ne_zero,
      floor_add_half hf q, if_neg fun h => (lt_add_one _).ne ((mul_comm _ _).trans ((eqR_iff _ _).mp h))]
    push_cast; ring

/-- **half to even** for `integers(ints=float, index)`: a selected entry that is exactly halfway between two
integers becomes the even one -/
theorem integers_half_even (floor : K → K) (hf : IsFloor floor) (idx : Option (List Int)) (x : List K)
    (k : Nat) (n : ℤ) (b : K) (hk : selMask x.length idx k = true) (ha : x[k]? = some ((n : K) + 1 / 2))
    (hb : (integers (rintHE floor) id idx x)[k]? = some b) :
    ∃ m : ℤ, b = ((2 * m : ℤ) : K) ∧ (2 * m = n ∨ 2 * m = n + 1) := by
  simp only [integers, List.map_id] at hb
  rw [maskMap_getElem?, ha] at hb
  rw [Option.map_some, if_pos hk, Option.some.injEq] at hb
  obtain ⟨m, hm, hor⟩ := rintHE_half_even floor hf n
  exact ⟨m, by rw [← hb, hm], hor⟩

/-- ... and a selected entry strictly nearer than `1/2` to an integer becomes that integer -/
theorem integers_of_near (floor : K → K) (hf : IsFloor floor) (idx : Option (List Int)) (x : List K)
    (k : Nat) (a b : K) (m : ℤ) (hk : selMask x.length idx k = true) (ha : x[k]? = some a)
    (hnear : |a - (m : K)| < 1 / 2) (hb : (integers (rintHE floor) id idx x)[k]? = some b) : b = (m : K) := by
  simp only [integers, List.map_id] at hb
  rw [maskMap_getElem?, ha] at hb
  rw [Option.map_some, if_pos hk, Option.some.injEq] at hb
  rw [← hb]; exact rintHE_of_near floor hf a m hnear

/-- **half to even** for `rounded(digits)` / `precision(digits)` with `digits > 0` (`p = 10^digits`): an entry whose
scaled value `a * p` is exactly halfway between two integers goes to the EVEN multiple of `1/p` -/
theorem roundDigits_half_even (floor : K → K) (hf : IsFloor floor) (digits : Int) (hd : 0 < digits) (p : K) (a : K)
    (n : ℤ) (ha : a * p = (n : K) + 1 / 2) :
    ∃ m : ℤ, roundDigits (rintHE floor) digits p a = ((2 * m : ℤ) : K) / p ∧ (2 * m = n ∨ 2 * m = n + 1) := by
  obtain ⟨m, hm, hor⟩ := rintHE_half_even floor hf n
  refine ⟨m, ?_, hor⟩
  unfold roundDigits
  rw [if_neg (by omega), if_pos hd, ha, hm]

/-- ... and `digits < 0` (`p = 10^-digits`): an entry with `a / p` exactly halfway goes to the EVEN multiple of `p` -/
theorem roundDigits_neg_half_even (floor : K → K) (hf : IsFloor floor) (digits : Int) (hd : digits < 0) (p : K) (a : K)
    (n : ℤ) (ha : a / p = (n : K) + 1 / 2) :
    ∃ m : ℤ, roundDigits (rintHE floor) digits p a = ((2 * m : ℤ) : K) * p ∧ (2 * m = n ∨ 2 * m = n + 1) := by
  obtain ⟨m, hm, hor⟩ := rintHE_half_even floor hf n
  refine ⟨m, ?_, hor⟩
  unfold roundDigits
  rw [if_neg (by omega), if_neg (by omega), ha, hm]

/-- same for `digits = 0` (`numpy.round(x)` is `rint`) -/
theorem roundDigits_zero_half_even (floor : K → K) (hf : IsFloor floor) (p : K) (n : ℤ) :
    ∃ m : ℤ, roundDigits (rintHE floor) 0 p ((n : K) + 1 / 2) = ((2 * m : ℤ) : K) ∧ (2 * m = n ∨ 2 * m = n + 1) := by
  obtain ⟨m, hm, hor⟩ := rintHE_half_even floor hf n
  exact ⟨m, by unfold roundDigits; rw [if_pos rfl, hm], hor⟩

end halfeven

/-! non-vacuity (over ℚ with the true floor): 0.5 -> 0, 1.5 -> 2, 2.5 -> 2, -0.5 -> 0, -1.5 -> -2; samples 1 and 3, input
2 (a tie) -> the lower sample 1 -/

example : [(1 : ℚ) / 2, 3 / 2, 5 / 2, -1 / 2, -3 / 2].map (rintHE (fun q : ℚ => ((Int.floor q : ℤ) : ℚ))) = [0, 2, 2, 0, -2] := by
  decide +kernel
example : discrete [(3 : ℚ), 1] none [2, 5 / 2, 0] = .ok [1, 3, 1] := by
  decide +kernel

end MysticVerif.C16
