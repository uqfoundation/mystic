/-
C16: index selections and re-draws -
* `sorting(index=...)` / `monotonic(index=...)`: the SELECTED subsequence of the result is the sort / the running
  extreme of the selected subsequence of the input (hence sorted / monotone, a rearrangement of the selected values);
* `bounded(clip=True, nearest=False)`: an out-of-bounds selected entry lands on an END of one of the intervals;
* `bounded(clip=False)` (both `nearest` settings): it lands INSIDE one of the intervals, for every stream of uniform
  draws in `[0, 1]` (the draws and interval picks are an oracle);
  in both cases conforming and unselected entries are never touched.
-/
import MysticVerif.Props.C16.Core
import MysticVerif.Proofs.TransformsExt

namespace MysticVerif.C16
open MysticVerif.Trans

section indexedsel
variable {K : Type} [LinearOrder K]

theorem accumGo_length (asc : Bool) (m : K) (l : List K) : (accumGo asc m l).length = l.length := by
  induction l generalizing m with
  | nil => rfl
  | cons b t ih => simp [accumGo, ih]

theorem accum_length (asc : Bool) (x : List K) : (accum asc x).length = x.length := by
  cases x with
  | nil => rfl
  | cons a t => simp [accum, accumGo_length]

/-- a single index, or a vector of length one: the decorator is a no-op (`_isort` / `_imono` return `x`) -/
theorem indexed_single_noop (f : List K → List K) (is : List Int) (x : List K)
    (h : is.length = 1 ∨ x.length = 1) : indexed f (some is) x = .ok x := by
  unfold indexed
  simp only
  rcases h with h | h
  · rw [if_pos h]
  · by_cases h' : is.length = 1
    · rw [if_pos h']
    · rw [if_neg h', if_pos h]

/-- **the selected subsequence**: with distinct in-range indices (at least two), reading the result at the selected
positions (in increasing position order) gives `f` of the input read at those positions; `f` = the sort / the running
extreme -/
theorem indexed_selected (f : List K → List K) (hf : ∀ l, (f l).length = l.length) (is : List Int) (x y : List K)
    (ks : List Nat) (hks : wrapAll x.length is = some ks) (hnd : ks.Nodup)
    (h1 : is.length ≠ 1) (h2 : x.length ≠ 1) (h3 : is ≠ []) (hy : indexed f (some is) x = .ok y) :
    gather (sortBy true ks) y = f (gather (sortBy true ks) x) := by
  unfold indexed at hy
  simp only [if_neg h1, if_neg h2, hks] at hy
  rw [if_neg (fun h => h3 (List.isEmpty_iff.mp h))] at hy
  injection hy with hy
  have hperm : (sortBy true ks).Perm ks := sortBy_perm true ks
  have hlt : ∀ k ∈ sortBy true ks, k < x.length := fun k hk => wrapAll_lt _ _ _ hks k (hperm.subset hk)
  rw [← hy]
  exact gather_scatter _ _ x (hperm.nodup_iff.mpr hnd) hlt (by rw [hf, gather_length _ _ hlt])

/-- `sorting(index=is)`: the selected entries of the result are IN ORDER and are a REARRANGEMENT of the selected
entries of the input (the multiset of selected values is preserved) -/
theorem sorting_selected (asc : Bool) (is : List Int) (x y : List K) (ks : List Nat)
    (hks : wrapAll x.length is = some ks) (hnd : ks.Nodup) (h1 : is.length ≠ 1) (h2 : x.length ≠ 1) (h3 : is ≠ [])
    (hy : sorting asc (some is) x = .ok y) :
    Ordered asc (gather (sortBy true ks) y) ∧ (gather (sortBy true ks) y).Perm (gather (sortBy true ks) x) := by
  have := indexed_selected (sortBy asc) (fun l => (sortBy_perm asc l).length_eq) is x y ks hks hnd h1 h2 h3 hy
  rw [this]
  exact ⟨sortBy_ordered asc _, sortBy_perm asc _⟩

/-- `monotonic(index=is)`: the selected entries of the result are the running maximum (minimum) of the selected
entries of the input - monotone, each entry moved only upwards (downwards) -/
theorem monotonic_selected (asc : Bool) (is : List Int) (x y : List K) (ks : List Nat)
    (hks : wrapAll x.length is = some ks) (hnd : ks.Nodup) (h1 : is.length ≠ 1) (h2 : x.length ≠ 1) (h3 : is ≠ [])
    (hy : monotonic asc (some is) x = .ok y) :
    gather (sortBy true ks) y = accum asc (gather (sortBy true ks) x) ∧ Ordered asc (gather (sortBy true ks) y) := by
  have := indexed_selected (accum asc) (accum_length asc) is x y ks hks hnd h1 h2 h3 hy
  rw [this]
  exact ⟨rfl, accum_ordered asc _⟩

/-- **conforming selection is left alone**: if `f` fixes the selected subsequence (in-order input for the sort / the
running extreme) the whole vector is returned -/
theorem indexed_fix_conform (f : List K → List K) (is : List Int) (x y : List K) (ks : List Nat)
    (hks : wrapAll x.length is = some ks)
    (hfix : f (gather (sortBy true ks) x) = gather (sortBy true ks) x)
    (hy : indexed f (some is) x = .ok y) : y = x := by
  rcases indexed_some_eq_ok hy with rfl | ⟨ks', hks', rfl⟩
  · rfl
  · obtain rfl : ks' = ks := Option.some.inj (hks'.symm.trans hks)
    rw [hfix]
    exact scatter_gather _ x (fun k hk => wrapAll_lt _ _ _ hks k ((sortBy_perm true ks').subset hk))

end indexedsel

section redraw
variable {K : Type} [Field K] [LinearOrder K] [IsStrictOrderedRing K]

theorem inAny_false_out (ivs : List (K × K)) (a : K) (h : inAny ivs a = false) (iv : K × K) (hiv : iv ∈ ivs) :
    ¬ (iv.1 ≤ a ∧ a ≤ iv.2) := by
  intro hc
  have := (inAny_iff ivs a).mpr ⟨iv, hiv, hc⟩
  rw [h] at this; cases this

/-- `bounded(clip=True, nearest=False)` (l.1232-1234): for every pick stream (valid interval numbers, at least one per
entry) an out-of-bounds selected entry lands on an END of an interval; every other entry is untouched -/
theorem boundedPickGo_spec (ivs : List (K × K)) (hwf : ∀ iv ∈ ivs, iv.1 ≤ iv.2) (idx : Option (List Int))
    (x : List K) (k0 : Nat) (picks : List Nat) (hp : ∀ p ∈ picks, p < ivs.length) (hlen : x.length ≤ picks.length)
    (j : Nat) (a : K) (ha : x[j]? = some a) :
    ∃ b, (boundedPickGo ivs idx x k0 picks)[j]? = some b ∧
      ((inAny ivs a = true ∨ selPos idx (k0 + j) = false) → b = a) ∧
      ((inAny ivs a = false ∧ selPos idx (k0 + j) = true) → ∃ iv ∈ ivs, b = iv.1 ∨ b = iv.2) := by
  induction x generalizing k0 picks j with
  | nil => simp at ha
  | cons c t ih =>
    cases picks with
    | nil => exact absurd hlen (Nat.not_succ_le_zero _)
    | cons p ps =>
      have hpl := hp p List.mem_cons_self
      have hm : ivs[p] ∈ ivs := List.getElem_mem hpl
      -- the head is treated on its own; the tail is the same function one position on, with the picks that are left
      obtain ⟨b, picks1, heq, hp1, hlen1, hb1, hb2⟩ : ∃ b picks1,
          boundedPickGo ivs idx (c :: t) k0 (p :: ps) = b :: boundedPickGo ivs idx t (k0 + 1) picks1 ∧
          (∀ q ∈ picks1, q < ivs.length) ∧ t.length ≤ picks1.length ∧
          ((inAny ivs c = true ∨ selPos idx k0 = false) → b = c) ∧
          ((inAny ivs c = false ∧ selPos idx k0 = true) → ∃ iv ∈ ivs, b = iv.1 ∨ b = iv.2) := by
        rw [boundedPickGo, List.getElem?_eq_getElem hpl]
        by_cases hcond : (!inAny ivs c && selPos idx k0) = true
        · rw [if_pos hcond]
          simp only [Bool.and_eq_true, Bool.not_eq_true'] at hcond
          refine ⟨_, ps, rfl, fun q hq => hp q (List.mem_cons_of_mem _ hq), Nat.le_of_succ_le_succ hlen, ?_,
            fun _ => ⟨ivs[p], hm, clipAt_at_end _ _ c (hwf _ hm) (inAny_false_out ivs c hcond.1 _ hm)⟩⟩
          rintro (h | h)
          · rw [hcond.1] at h; cases h
          · rw [hcond.2] at h; cases h
        · rw [if_neg hcond]
          refine ⟨c, p :: ps, rfl, hp, Nat.le_of_succ_le hlen, fun _ => rfl, fun h => ?_⟩
          exact absurd (by rw [h.1, h.2]; rfl) hcond
      rw [heq]
      cases j with
      | zero =>
        obtain rfl : c = a := Option.some.inj ha
        exact ⟨b, rfl, hb1, hb2⟩
      | succ j =>
        rw [← Nat.add_assoc, Nat.add_right_comm]
        exact ih (k0 + 1) picks1 hp1 hlen1 j ha

/-- a uniform draw `u ∈ [0, 1]` scaled into `[lo, hi]` is inside -/
theorem redraw_inside (lo hi u : K) (h : lo ≤ hi) (h0 : 0 ≤ u) (h1 : u ≤ 1) :
    lo ≤ u * (hi - lo) + lo ∧ u * (hi - lo) + lo ≤ hi :=
  ⟨le_add_of_nonneg_left (mul_nonneg h0 (sub_nonneg.mpr h)),
    le_sub_iff_add_le.mp (mul_le_of_le_one_left (sub_nonneg.mpr h) h1)⟩

/-- distance from `a` to the nearer end of an interval (l.1240: `abs(seq_at.reshape(-1,1) - b).min(axis=1)`) -/
def endDist (a : K) (iv : K × K) : K :=
  let d1 := absR (a - iv.1); let d2 := absR (a - iv.2); if d2 < d1 then d2 else d1

/-- `bounded(clip=False)` (l.1236-1243), `nearest` = True or False: for EVERY oracle of uniform draws in `[0,1]`
(one per interval and out-of-bounds entry) and every valid pick stream, an out-of-bounds selected entry is re-drawn
INSIDE one of the intervals - with `nearest=True` an interval no other interval has a nearer end than; every other
entry (conforming or unselected) is never re-drawn -/
theorem boundedRandGo_spec (ivs : List (K × K)) (hne : ivs ≠ []) (hwf : ∀ iv ∈ ivs, iv.1 ≤ iv.2)
    (idx : Option (List Int)) (nearest : Bool) (draws : List (List K)) (x : List K) (k0 r0 : Nat) (picks : List Nat)
    (hp : ∀ p ∈ picks, p < ivs.length)
    (hd : ∀ i r, i < ivs.length → r < r0 + x.length → ∃ u, draws[i]?.bind (·[r]?) = some u ∧ 0 ≤ u ∧ u ≤ 1)
    (j : Nat) (a : K) (ha : x[j]? = some a) :
    ∃ b, (boundedRandGo ivs idx nearest draws x k0 r0 picks)[j]? = some b ∧
      ((inAny ivs a = true ∨ selPos idx (k0 + j) = false) → b = a) ∧
      ((inAny ivs a = false ∧ selPos idx (k0 + j) = true) →
        ∃ iv ∈ ivs, iv.1 ≤ b ∧ b ≤ iv.2 ∧ (nearest = true → ∀ iv' ∈ ivs, endDist a iv ≤ endDist a iv')) := by
  induction x generalizing k0 r0 picks j with
  | nil => simp at ha
  | cons c t ih =>
    obtain ⟨b, r1, picks1, heq, hr1, hp1, hb1, hb2⟩ : ∃ b r1 picks1,
        boundedRandGo ivs idx nearest draws (c :: t) k0 r0 picks
          = b :: boundedRandGo ivs idx nearest draws t (k0 + 1) r1 picks1 ∧
        r1 ≤ r0 + 1 ∧ (∀ q ∈ picks1, q < ivs.length) ∧
        ((inAny ivs c = true ∨ selPos idx k0 = false) → b = c) ∧
        ((inAny ivs c = false ∧ selPos idx k0 = true) →
          ∃ iv ∈ ivs, iv.1 ≤ b ∧ b ≤ iv.2 ∧ (nearest = true → ∀ iv' ∈ ivs, endDist c iv ≤ endDist c iv')) := by
      rw [boundedRandGo]
      by_cases hcond : (!inAny ivs c && selPos idx k0) = true
      · rw [if_pos hcond]
        simp only [Bool.and_eq_true, Bool.not_eq_true'] at hcond
        refine ⟨_, r0 + 1, picks.tail, rfl, le_refl _, fun q hq => hp q (List.mem_of_mem_tail hq), ?_, fun _ => ?_⟩
        · rintro (h | h)
          · rw [hcond.1] at h; cases h
          · rw [hcond.2] at h; cases h
        · -- the key list under `argminFirst` is `ivs.map (endDist c)`, by unfolding
          generalize hjj : (if nearest = true then argminFirst (R := K) _ else picks.head?.getD 0) = jj
          obtain ⟨hjl, hnear⟩ : ∃ h : jj < ivs.length,
              nearest = true → ∀ iv' ∈ ivs, endDist c ivs[jj] ≤ endDist c iv' := by
            subst hjj
            obtain ⟨iv, hiv⟩ := argminFirst_map_spec (endDist c) ivs hne
            obtain ⟨hlt, rfl⟩ := List.getElem?_eq_some_iff.mp hiv.get
            cases nearest with
            | true => exact ⟨hlt, fun _ => hiv.le⟩
            | false =>
              refine ⟨?_, nofun⟩
              cases picks with
              | nil => exact List.length_pos_iff.mpr hne
              | cons p ps => exact hp p List.mem_cons_self
          obtain ⟨u, hu, u0, u1⟩ := hd jj r0 hjl (Nat.lt_add_of_pos_right (Nat.succ_pos _))
          have hm := List.getElem_mem hjl
          simp only [List.getElem?_eq_getElem hjl, hu]
          exact ⟨ivs[jj], hm, (redraw_inside _ _ u (hwf _ hm) u0 u1).1, (redraw_inside _ _ u (hwf _ hm) u0 u1).2, hnear⟩
      · rw [if_neg hcond]
        refine ⟨c, r0, picks, rfl, Nat.le_succ _, hp, fun _ => rfl, fun h => ?_⟩
        exact absurd (by rw [h.1, h.2]; rfl) hcond
    rw [heq]
    cases j with
    | zero =>
      obtain rfl : c = a := Option.some.inj ha
      exact ⟨b, rfl, hb1, hb2⟩
    | succ j =>
      rw [← Nat.add_assoc, Nat.add_right_comm]
      exact ih (k0 + 1) r1 picks1 hp1 (fun i r hi hr => hd i r hi (by rw [List.length_cons]; omega)) j ha

end redraw

/-! non-vacuity -/

example : sorting true (some [3, 0, -1]) [(5 : Int), 9, 8, 1, 0] = .ok [0, 9, 8, 1, 5] := by decide
example : monotonic true (some [0, 2, 3]) [(5 : Int), 9, 1, 7] = .ok [5, 9, 5, 7] := by decide
example : gather (sortBy true [3, 0, 4]) [(0 : Int), 9, 8, 1, 5] = [0, 1, 5] := by decide
/-- picks `[1, 0]`: `6` goes to the low end of `(7,10)`, `-4` to the low end of `(0,5)`; `1` is left alone -/
example : boundedPickGo [((0 : Int), 5), (7, 10)] none [1, 6, -4] 0 [1, 0] = [1, 7, 0] := by decide

end MysticVerif.C16
