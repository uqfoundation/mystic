/-
C16: `unique(x, full)` / `impose_unique(full)` (constraints.py l.1052-1154, l.1159-1181) for ANY sequence of
allowed values - listed in any order, members repeated at will - with the replacement pool inside the statement:
the list handed to `shuffle` is `list(set(full) - set(x))`; its contract `uniquePoolOk` (no repeats, allowed values
that do not occur in `x`, all of them) is evaluated by the driver on the list the real run hands over.
-/
import MysticVerif.Props.C16.Core
import MysticVerif.Proofs.TransformsUnique

namespace MysticVerif.C16
open MysticVerif.Trans

section uniq
variable {R : Type} [BEq R] [LawfulBEq R]

/-- what the pool contract says, as propositions -/
theorem unique_pool_contract (full x new : List R) (h : uniquePoolOk full x new = true) :
    new.Nodup ∧ (∀ v ∈ new, v ∈ full ∧ v ∉ x) ∧ (∀ v ∈ full, v ∉ x → v ∈ new) := by
  simp only [uniquePoolOk, Bool.and_eq_true, List.all_eq_true, Bool.or_eq_true, Bool.not_eq_true'] at h
  obtain ⟨⟨h1, h2⟩, h3⟩ := h
  refine ⟨(nodupB_iff new).mp h1, ?_, ?_⟩
  · intro v hv
    have := h2 v hv
    exact ⟨by simpa using this.1, by simpa using this.2⟩
  · intro v hv hx
    rcases h3 v hv with h | h
    · exact absurd (by simpa using h) hx
    · simpa using h

/-- **in target** for `unique` / `impose_unique`, `full` any list (repeats, any order): under the pool contract the
result has the length of the input, pairwise-distinct entries, every one of them an allowed value -/
theorem unique_in_target (full x new y : List R) (hy : unique full x new = .ok y)
    (hp : uniquePoolOk full x new = true) : y.length = x.length ∧ y.Nodup ∧ ∀ b ∈ y, b ∈ full := by
  obtain ⟨hnd, hnew, _⟩ := unique_pool_contract full x new hp
  obtain ⟨h1, h3⟩ := unique_distinct full x new y hy hnd (fun v hv => (hnew v hv).2)
  obtain ⟨hall, _, hgo⟩ := (unique_eq_ok_iff full x new y).mp hy
  refine ⟨(uniqueGo_first x [] new y hgo).1, h1, fun b hb => ?_⟩
  rcases h3 b hb with h | h
  · exact hall b h
  · exact (hnew b h).1

/-- **frame**: every first occurrence of a value stays where it is (only later repeats are replaced), for every `new` -/
theorem unique_frame_first (full x new y : List R) (hy : unique full x new = .ok y) (k : Nat) (a : R)
    (hk : x[k]? = some a) (hfirst : a ∉ x.take k) : y[k]? = some a :=
  (uniqueGo_first x [] new y ((unique_eq_ok_iff full x new y).mp hy).2.2).2 k a hk List.not_mem_nil hfirst

/-- **conforming input left alone**: a vector of pairwise-distinct allowed values is returned as it is, whatever the
shuffle does -/
theorem unique_fix_conform (full x new : List R) (hnd : x.Nodup) (hin : ∀ a ∈ x, a ∈ full)
    (hlen : x.length ≤ full.length) : unique full x new = .ok x :=
  (unique_eq_ok_iff full x new x).mpr ⟨hin, hlen, uniqueGo_nodup x [] new hnd (fun _ _ => List.not_mem_nil)⟩

/-- **twice = once**: the result of `unique` (under the pool contract) is returned unchanged by a second application,
whatever the second shuffle does -/
theorem unique_idem (full x new y new' : List R) (hy : unique full x new = .ok y)
    (hp : uniquePoolOk full x new = true) : unique full y new' = .ok y := by
  obtain ⟨hl, hnd, hin⟩ := unique_in_target full x new y hy hp
  exact unique_fix_conform full y new' hnd hin (hl ▸ ((unique_eq_ok_iff full x new y).mp hy).2.1)

end uniq

/-- the pool contract is what carries "pairwise distinct": a pool that keeps the repeated members of `full`
(`[i for i in full if i not in unique]`) violates the contract and hands the same value to two repeats -/
theorem unique_repeated_pool_witness :
    uniquePoolOk [(5 : Int), 7, 7, 8] [5, 5, 5] [7, 8, 7] = false ∧
    unique [(5 : Int), 7, 7, 8] [5, 5, 5] [8, 7, 7] = .ok [5, 7, 7] ∧
    uniquePoolOk [(5 : Int), 7, 7, 8] [5, 5, 5] [8, 7] = true ∧
    unique [(5 : Int), 7, 7, 8] [5, 5, 5] [8, 7] = .ok [5, 7, 8] := by decide

/-- `len(full)` counts repeated members (l.1147): with fewer DISTINCT allowed values than entries the length check
passes and `new.pop()` runs dry - an `IndexError` instead of the documented `ValueError` (no distinct vector exists,
so raising is right) -/
theorem unique_repeated_full_exhausts_witness :
    unique [(7 : Int), 7, 7] [7, 7] [] = .error .index ∧ uniquePoolOk [(7 : Int), 7, 7] [7, 7] [] = true := by decide

example : uniquePoolOk [(3 : Int), 1, 3, 2, 1, 4] [1, 1, 4] [2, 3] = true := by decide
example : unique [(3 : Int), 1, 3, 2, 1, 4] [1, 1, 4, 1] [2, 3] = .ok [1, 3, 4, 2] := by decide

end MysticVerif.C16
