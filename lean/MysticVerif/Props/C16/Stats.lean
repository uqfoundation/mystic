/-
C16: the statistics targets `with_spread`, `with_variance`, `with_std` (constraints.py l.193-283,
measures.py impose_spread l.548-571, impose_variance l.436-462) as FIELD statements:
the result has exactly the requested spread / variance / std and the mean is kept; the degenerate inputs
(constant vector, length one, target 0, negative target) are the explicit alternatives of the statements.
`sum` is `List.sum`, `ofNat` the cast, `sqrt` a parameter with its law.
-/
import MysticVerif.Props.C16.Core
import MysticVerif.Proofs.TransformsExt

namespace MysticVerif.C16
open MysticVerif.Trans

section spread
variable {K : Type} [Field K] [LinearOrder K] [IsStrictOrderedRing K]

/-- the scaling step of `impose_spread` / `impose_variance`: `impose_mean(m, x * scale)` is the affine map
`a ↦ a * scale + shift` -/
theorem scaled_eq_map (m scale : K) (x : List K) :
    imposeMean List.sum Nat.cast m (x.map (· * scale))
      = x.map (fun a => a * scale + (m - meanL List.sum Nat.cast (x.map (· * scale)))) := by
  rw [imposeMean, List.map_map]
  rfl

/-- **in target** for `with_spread(target)`: one of
* the guard `almostEqual(spread(x), target)` held and `x` is returned;
* `x` is constant (zero spread, e.g. length one) and the code returns a vector of NaN (`nan`);
* the result has spread EXACTLY `|target|` (= `target` for the meaningful `target ≥ 0`; a negative target mirrors the
  vector about its mean) and the mean of `x`. -/
theorem withSpread_in_target (atol rtol nan target : K) (x y : List K)
    (hy : withSpread List.sum Nat.cast atol rtol nan target x = .ok y) :
    ∃ mx mn, maxL x = some mx ∧ minL x = some mn ∧
      ((y = x ∧ close atol rtol (mx - mn) target = true)
       ∨ (mx = mn ∧ y = x.map (fun _ => nan))
       ∨ (mx ≠ mn ∧ ∃ my ny, maxL y = some my ∧ minL y = some ny ∧ my - ny = |target|
            ∧ meanL List.sum Nat.cast y = meanL List.sum Nat.cast x)) := by
  unfold withSpread at hy
  cases hmx : maxL x with
  | none => simp [hmx] at hy
  | some mx =>
    cases hmn : minL x with
    | none => simp [hmx, hmn] at hy
    | some mn =>
      refine ⟨mx, mn, rfl, rfl, ?_⟩
      simp only [hmx, hmn] at hy
      split at hy
      · rename_i hc
        exact .inl ⟨(Except.ok.inj hy).symm, hc⟩
      · split at hy
        · rename_i _ he
          exact .inr (.inl ⟨sub_eq_zero.mp ((eqR_iff _ _).mp he), (Except.ok.inj hy).symm⟩)
        · rename_i _ he
          have hne : mx ≠ mn := fun h => he ((eqR_iff _ _).mpr (sub_eq_zero.mpr h))
          have hmem := (minL_eq_some_iff.mp hmn).1
          have hpos : 0 < mx - mn := sub_pos.mpr (lt_of_le_of_ne ((maxL_eq_some_iff.mp hmx).2 mn hmem) hne.symm)
          refine .inr (.inr ⟨hne, ?_⟩)
          obtain rfl := Except.ok.inj hy
          have hmean := mean_imposeMean (meanL List.sum Nat.cast x) (x.map (· * (target / (mx - mn))))
            (fun h => List.ne_nil_of_mem hmem (List.map_eq_nil_iff.mp h))
          -- the result is `x` under `a ↦ a * (target / spread) + shift`, so its spread is `|target / spread| * spread`
          rw [scaled_eq_map] at hmean ⊢
          obtain ⟨my, ny, h1, h2, h3⟩ := spread_map_affine x (target / (mx - mn))
            (meanL List.sum Nat.cast x - meanL List.sum Nat.cast (x.map (· * (target / (mx - mn))))) mx mn hmx hmn
          exact ⟨my, ny, h1, h2, by rw [h3, abs_div, abs_of_pos hpos, div_mul_cancel₀ _ hpos.ne'], hmean⟩

/-- **exact target** corollary: a non-constant input and a non-negative target outside the guard give spread
EXACTLY `target` -/
theorem withSpread_exact (atol rtol nan target : K) (ht : 0 ≤ target) (x y : List K) (mx mn : K)
    (hmx : maxL x = some mx) (hmn : minL x = some mn) (hne : mx ≠ mn)
    (hguard : close atol rtol (mx - mn) target = false)
    (hy : withSpread List.sum Nat.cast atol rtol nan target x = .ok y) :
    ∃ my ny, maxL y = some my ∧ minL y = some ny ∧ my - ny = target
      ∧ meanL List.sum Nat.cast y = meanL List.sum Nat.cast x := by
  obtain ⟨mx', mn', h1, h2, h⟩ := withSpread_in_target atol rtol nan target x y hy
  rw [hmx] at h1; rw [hmn] at h2
  injection h1 with h1; injection h2 with h2; subst h1; subst h2
  rcases h with ⟨_, hc⟩ | ⟨he, _⟩ | ⟨_, my, ny, a, b, c, d⟩
  · rw [hguard] at hc; cases hc
  · exact absurd he hne
  · exact ⟨my, ny, a, b, by rw [c, abs_of_nonneg ht], d⟩

/-- **idempotent** (non-constant input, `target ≥ 0`, non-negative tolerances as in the code) -/
theorem withSpread_idem (atol rtol nan target : K) (h0 : 0 ≤ atol) (h1 : 0 ≤ rtol) (ht : 0 ≤ target) (x y : List K)
    (hnc : maxL x ≠ minL x) (hy : withSpread List.sum Nat.cast atol rtol nan target x = .ok y) :
    withSpread List.sum Nat.cast atol rtol nan target y = .ok y := by
  obtain ⟨mx, mn, hmx, hmn, h⟩ := withSpread_in_target atol rtol nan target x y hy
  rcases h with ⟨rfl, _⟩ | ⟨he, _⟩ | ⟨_, my, ny, a, b, c, _⟩
  · exact hy
  · exact absurd (by rw [hmx, hmn, he]) hnc
  · unfold withSpread
    simp only [a, b]
    rw [c, abs_of_nonneg ht, if_pos (close_self atol rtol target h0 h1)]

end spread

/-- a NEGATIVE target cannot be met (a spread is never negative): the code returns spread `-target` -/
theorem withSpread_negative_target_witness :
    withSpread List.sum Nat.cast (0 : ℚ) 0 0 (-1) [0, 1] = .ok [1, 0] := by
  decide +kernel

section variance
variable {K : Type} [Field K] [LinearOrder K] [IsStrictOrderedRing K]

/-- **in target** for `with_variance(target)`, `target ≥ 0`, `sqrt` any function with `sqrt a * sqrt a = a` on `a ≥ 0`: one of
* the guard `almostEqual(variance(x), target)` held and `x` is returned;
* `x` has zero variance (constant, length one): `x` itself for `target = 0`, else a vector of NaN;
* the result has variance EXACTLY `target` and the mean of `x`. -/
theorem withVariance_in_target (sqrt : K → K) (hsqrt : ∀ a, 0 ≤ a → sqrt a * sqrt a = a)
    (atol rtol nan target : K) (ht : 0 ≤ target) (x y : List K)
    (hy : withVariance List.sum Nat.cast sqrt atol rtol nan target x = .ok y) :
    (y = x ∧ close atol rtol (variance List.sum Nat.cast x) target = true)
      ∨ (variance List.sum Nat.cast x = 0 ∧ ((target = 0 ∧ y = x) ∨ (target ≠ 0 ∧ y = x.map (fun _ => nan))))
      ∨ (variance List.sum Nat.cast x ≠ 0 ∧ variance List.sum Nat.cast y = target
          ∧ meanL List.sum Nat.cast y = meanL List.sum Nat.cast x) := by
  obtain ⟨hxne, ⟨hc, rfl⟩ | ⟨he, ht0, rfl⟩ | ⟨he, ht0, rfl⟩ | ⟨he, rfl⟩⟩ := withVariance_eq_ok hy
  · exact .inl ⟨rfl, hc⟩
  · exact .inr (.inl ⟨he, .inl ⟨ht0, rfl⟩⟩)
  · exact .inr (.inl ⟨he, .inr ⟨ht0, rfl⟩⟩)
  · refine .inr (.inr ⟨he, ?_, mean_imposeMean _ _ (fun h => hxne (List.map_eq_nil_iff.mp h))⟩)
    have hsv : 0 < variance List.sum Nat.cast x := lt_of_le_of_ne (variance_nonneg x) (Ne.symm he)
    rw [scaled_eq_map, variance_map_affine x hxne, hsqrt _ (div_nonneg ht hsv.le), div_mul_cancel₀ _ he]

/-- **in target** for `with_std(s)` = `with_variance(s*s)` (constraints.py l.249): the result has variance `s*s`,
i.e. standard deviation `|s|`, whatever the sign of `s` -/
theorem withStd_in_target (sqrt : K → K) (hsqrt : ∀ a, 0 ≤ a → sqrt a * sqrt a = a)
    (atol rtol nan s : K) (x y : List K)
    (hy : withVariance List.sum Nat.cast sqrt atol rtol nan (s * s) x = .ok y)
    (hnd : variance List.sum Nat.cast x ≠ 0) (hguard : close atol rtol (variance List.sum Nat.cast x) (s * s) = false) :
    variance List.sum Nat.cast y = s * s ∧ meanL List.sum Nat.cast y = meanL List.sum Nat.cast x := by
  rcases withVariance_in_target sqrt hsqrt atol rtol nan (s * s) (mul_self_nonneg s) x y hy with ⟨_, hc⟩ | ⟨h0, _⟩ | ⟨_, h⟩
  · rw [hguard] at hc; cases hc
  · exact absurd h0 hnd
  · exact h

/-- **idempotent** (input with non-zero variance, `target ≥ 0`, non-negative tolerances) -/
theorem withVariance_idem (sqrt : K → K) (hsqrt : ∀ a, 0 ≤ a → sqrt a * sqrt a = a)
    (atol rtol nan target : K) (h0 : 0 ≤ atol) (h1 : 0 ≤ rtol) (ht : 0 ≤ target) (x y : List K)
    (hnd : variance List.sum Nat.cast x ≠ 0)
    (hy : withVariance List.sum Nat.cast sqrt atol rtol nan target x = .ok y) :
    withVariance List.sum Nat.cast sqrt atol rtol nan target y = .ok y := by
  rcases withVariance_in_target sqrt hsqrt atol rtol nan target ht x y hy with ⟨rfl, _⟩ | ⟨hz, _⟩ | ⟨_, hv, _⟩
  · exact hy
  · exact absurd hz hnd
  · -- in each branch `y` is `x`, a map of `x`, or `imposeMean` of one: non-empty with `x`
    have hyne : y ≠ [] := by
      obtain ⟨hxne, ⟨_, rfl⟩ | ⟨_, _, rfl⟩ | ⟨_, _, rfl⟩ | ⟨_, rfl⟩⟩ := withVariance_eq_ok hy <;>
        simpa [imposeMean] using hxne
    unfold withVariance
    rw [if_neg (fun h => hyne (List.isEmpty_iff.mp h))]
    simp only
    rw [hv, if_pos (close_self atol rtol target h0 h1)]

end variance

/-! non-vacuity: over ℚ, `with_spread(4)` on `[0, 1, 3]` (spread 3, mean 4/3) -/
example : withSpread List.sum Nat.cast (0 : ℚ) 0 0 4 [0, 1, 3] = .ok [-4 / 9, 8 / 9, 32 / 9] := by
  decide +kernel
/-- `with_variance(6)` on `[0, 1, 2]` (variance 2/3, scale 3 with `sqrt 9 = 3`) -/
example : withVariance List.sum Nat.cast (fun q : ℚ => if q = 9 then 3 else 0) 0 0 0 6 [0, 1, 2] = .ok [-2, 1, 4] := by
  decide +kernel

end MysticVerif.C16
