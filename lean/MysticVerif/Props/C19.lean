/-
C19 - discrete measures: parameter-vector round trips and product structure.
Helper lemmas: Proofs/Discrete*.lean.

Model: `MysticVerif.Discrete` (Model/Discrete.lean, Model/DiscreteExt.lean), the object graph in Model/DiscreteHeap.lean.
`some`/`.ok` = the call returned, `none`/`.error` = it raised.
Structural theorems hold for EVERY payload type; numeric ones for every linearly ordered field `K`
(the code's `numpy.inf` / `nan` / `sqrt` are parameters `inf nan : K`, `sqrt : K → K`).

Topics: the theorems listed for C19 in DESIGN.md section 5;
`constraints.impose_measure` (shape / frame / round trip, total weight and centre of mass of every factor, noweight
indices exactly 0, tracked pairs on one position), `update` for EVERY parameter length and EVERY shape (frame property),
the maximum / minimum / ptp / ess_* family, measure-level expect / support, `pof_value`, `mean_value`, `set_mean_value`,
the product-level `center_mass` setter and `measure.normalize`; `update` / `load` on shared objects.
NOT covered by a theorem (correspondence + monitor only): `tools.connected` (the impose theorems take its grouping of
the pairs as given; `impose_collapse` depends on python set iteration order for chained pairs: C18), `compose(x)` with
default uniform weights (`composeU`), the malformed-shape error enum of `_unpack`, and rounding (the numeric theorems are
field statements; python's compensated `sum` and numpy reductions are not modelled).  Outside the model: `set_expect*`
(an optimizer run) and the `sampled_*` family (random sampling).
-/
import MysticVerif.Proofs.Discrete
import MysticVerif.Proofs.DiscretePack
import MysticVerif.Proofs.DiscreteNum
import MysticVerif.Proofs.DiscreteImpose
import MysticVerif.Proofs.DiscreteUpdate
import MysticVerif.Proofs.DiscreteStats
import MysticVerif.Proofs.DiscreteHeap
import Mathlib.Algebra.Order.Field.Rat
import Mathlib.Tactic.NormNum

-- fixed statements carry every binder of their `variable` line
set_option linter.unusedSectionVars false

namespace MysticVerif.C19
open MysticVerif.Discrete

variable {α : Type}

/-! ## `_nested` / `_flat` -/

/-- **nested/flat.** Re-nesting a flattened nested list with its own shape gives it back (all shapes,
empty rows included). -/
theorem nested_flat (p : List (List α)) : nested (flat p) (p.map List.length) = p := by
  have := nested_flat_append p []
  simpa using this

/-- **flat/nested.** Flattening `_nested(params, npts)` gives the first `sum npts` parameters - all of
them when the shape fits (`flat_nested_fit`). -/
theorem flat_nested (params : List α) (npts : List Nat) :
    flat (nested params npts) = params.take npts.sum := flat_nested_take params npts

theorem flat_nested_fit (params : List α) (npts : List Nat) (h : npts.sum = params.length) :
    flat (nested params npts) = params := by
  rw [flat_nested, h, List.take_length]

/-! ## flatten -> unflatten / load (product measure and scenario) -/

/-- **unflatten ∘ flatten.** For every product measure (any number of factors, any factor sizes incl. 0
and 1, any payload) unflattening its parameter vector with its own shape returns an equal measure. -/
theorem unflatten_flatten (c : PM α) : unflatten (flatten c) (pts c) = some c := by
  have h := Discrete.unflatten_flatten c []
  rwa [List.append_nil] at h

/-- **load ∘ flatten.** `self.load(c.flatten() + surplus, c.pts)` appends exactly `c` to `self`
(surplus "Y-values" are ignored); in particular `product_measure().load(c.flatten(), c.pts) = c`. -/
theorem load_flatten (self c : PM α) (surplus : List α) :
    load self (flatten c ++ surplus) (pts c) = some (self ++ c) := by
  simp only [load, truncParams_flatten, unflatten_flatten, Option.map_some]

theorem load_flatten_empty (c : PM α) : load [] (flatten c) (pts c) = some c := by
  have := load_flatten [] c []
  simpa using this

/-- **scenario load ∘ flatten.** Loading `s.flatten(all=True)` with `s`'s shape into a scenario that holds
no measures yet returns `s`'s measures; the values become `s.values` (the old ones survive only when `s`
carries none).  For a fresh `scenario()` the result equals `s` (`scenario_load_flatten_fresh`). -/
theorem scenario_load_flatten (s : Scen α) (old : List α) :
    sload ⟨[], old⟩ (sflatten s true) (pts s.pm)
      = some ⟨s.pm, if s.values = [] then old else s.values⟩ := by
  have hl := length_flatten s.pm
  simp only [sload, sflatten, if_true, load_flatten, Option.map_some, List.nil_append,
    extraParams_flatten, List.length_append, hl]
  congr 2
  cases s.values with
  | nil => exact (if_neg (Nat.lt_irrefl _)).trans (if_pos rfl).symm
  | cons a t => exact (if_pos (Nat.lt_add_of_pos_right (Nat.succ_pos _))).trans (if_neg (List.cons_ne_nil a t)).symm

theorem scenario_load_flatten_fresh (s : Scen α) :
    sload ⟨[], []⟩ (sflatten s true) (pts s.pm) = some s := by
  rw [scenario_load_flatten]
  by_cases hv : s.values = []
  · cases s; simp_all
  · cases s; simp_all

/-- the constructor `scenario(pm, values)` stores `pm` and `values` -/
theorem mkScen_spec (pm : PM α) (values : List α) : mkScen pm values = some ⟨pm, values⟩ := by
  unfold mkScen
  split  -- `mkScen` branches on `pm.isEmpty`
  · rename_i h; simp at h; simp [h]
  · simp [load_flatten_empty]

/-! ## compose / decompose -/

/-- **compose ∘ decompose.** -/
theorem compose_decompose (c : PM α) : compose (decompose c).1 (decompose c).2 = some c :=
  unflatten_flatten c

/-- what `decompose` returns: the factor positions and the factor weights -/
theorem decompose_spec (c : PM α) : decompose c = (pos c, wts c) := by
  have h := nestedSplit_flatten c []
  rw [List.append_nil] at h
  rw [decompose, h]

/-- **decompose ∘ compose.** Whenever `compose(x, w)` returns for weights of the same shape as `x`,
decomposing gives `(x, w)` back.  (Surplus weights are silently dropped by the code, hence the shape
hypothesis; the positions come back unconditionally: `decompose_compose_positions`.) -/
theorem decompose_compose (x w : List (List α)) (c : PM α) (h : compose x w = some c)
    (hshape : x.map List.length = w.map List.length) : decompose c = (x, w) := by
  rw [decompose_spec, listOfMeasures_some h, listOfMeasures_some_wts h hshape]

theorem decompose_compose_positions (x w : List (List α)) (c : PM α) (h : compose x w = some c) :
    (decompose c).1 = x := by
  rw [decompose_spec]; exact listOfMeasures_some h

/-! ## update -/

/-- **update.** On a product measure whose factors all have at least one point, `update(params)` with
`len(params) ≥ 2*sum(pts)` returns a measure of the SAME shape whose parameter vector is exactly the first
`2*sum(pts)` parameters: every addressed weight and position takes the given number, nothing else exists to
change.  (By `unflatten_flatten` shape + parameter vector determine the measure.) -/
theorem update_spec (self : PM α) (params : List α) (hne : ∀ m ∈ self, m ≠ [])
    (hlen : 2 * (pts self).sum ≤ params.length) :
    ∃ c, update self params = some c ∧ pts c = pts self ∧
      flatten c = params.take (2 * (pts self).sum) := by
  obtain ⟨hp, hf⟩ := unflat_cover params (pts self) hlen
  refine ⟨unflat params (pts self), ?_, hp, hf⟩
  have hz : (pts self).count 0 = 0 := by
    rw [List.count_eq_zero]
    intro h0
    obtain ⟨m, hm, hm0⟩ := List.mem_map.mp h0
    exact hne m hm (List.eq_nil_of_length_eq_zero hm0)
  have hl : (unflat params (pts self)).length = self.length := by rw [unflat_length, pts, List.length_map]
  rw [update_eq, updU_eq, countP_isEmpty_eq_count_pts, hp, hz, Nat.sub_zero, List.drop_length, List.append_nil,
    List.take_of_length_le (Nat.le_of_eq hl)]

/-- the shape hypothesis of `update_spec` cannot be dropped: with an EMPTY first factor the code counts it
in `zo = pm.count([])` and keeps the old last factor (shape (0,1): the update is lost).  Outside the
property's quantifier (factor sizes ≥ 1).  The model's behaviour; the harness's `update` stream
compares it with the code. -/
theorem update_empty_factor_witness :
    update ([[], [⟨0, 1⟩]] : PM Nat) [5, 7] = some [[], [⟨0, 1⟩]] := by decide

/-- **scenario update.** As `update_spec` for the measures; the values: the list keeps its length, its
first `min (#given) (#old)` entries are replaced by the given surplus parameters, the rest is kept. -/
theorem supdate_spec (self : Scen α) (params : List α) (hne : ∀ m ∈ self.pm, m ≠ [])
    (hlen : 2 * (pts self.pm).sum ≤ params.length) :
    ∃ s, supdate self params = some s ∧ pts s.pm = pts self.pm ∧
      flatten s.pm = params.take (2 * (pts self.pm).sum) ∧
      s.values.length = self.values.length ∧
      ∀ i, s.values[i]? =
        if i < (params.drop (2 * (pts self.pm).sum)).length ∧ i < self.values.length
        then (params.drop (2 * (pts self.pm).sum))[i]? else self.values[i]? := by
  obtain ⟨c, hc1, hc2, hc3⟩ := update_spec self.pm params hne hlen
  exact ⟨⟨c, _⟩, by rw [supdate_eq, hc1]; rfl, hc2, hc3, length_overlay _ _, getElem?_overlay _ _⟩

/-! ### update for EVERY parameter length and EVERY shape (the factors past the addressed prefix are unchanged) -/

/-- **update, every prefix length** (factors of at least one point; NO assumption on `len(params)`).
`update(params)` always returns a measure `r` with the same number of factors, and there is a cut `k` with:
* every factor from `k` on is UNCHANGED (`r[i] = self[i]`): nothing past the addressed prefix is touched;
* factor `i` lies before the cut exactly when the parameters reach past its weights block
  (`2*sum(pts[:i]) + pts[i] < len(params)`), and then it is non-empty and is the factor built from the parameters
  (`updU`: weights block zipped with the positions block as far as the positions go);
* whenever the parameters cover the first `j` factors completely (`2*sum(pts[:j]) ≤ len(params)`), those factors
  keep their sizes and their parameter vector is EXACTLY `params[:2*sum(pts[:j])]`.
`j = len(self)` gives `update_spec` back.  The factor at the cut whose positions block is only partly given is
rebuilt SHORTER (`update_short_params_witness`): the docstring assumes `len(params) >= 2*sum(pts)`. -/
theorem update_every_prefix (self : PM α) (params : List α) (hne : ∀ m ∈ self, m ≠ []) :
    ∃ k r, update self params = some r ∧ r.length = self.length ∧ k ≤ self.length ∧
      r = (updU self params).take k ++ self.drop k ∧
      (∀ i, k ≤ i → r[i]? = self[i]?) ∧
      (∀ i, i < k → ∃ m, r[i]? = some m ∧ m ≠ []) ∧
      (∀ i (hi : i < (pts self).length),
        (i < k ↔ 2 * ((pts self).take i).sum + (pts self)[i] < params.length)) ∧
      (∀ j, j ≤ self.length → 2 * ((pts self).take j).sum ≤ params.length →
        j ≤ k ∧ pts (r.take j) = (pts self).take j ∧
          flatten (r.take j) = params.take (2 * ((pts self).take j).sum)) := by
  have hpl : (pts self).length = self.length := List.length_map _
  have hpos : ∀ n ∈ pts self, 0 < n := by
    intro n hn
    obtain ⟨m, hm, rfl⟩ := List.mem_map.mp hn
    exact List.length_pos_iff.mpr (hne m hm)
  obtain ⟨k, hk, hA, hB, hI⟩ := unflat_cut params (pts self) hpos
  have hl := updU_length self params
  rw [← updU_eq] at hA hB
  rw [hpl] at hk
  have htk : ((updU self params).take k).length = k := by
    rw [List.length_take, Nat.min_eq_left (Nat.le_trans hk (Nat.le_of_eq hl.symm))]
  have hzo : (updU self params).countP List.isEmpty = self.length - k := by
    conv_lhs => rw [← List.take_append_drop k (updU self params)]
    rw [List.countP_append, List.countP_eq_zero.mpr fun m hm h => hA m hm (List.isEmpty_iff.mp h),
      List.countP_eq_length.mpr fun m hm => List.isEmpty_iff.mpr (hB m hm), List.length_drop, Nat.zero_add, hl]
  refine ⟨k, _, by rw [update_eq, hzo, Nat.sub_sub_self hk], ?_, hk, rfl, ?_, ?_, hI, ?_⟩
  · rw [List.length_append, htk, List.length_drop, Nat.add_sub_cancel' hk]
  · intro i hi
    rw [← htk] at hi
    rw [List.getElem?_append_right hi, List.getElem?_drop, htk, Nat.add_sub_cancel' (htk ▸ hi)]
  · intro i hi
    rw [← htk] at hi
    exact ⟨_, by rw [List.getElem?_append_left hi, List.getElem?_eq_getElem hi], hA _ (List.getElem_mem hi)⟩
  · intro j hj hcov
    have hjk : j ≤ k := by
      cases j with
      | zero => exact Nat.zero_le k
      | succ i =>
        -- factor `i` covered: its weights block is passed
        have hi : i < (pts self).length := by rw [hpl]; exact hj
        rw [List.sum_take_succ _ i hi, Nat.mul_add, Nat.two_mul (pts self)[i], ← Nat.add_assoc] at hcov
        exact (hI i hi).mpr (Nat.lt_of_lt_of_le (Nat.lt_add_of_pos_right (hpos _ (List.getElem_mem hi))) hcov)
    refine ⟨hjk, ?_⟩
    rw [List.take_append_of_le_length (by rw [htk]; exact hjk), List.take_take, Nat.min_eq_left hjk,
      updU_eq, unflat_take]
    exact unflat_cover params _ hcov

/-- outside the documented precondition (`len(params) < 2*sum(pts)`): a weights block without any position is
dropped (the addressed weights are NOT applied), a partly given positions block SHRINKS the factor. -/
theorem update_short_params_witness :
    update ([[⟨1, 10⟩, ⟨2, 20⟩]] : PM Nat) [5, 6] = some [[⟨1, 10⟩, ⟨2, 20⟩]] ∧
    update ([[⟨1, 10⟩, ⟨2, 20⟩]] : PM Nat) [5, 6, 7] = some [[⟨5, 7⟩]] ∧
    update ([[⟨1, 10⟩], [⟨2, 20⟩, ⟨3, 30⟩]] : PM Nat) [5, 6, 7, 8] = some [[⟨5, 6⟩], [⟨2, 20⟩, ⟨3, 30⟩]] := by decide +kernel

/-- **update, every shape** (empty factors included; parameters long enough).  With `z` empty factors in the
shape, the first `len - z` factors of the result are exactly the factors described by the parameters (`c`, the
measure of the same shape whose parameter vector is `params[:2*sum(pts)]`) and the LAST `z` factors are the old
ones: `zo = pm.count([])` also counts the factors that are empty by shape.  Without empty factors (`z = 0`) this
is `update_spec`; with the empty factors at the end nothing is lost either; `update_empty_factor_witness` is the
other case. -/
theorem update_any_shape (self : PM α) (params : List α) (hlen : 2 * (pts self).sum ≤ params.length) :
    ∃ c, unflatten (params.take (2 * (pts self).sum)) (pts self) = some c ∧ pts c = pts self ∧
      flatten c = params.take (2 * (pts self).sum) ∧
      update self params = some (c.take (self.length - (pts self).count 0) ++
        self.drop (self.length - (pts self).count 0)) := by
  obtain ⟨hp, hf⟩ := unflat_cover params (pts self) hlen
  refine ⟨unflat params (pts self), by rw [unflatten_eq, unflat_take_params], hp, hf, ?_⟩
  rw [update_eq, updU_eq, countP_isEmpty_eq_count_pts, hp]

/-- **scenario update, every parameter length and shape.**  `scenario.update` always returns; its measures are
those of `product_measure.update`; the values keep their number, entry `i` is replaced by surplus parameter `i`
exactly when both exist (a prefix of length `min(#surplus, #values)`), every other value is unchanged. -/
theorem supdate_every_prefix (self : Scen α) (params : List α) :
    ∃ s, supdate self params = some s ∧ update self.pm params = some s.pm ∧
      s.values.length = self.values.length ∧
      ∀ i, s.values[i]? =
        if i < (params.drop (2 * (pts self.pm).sum)).length ∧ i < self.values.length
        then (params.drop (2 * (pts self.pm).sum))[i]? else self.values[i]? := by
  obtain ⟨c, hc⟩ : ∃ c, update self.pm params = some c := ⟨_, update_eq self.pm params⟩
  exact ⟨⟨c, _⟩, by rw [supdate_eq, hc]; rfl, hc, length_overlay _ _, getElem?_overlay _ _⟩

/-! ## `_pack` / `_unpack` and the product structure -/

/-- **unpack ∘ pack.** For a non-empty list of non-empty factors `_unpack(_pack(s), shape of s)` returns `s`
(all shapes: unequal sizes, size 1). -/
theorem unpack_pack (s : List (List α)) (hs : s ≠ []) (hne : ∀ r ∈ s, r ≠ []) :
    unpack (pack s) (s.map List.length) = .ok s := Discrete.unpack_pack s hs hne

/-- the positions setter round trip `c.positions = c.positions` un-packs to the factor positions -/
theorem unpack_positions (c : PM α) (hc : c ≠ []) (hne : ∀ m ∈ c, m ≠ []) :
    unpack (positions c) (pts c) = .ok (pos c) := Discrete.unpack_positions c hc hne

/-- **pack order** (the documented one: FIRST factor fastest).  Entry `k` of `_pack(s0 :: rest)` is entry
`k % |s0|` of the first factor followed by entry `k / |s0|` of `_pack(rest)`; with `pack [] = [()]` this
determines every entry: coordinate `i` of entry `k` is `s_i[(k / (n_0⋯n_{i-1})) % n_i]`. -/
theorem pack_order (s0 : List α) (rest : List (List α)) (k : Nat) (h0 : 0 < s0.length) :
    (pack (s0 :: rest))[k]? = (pack rest)[k / s0.length]?.bind (fun t => s0[k % s0.length]?.map (· :: t)) :=
  pack_getElem?_divmod s0 rest k h0

/-- the number of product points is `npts = ∏ pts` -/
theorem positions_length (c : PM α) : (positions c).length = npts c := Discrete.positions_length c

/-- the product positions are tuples with one coordinate per factor -/
theorem positions_tuple_length (c : PM α) : ∀ t ∈ positions c, t.length = c.length := by
  intro t ht
  have := pack_mem_length (pos c) t ht
  simpa [pos] using this

section field
variable {K : Type} [Field K] [LinearOrder K] [IsStrictOrderedRing K]

/-- **product weights.** The weight of product point `k` is (weight `k % n_0` of the first factor) ×
(weight `k / n_0` of the product of the remaining factors); the empty product has the single weight 1.
Same indexing as `pack_order`, so weight `k` belongs to position `k`. -/
theorem product_weights (m : Measure K) (c : PM K) (k : Nat) (h0 : 0 < m.length) :
    (weights (m :: c))[k]? =
      (weights c)[k / m.length]?.bind (fun wr => (mweights m)[k % m.length]?.map (· * wr)) :=
  weights_getElem? m c k h0

theorem product_weights_nil : weights ([] : PM K) = [1] := by
  simp [weights, wts, pack, prodL]

theorem weights_length (c : PM K) : (weights c).length = npts c := by
  simp only [weights, List.length_map, pack_length, npts, pts, wts, List.map_map]
  congr 1
  apply List.map_congr_left
  intro m _
  simp

private theorem positions_weights_length (c : PM K) : (positions c).length = (weights c).length := by
  rw [positions_length, weights_length]

/-- **total mass = product of the factor masses.** -/
theorem mass_prod (c : PM K) : (weights c).sum = (mass c).prod := weights_sum_eq c

/-- `mass c` lists the factors' weight sums (the model's sequential sum is `List.sum` over a field) -/
theorem mass_def (c : PM K) : mass c = c.map (fun m => (mweights m).sum) := by
  simp [mass, sumL_eq_sum]

/-! ## statistics = explicit sums over the weighted product points

`zip positions weights` are the weighted points; `positions_length`/`weights_length` show no point is
lost by the zip. -/

/-- **expect.** If the total weight is non-zero, `expect(f) = (Σ_p w_p f(p)) / Σ_p w_p`
(the points of weight zero, which the code skips without evaluating `f`, contribute nothing). -/
theorem expect_def (inf : K) (c : PM K) (f : List K → K)
    (hw : (weights c).sum ≠ 0) :
    expect inf c f =
      ((List.zip (positions c) (weights c)).map fun xw => xw.2 * f xw.1).sum / (weights c).sum :=
  expectation_eq inf f (positions c) (weights c) (positions_weights_length c) hw

/-- **expect_var.** `expect_var(f) = (Σ_p w_p (f(p) - E)^2) / Σ_p w_p` with `E = expect(f)`. -/
theorem expect_var_def (inf : K) (c : PM K) (f : List K → K)
    (hw : (weights c).sum ≠ 0) :
    expectVar inf c f =
      ((List.zip (positions c) (weights c)).map fun xw =>
        xw.2 * ((f xw.1 - expect inf c f) * (f xw.1 - expect inf c f))).sum / (weights c).sum :=
  expectedVariance_eq inf f (positions c) (weights c) (positions_weights_length c) hw

/-- **pof.** `pof(f)` is the total weight of the product points with `f(p) ≤ 0`. -/
theorem pof_def (c : PM K) (f : List K → K) :
    pof c f = (((List.zip (positions c) (weights c)).filter fun xw => decide (f xw.1 ≤ 0)).map (·.2)).sum :=
  pofL_eq f (positions c) (weights c)

/-- **support.** `support(tol)` returns, in order, the product positions whose weight exceeds `tol`, and
`support_index(tol)` their indices. -/
theorem support_def (c : PM K) (tol : K) :
    support c tol = some (((List.zip (positions c) (weights c)).filter fun xw => decide (tol < xw.2)).map (·.1))
    ∧ ∀ i, i ∈ supportIndex c tol ↔ ∃ w, (weights c)[i]? = some w ∧ tol < w :=
  ⟨supportL_eq (positions c) (weights c) tol (positions_weights_length c), fun i => mem_supportIndexL (weights c) tol i⟩

/-! ## setting center_mass / range / var on a measure achieves the value -/

/-- **center_mass.** With non-zero total weight, `m.center_mass = v` makes the weighted mean `v`
(weights untouched). -/
theorem set_center_mass (inf : K) (m : Measure K) (v : K) (hw : (mweights m).sum ≠ 0) :
    centerMass inf (setCenterMass inf m v) = v ∧ mweights (setCenterMass inf m v) = mweights m :=
  setCenterMass_spec inf m v hw

/-- **range.** With non-zero total weight, a non-degenerate spread and a target `r ≥ 0`,
`m.range = r` makes `max - min` of the positions equal to `r`, keeps the weighted mean and the weights. -/
theorem set_range (inf nan : K) (m : Measure K) (r sr : K) (hw : (mweights m).sum ≠ 0)
    (hsr : range m = some sr) (hsr0 : sr ≠ 0) (hr : 0 ≤ r) :
    ∃ m', setRange inf nan m r = some m' ∧ range m' = some r ∧
      centerMass inf m' = centerMass inf m ∧ mweights m' = mweights m :=
  setRange_spec inf nan m r sr hw hsr hsr0 hr

/-- **var.** With non-zero total weight and non-zero variance, `m.var = v` (with `sqrt` a function that
satisfies `sqrt(v/var)^2 = v/var` at the one argument used) makes the weighted variance `v` and keeps the
weighted mean and the weights. -/
theorem set_var (inf nan : K) (sqrt : K → K) (m : Measure K) (v : K) (hw : (mweights m).sum ≠ 0)
    (hv0 : variance inf m ≠ 0)
    (hsqrt : sqrt (v / variance inf m) * sqrt (v / variance inf m) = v / variance inf m) :
    variance inf (setVar inf nan sqrt m v) = v ∧
      centerMass inf (setVar inf nan sqrt m v) = centerMass inf m ∧
      mweights (setVar inf nan sqrt m v) = mweights m :=
  setVar_spec inf nan sqrt m v hw hv0 hsqrt

end field

/-! ## `constraints.impose_measure(npts, tracking, noweight)` (constraints.py l.1758-1826)

`imposeMeasure inf npts tracking noweight x` is what the decorated function hands to `f`.  `tracking` is the
sequence of `(factor, groups)` items in the order the code visits them (`groups` = `tools.connected(pairs)`
of that factor, each group `(key, members)`), `noweight` the sequence of `(factor, indices)` items.
The loaded measure is `c = unflatten(x[:2*sum(npts)], npts)`, the result is `flatten (imposeOn .. c)`. -/

section impose
variable {K : Type} [Field K] [LinearOrder K] [IsStrictOrderedRing K]

/-- **impose_measure: shape, frame, round trip.**  For every parameter vector of at least `2*sum(npts)`
numbers: the result is the flattening of a measure `c'` of the SAME shape (so unflattening it with `npts` gives
`c'` back, surplus parameters are dropped), and every factor that neither `tracking` nor `noweight` addresses
is, in `c'`, exactly the factor loaded from `x` - flatten -> impose -> unflatten only changes what it addresses. -/
theorem impose_measure_frame (inf : K) (npts : List Nat) (tr : List (Nat × List (Nat × List Nat)))
    (nw : List (Nat × List Nat)) (x : List K) (hlen : 2 * npts.sum ≤ x.length) :
    ∃ c, unflatten (x.take (2 * npts.sum)) npts = some c ∧ pts c = npts ∧
      imposeMeasure inf npts tr nw x = some (flatten (imposeOn inf tr nw c)) ∧
      (flatten (imposeOn inf tr nw c)).length = 2 * npts.sum ∧
      pts (imposeOn inf tr nw c) = npts ∧
      unflatten (flatten (imposeOn inf tr nw c)) npts = some (imposeOn inf tr nw c) ∧
      ∀ k, (∀ kv ∈ tr, kv.1 ≠ k) → (∀ kv ∈ nw, kv.1 ≠ k) → (imposeOn inf tr nw c)[k]? = c[k]? := by
  obtain ⟨c, h1, h2, _, h4⟩ := imposeMeasure_eq inf npts tr nw x hlen
  have hp := imposeOn_pts inf tr nw c
  refine ⟨c, h1, h2, h4, ?_, by rw [hp, h2], ?_, fun k a b => imposeOn_frame inf tr nw c k a b⟩
  · rw [length_flatten, hp, h2]
  · rw [← h2, ← hp]
    exact unflatten_flatten _

/-- **impose_measure keeps the weight norm and the centre of mass of EVERY factor** (what `impose_collapse` and
`impose_unweighted` document as "norm-preserving for weights, mean-preserving for samples").  For a factor `m`
of the loaded measure with non-negative weights of positive total, whose collapse groups are well formed (key in
range and not among its own members) and whose `noweight` selections leave at least one point: the factor `m'`
of the result has the same number of points, non-negative weights, the same total weight and the same centre of
mass - whatever the other factors are and however many items address it. -/
theorem impose_measure_kept (inf : K) (tr : List (Nat × List (Nat × List Nat))) (nw : List (Nat × List Nat))
    (c : PM K) (k : Nat) (m : Measure K) (hm : c[k]? = some m)
    (hnn : ∀ w ∈ mweights m, 0 ≤ w) (hpos : 0 < (mweights m).sum)
    (htr : ∀ kv ∈ tr, kv.1 = k → ∀ g ∈ kv.2, GroupOK m.length g)
    (hnw : ∀ kv ∈ nw, kv.1 = k → ∃ i, i < m.length ∧ i ∉ kv.2) :
    ∃ m', (imposeOn inf tr nw c)[k]? = some m' ∧ m'.length = m.length ∧
      (∀ w ∈ mweights m', 0 ≤ w) ∧ (mweights m').sum = (mweights m).sum ∧
      centerMass inf m' = centerMass inf m := by
  obtain ⟨m', h1, h2⟩ := imposeOn_kept inf tr nw c k m hm hnn hpos htr hnw
  exact ⟨m', h1, h2.len, h2.nonneg, h2.mass, h2.cm⟩

/-- **noweight: the selected weights are zero.**  With one `noweight` dict (distinct factor keys), for the item
`(k, indices)`: every selected in-range index of factor `k` has weight exactly 0 in the result (hypotheses on the
factor as in `impose_measure_kept`). -/
theorem impose_measure_noweight_zero (inf : K) (tr : List (Nat × List (Nat × List Nat)))
    (nw : List (Nat × List Nat)) (c : PM K) (hnd : (nw.map (·.1)).Nodup) (kv : Nat × List Nat) (hkv : kv ∈ nw)
    (m : Measure K) (hm : c[kv.1]? = some m) (hnn : ∀ w ∈ mweights m, 0 ≤ w) (hpos : 0 < (mweights m).sum)
    (htr : ∀ t ∈ tr, t.1 = kv.1 → ∀ g ∈ t.2, GroupOK m.length g)
    (hout : ∃ i, i < m.length ∧ i ∉ kv.2) :
    ∃ m', (imposeOn inf tr nw c)[kv.1]? = some m' ∧
      ∀ p ∈ kv.2, p < m.length → (mweights m')[p]? = some 0 := by
  obtain ⟨m', h1, -, h3⟩ := imposeOn_noweight_zero inf tr nw c hnd kv hkv m hm hnn hpos htr hout
  exact ⟨m', h1, h3⟩

/-- **tracking: the paired positions coincide (and the removed weight is zero).**  With one `tracking` dict
(distinct factor keys), for the item `(k, groups)` with well-formed, pairwise disjoint groups: every in-range
member `p` of a group with key `i` has, in the result, the position of `i` - also after any `noweight` items -
and, when no `noweight` item addresses factor `k`, weight exactly 0. -/
theorem impose_measure_collapsed (inf : K) (tr : List (Nat × List (Nat × List Nat)))
    (nw : List (Nat × List Nat)) (c : PM K) (hnd : (tr.map (·.1)).Nodup)
    (kv : Nat × List (Nat × List Nat)) (hkv : kv ∈ tr) (m : Measure K) (hm : c[kv.1]? = some m)
    (hok : ∀ g ∈ kv.2, GroupOK m.length g)
    (hdis : kv.2.Pairwise fun a b => ∀ p, inGroup a p → ¬ inGroup b p)
    (g : Nat × List Nat) (hg : g ∈ kv.2) (p : Nat) (hp : p ∈ g.2) (hpn : p < m.length) :
    ∃ m', (imposeOn inf tr nw c)[kv.1]? = some m' ∧
      (mpositions m')[p]? = (mpositions m')[g.1]? ∧
      ((∀ t ∈ nw, t.1 ≠ kv.1) → (mweights m')[p]? = some 0) := by
  obtain ⟨m', h1, -, h2⟩ := imposeOn_member_pos inf tr nw c hnd kv hkv m hm hok hdis g hg p (Or.inr hp) hpn
  refine ⟨m', h1, h2, fun hfree => ?_⟩
  -- no `noweight` item touches the factor
  rw [imposeOn_eq, applyOps_frame (unweightM inf) nw _ kv.1 hfree, applyOps_nodup (collapseM inf) tr c hnd kv hkv,
    hm] at h1
  obtain rfl : collapseM inf kv.2 m = m' := Option.some.inj h1
  exact (collapseM_member inf kv.2 m hok hdis g hg p hp hpn).2

end impose

/-! ## maximum / minimum / ptp / ess_*, measure-level expect / support,
`pof_value`, `mean_value`, product-level `center_mass`, `normalize` (Model/DiscreteExt.lean)

`product_measure.maximum(f)` is, in the code, `max([i.maximum(f) for i in self])`: `f` is applied to the 1-tuples
`(x,)` of every FACTOR's positions (not to the product positions) and the maximum over all factors is returned. -/

section stats
variable {K : Type} [Field K] [LinearOrder K] [IsStrictOrderedRing K]

/-- **measure.expect / expect_var** = the explicit weighted sums over the measure's points (as 1-tuples). -/
theorem measure_expect_def (inf : K) (m : Measure K) (f : List K → K) (hw : (mweights m).sum ≠ 0) :
    mExpect inf m f = ((List.zip (singles m) (mweights m)).map fun xw => xw.2 * f xw.1).sum / (mweights m).sum ∧
    mExpectVar inf m f = ((List.zip (singles m) (mweights m)).map fun xw =>
        xw.2 * ((f xw.1 - mExpect inf m f) * (f xw.1 - mExpect inf m f))).sum / (mweights m).sum :=
  ⟨expectation_eq inf f (singles m) (mweights m) (length_singles m) hw,
   expectedVariance_eq inf f (singles m) (mweights m) (length_singles m) hw⟩

/-- **measure.support / support_index**: the positions / indices with `weight > tol`, in order. -/
theorem measure_support_def (m : Measure K) (tol : K) :
    mSupport m tol = some (((List.zip (mpositions m) (mweights m)).filter fun xw => decide (tol < xw.2)).map (·.1))
    ∧ ∀ i, i ∈ mSupportIndex m tol ↔ ∃ w, (mweights m)[i]? = some w ∧ tol < w :=
  ⟨supportL_eq (mpositions m) (mweights m) tol (by simp), fun i => mem_supportIndexL (mweights m) tol i⟩

/-- **measure.maximum / minimum**: raise exactly on the empty measure; otherwise the greatest / least value of
`f((x,))` over the measure's positions, attained at one of them. -/
theorem measure_maximum_def (f : List K → K) (m : Measure K) : (mMaximum f m = none ↔ m = []) ∧
    ∀ v, mMaximum f m = some v → (∃ p ∈ m, f [p.position] = v) ∧ ∀ p ∈ m, f [p.position] ≤ v := by
  rw [mMaximum_eq]
  exact maximumL_spec _ m

theorem measure_minimum_def (f : List K → K) (m : Measure K) : (mMinimum f m = none ↔ m = []) ∧
    ∀ v, mMinimum f m = some v → (∃ p ∈ m, f [p.position] = v) ∧ ∀ p ∈ m, v ≤ f [p.position] := by
  rw [mMinimum_eq]
  exact minimumL_spec _ m

/-- **measure.ess_maximum / ess_minimum**: the same over the points with `weight > tol`; raise exactly when no
point has support. -/
theorem measure_ess_maximum_def (f : List K → K) (tol : K) (m : Measure K) :
    (mEssMaximum f tol m = none ↔ ∀ p ∈ m, ¬ tol < p.weight) ∧
    ∀ v, mEssMaximum f tol m = some v →
      (∃ p ∈ m, tol < p.weight ∧ f [p.position] = v) ∧ ∀ p ∈ m, tol < p.weight → f [p.position] ≤ v := by
  rw [mEssMaximum_eq]
  exact maximumL_filter_spec (fun p : PtMass K => f [p.position]) (fun p => tol < p.weight) m

theorem measure_ess_minimum_def (f : List K → K) (tol : K) (m : Measure K) :
    (mEssMinimum f tol m = none ↔ ∀ p ∈ m, ¬ tol < p.weight) ∧
    ∀ v, mEssMinimum f tol m = some v →
      (∃ p ∈ m, tol < p.weight ∧ f [p.position] = v) ∧ ∀ p ∈ m, tol < p.weight → v ≤ f [p.position] := by
  rw [mEssMinimum_eq]
  exact minimumL_filter_spec (fun p : PtMass K => f [p.position]) (fun p => tol < p.weight) m

/-- **measure.ptp / ess_ptp** = maximum − minimum (resp. over the support). -/
theorem measure_ptp_def (f : List K → K) (tol : K) (m : Measure K) :
    (mPtp f m = match mMaximum f m, mMinimum f m with
      | some a, some b => some (a - b)
      | _, _ => none) ∧
    (mEssPtp f tol m = match mEssMaximum f tol m, mEssMinimum f tol m with
      | some a, some b => some (a - b)
      | _, _ => none) := by
  refine ⟨rfl, ?_⟩
  simp only [mEssPtp, essPtpL, mEssMaximum, essMaximumL, mEssMinimum, essMinimumL, support_singles,
    Option.bind_some]
  rfl

/-- **product_measure.maximum**: raises exactly when there is no factor or an empty factor; otherwise the
greatest value of `f((x,))` over ALL positions of ALL factors, attained at one of them. -/
theorem maximum_def (f : List K → K) (c : PM K) :
    (pmMaximum f c = none ↔ c = [] ∨ [] ∈ c) ∧
    ∀ v, pmMaximum f c = some v →
      (∃ m ∈ c, ∃ p ∈ m, f [p.position] = v) ∧ ∀ m ∈ c, ∀ p ∈ m, f [p.position] ≤ v := by
  refine ⟨?_, max_of_maxes (mMaximum f) (fun m p => p ∈ m) (fun p => f [p.position]) ?_
    (fun m => (measure_maximum_def f m).2) c⟩
  · rw [pmMaximum, (bind_allSome_maxL _ c).1]
    -- a factor's maximum raises iff the factor is `[]`
    simp only [(measure_maximum_def f _).1, exists_eq_right]
  · intro m h p hp
    rw [(measure_maximum_def f m).1.mp h] at hp
    exact absurd hp List.not_mem_nil

/-- **product_measure.minimum** (dual). -/
theorem minimum_def (f : List K → K) (c : PM K) :
    (pmMinimum f c = none ↔ c = [] ∨ [] ∈ c) ∧
    ∀ v, pmMinimum f c = some v →
      (∃ m ∈ c, ∃ p ∈ m, f [p.position] = v) ∧ ∀ m ∈ c, ∀ p ∈ m, v ≤ f [p.position] := by
  refine ⟨?_, min_of_mins (mMinimum f) (fun m p => p ∈ m) (fun p => f [p.position]) ?_
    (fun m => (measure_minimum_def f m).2) c⟩
  · rw [pmMinimum, (bind_allSome_minL _ c).1]
    simp only [(measure_minimum_def f _).1, exists_eq_right]
  · intro m h p hp
    rw [(measure_minimum_def f m).1.mp h] at hp
    exact absurd hp List.not_mem_nil

/-- **product_measure.ess_maximum / ess_minimum**: over the supported points (`weight > tol`) of all factors;
raise exactly when there is no factor or a factor without support. -/
theorem ess_maximum_def (f : List K → K) (tol : K) (c : PM K) :
    (pmEssMaximum f tol c = none ↔ c = [] ∨ ∃ m ∈ c, ∀ p ∈ m, ¬ tol < p.weight) ∧
    ∀ v, pmEssMaximum f tol c = some v →
      (∃ m ∈ c, ∃ p ∈ m, tol < p.weight ∧ f [p.position] = v) ∧
      ∀ m ∈ c, ∀ p ∈ m, tol < p.weight → f [p.position] ≤ v := by
  refine ⟨?_, ?_⟩
  · rw [pmEssMaximum, (bind_allSome_maxL _ c).1]
    simp only [(measure_ess_maximum_def f tol _).1]
  · -- `S m p := p ∈ m ∧ tol < p.weight`; `and_assoc` / `and_imp` only re-bracket
    simpa only [pmEssMaximum, and_assoc, and_imp] using
      max_of_maxes (mEssMaximum f tol) (fun m p => p ∈ m ∧ tol < p.weight) (fun p => f [p.position])
        (fun m h p hp => (measure_ess_maximum_def f tol m).1.mp h p hp.1 hp.2)
        (fun m v h => by simpa only [and_assoc, and_imp] using (measure_ess_maximum_def f tol m).2 v h) c

theorem ess_minimum_def (f : List K → K) (tol : K) (c : PM K) :
    (pmEssMinimum f tol c = none ↔ c = [] ∨ ∃ m ∈ c, ∀ p ∈ m, ¬ tol < p.weight) ∧
    ∀ v, pmEssMinimum f tol c = some v →
      (∃ m ∈ c, ∃ p ∈ m, tol < p.weight ∧ f [p.position] = v) ∧
      ∀ m ∈ c, ∀ p ∈ m, tol < p.weight → v ≤ f [p.position] := by
  refine ⟨?_, ?_⟩
  · rw [pmEssMinimum, (bind_allSome_minL _ c).1]
    simp only [(measure_ess_minimum_def f tol _).1]
  · simpa only [pmEssMinimum, and_assoc, and_imp] using
      min_of_mins (mEssMinimum f tol) (fun m p => p ∈ m ∧ tol < p.weight) (fun p => f [p.position])
        (fun m h p hp => (measure_ess_minimum_def f tol m).1.mp h p hp.1 hp.2)
        (fun m v h => by simpa only [and_assoc, and_imp] using (measure_ess_minimum_def f tol m).2 v h) c

/-- **product_measure.ptp / ess_ptp**: the greatest per-factor spread (a factor's `ptp`, see `measure_ptp_def`),
attained by one factor. -/
theorem ptp_def (f : List K → K) (tol : K) (c : PM K) :
    (∀ v, pmPtp f c = some v → (∃ m ∈ c, mPtp f m = some v) ∧ ∀ m ∈ c, ∀ y, mPtp f m = some y → y ≤ v) ∧
    (∀ v, pmEssPtp f tol c = some v →
      (∃ m ∈ c, mEssPtp f tol m = some v) ∧ ∀ m ∈ c, ∀ y, mEssPtp f tol m = some y → y ≤ v) :=
  ⟨(bind_allSome_maxL (mPtp f) c).2, (bind_allSome_maxL (mEssPtp f tol) c).2⟩

/-- **scenario.pof_value**: the total weight of the (value, weight) pairs with `f(value) ≤ 0`
(`zip(values, weights)`: the shorter list decides). -/
theorem pof_value_def (s : Scen K) (f : K → K) :
    pofValue s f = (((List.zip s.values (weights s.pm)).filter fun vw => decide (f vw.1 ≤ 0)).map (·.2)).sum :=
  (foldl_add_if (fun vw : K × K => f vw.1 ≤ 0) (·.2) _ 0).trans (zero_add _)

/-- **scenario.mean_value / set_mean_value**: the weighted mean of the values over the product weights; setting
it achieves the target (one value per product point, total weight non-zero) and leaves the measures alone. -/
theorem mean_value_def (inf : K) (s : Scen K) (hw : (weights s.pm).sum ≠ 0) :
    meanValue inf s = (List.zipWith (· * ·) s.values (weights s.pm)).sum / (weights s.pm).sum :=
  mean_eq inf s.values (weights s.pm) hw

theorem set_mean_value (inf : K) (s : Scen K) (v : K) (hl : s.values.length = npts s.pm)
    (hw : (weights s.pm).sum ≠ 0) :
    meanValue inf (setMeanValue inf s v) = v ∧ (setMeanValue inf s v).pm = s.pm ∧
      (setMeanValue inf s v).values.length = s.values.length := by
  refine ⟨?_, rfl, by simp [setMeanValue, imposeMean]⟩
  unfold meanValue setMeanValue
  exact mean_imposeMean inf v s.values (weights s.pm) (by rw [hl, weights_length]) hw

/-- **product_measure.center_mass = v**: raises exactly when `v` has fewer entries than there are factors;
otherwise every factor's centre of mass becomes its entry (non-zero factor masses), weights untouched. -/
theorem set_center_masses (inf : K) (c : PM K) (vs : List K) :
    (vs.length < c.length → pmSetCenterMass inf c vs = none) ∧
    (c.length ≤ vs.length → (∀ m ∈ c, (mweights m).sum ≠ 0) →
      ∃ c', pmSetCenterMass inf c vs = some c' ∧ pmCenterMass inf c' = vs.take c.length ∧ wts c' = wts c) := by
  induction c generalizing vs with
  | nil => exact ⟨fun h => absurd h (Nat.not_lt_zero _), fun _ _ => ⟨[], rfl, rfl, rfl⟩⟩
  | cons m c ih =>
    cases vs with
    | nil => exact ⟨fun _ => rfl, fun h => absurd h (Nat.not_succ_le_zero _)⟩
    | cons v vs =>
      refine ⟨fun h => congrArg (Option.map (setCenterMass inf m v :: ·)) ((ih vs).1 (Nat.lt_of_succ_lt_succ h)),
        fun h hw => ?_⟩
      obtain ⟨c', h1, h2, h3⟩ := (ih vs).2 (Nat.le_of_succ_le_succ h) fun m' hm' => hw m' (List.mem_cons_of_mem _ hm')
      obtain ⟨s1, s2⟩ := setCenterMass_spec inf m v (hw m List.mem_cons_self)
      exact ⟨setCenterMass inf m v :: c', congrArg (Option.map (setCenterMass inf m v :: ·)) h1,
        congrArg₂ List.cons s1 h2, congrArg₂ List.cons s2 h3⟩

/-- **measure.normalize()**: non-negative weights of positive total get total weight 1; the number of points
and the centre of mass are kept. -/
theorem measure_normalize (inf : K) (m : Measure K) (hnn : ∀ w ∈ mweights m, 0 ≤ w)
    (hpos : 0 < (mweights m).sum) :
    (mNormalize inf m).length = m.length ∧ (mweights (mNormalize inf m)).sum = 1 ∧
      centerMass inf (mNormalize inf m) = centerMass inf m := by
  obtain ⟨h1, _⟩ := normalizeMass_sum 1 (mweights m) hnn hpos
  have hlw := (length_mpositions_eq m).trans (normalizeMass_length 1 (mweights m)).symm
  have hl := (imposeMean_length inf (mean inf (mpositions m) (mweights m)) (mpositions m)
    (normalizeMass 1 (mweights m))).trans hlw
  simp only [mNormalize, centerMass, mweights_rebuild _ _ hl, mpositions_rebuild _ _ hl, length_rebuild _ _ hl,
    imposeMean_length]
  exact ⟨length_mpositions m, h1, mean_imposeMean inf _ _ _ hlw (by rw [h1]; exact one_ne_zero)⟩

end stats

/-! ## non-vacuity: concrete, non-trivial instances -/

/-- a 3x2x1 product measure over `Nat` payloads -/
def exC : PM Nat := [[⟨1, 10⟩, ⟨2, 20⟩, ⟨3, 30⟩], [⟨4, 40⟩, ⟨5, 50⟩], [⟨6, 60⟩]]

example : flatten exC = [1, 2, 3, 10, 20, 30, 4, 5, 40, 50, 6, 60] ∧ pts exC = [3, 2, 1] := by decide +kernel
example : unflatten (flatten exC) (pts exC) = some exC := by decide +kernel
example : load [[⟨7, 70⟩]] (flatten exC ++ [99, 98]) (pts exC) = some ([[⟨7, 70⟩]] ++ exC) := by decide +kernel
example : positions exC = [[10, 40, 60], [20, 40, 60], [30, 40, 60], [10, 50, 60], [20, 50, 60], [30, 50, 60]] := by
  decide +kernel
example : update exC [9, 9, 9, 1, 1, 1, 8, 8, 2, 2, 7, 3, 55] =
    some [[⟨9, 1⟩, ⟨9, 1⟩, ⟨9, 1⟩], [⟨8, 2⟩, ⟨8, 2⟩], [⟨7, 3⟩]] := by decide +kernel
example : supdate ⟨exC, [0, 0, 0, 0, 0, 0]⟩ ([9, 9, 9, 1, 1, 1, 8, 8, 2, 2, 7, 3] ++ [55, 56]) =
    some ⟨[[⟨9, 1⟩, ⟨9, 1⟩, ⟨9, 1⟩], [⟨8, 2⟩, ⟨8, 2⟩], [⟨7, 3⟩]], [55, 56, 0, 0, 0, 0]⟩ := by decide +kernel
example : decompose exC = ([[10, 20, 30], [40, 50], [60]], [[1, 2, 3], [4, 5], [6]]) := by decide +kernel
example : (∀ m ∈ exC, m ≠ []) ∧ exC ≠ [] := by decide +kernel

/-- numeric clauses: a 2x2 product measure over `ℚ` with a zero weight (hypotheses of `expect_def`,
`expect_var_def`, `mass_prod` are met and the statistics take non-trivial values) -/
def exQ : PM ℚ := [[⟨1/2, 1⟩, ⟨1/2, 3⟩], [⟨1, 2⟩, ⟨0, 5⟩]]
theorem exQ_weights : weights exQ = [1/2, 1/2, 0, 0] := by decide +kernel
example : (weights exQ).sum ≠ 0 := by decide +kernel
example : positions exQ = [[1, 2], [3, 2], [1, 5], [3, 5]] := by decide +kernel
example : expect 0 exQ (fun x => x.headD 0) = 2 := by decide +kernel

/-- hypotheses of the setter theorems: non-zero mass, spread 2, variance 1, and a `sqrt` for `v = 4` -/
def exM : Measure ℚ := [⟨1, 0⟩, ⟨1, 2⟩]
example : (mweights exM).sum ≠ 0 := by decide +kernel
example : range exM = some 2 := by decide +kernel
theorem exM_var : variance 0 exM = 1 := by decide +kernel
example : variance 0 exM ≠ 0 ∧
    (fun _ : ℚ => (2 : ℚ)) (4 / variance 0 exM) * (fun _ : ℚ => (2 : ℚ)) (4 / variance 0 exM)
      = 4 / variance 0 exM := by decide +kernel

/-- `impose_measure`: the docstring's first factor (`tracking = {0: {(0,1)}}`, npts (3,)) and a run with both
kinds of items; the hypotheses of the impose theorems hold for them -/
example : imposeMeasure (0 : ℚ) [3] [(0, [(0, [1])])] [] [1/2, 0, 1/2, 2, 4, 6] = some [1/2, 0, 1/2, 2, 2, 6] := by
  decide +kernel
example : imposeMeasure (0 : ℚ) [3] [(0, [(0, [1])])] [(0, [2])] [1/4, 1/4, 1/2, 2, 4, 6]
    = some [1, 0, 0, 9/2, 9/2, 17/2] := by
  decide +kernel
example : GroupOK 3 (0, [1]) ∧ (∃ i, i < 3 ∧ i ∉ [2]) ∧ ([(0, [(0, [1])])].map (·.1)).Nodup ∧
    [((0 : Nat), [1])].Pairwise (fun a b => ∀ p, inGroup a p → ¬ inGroup b p) :=
  ⟨⟨by decide, by decide⟩, ⟨0, by decide, by decide⟩, by decide, List.pairwise_singleton _ _⟩

/-- update for every prefix length on the 3x2x1 example: 7 parameters cover factor 0 completely and reach one
position into factor 1 (cut k = 2, factor 2 untouched); 6 parameters stop at the cut k = 1 -/
example : update exC [9, 8, 7, 1, 2, 3, 5] = some [[⟨9, 1⟩, ⟨8, 2⟩, ⟨7, 3⟩], [⟨4, 40⟩, ⟨5, 50⟩], [⟨6, 60⟩]] := by
  decide +kernel
example : update exC [9, 8, 7, 1, 2, 3, 5, 6, 41] = some [[⟨9, 1⟩, ⟨8, 2⟩, ⟨7, 3⟩], [⟨5, 41⟩], [⟨6, 60⟩]] := by
  decide +kernel
/-- an empty factor at the end loses nothing; in front it makes the last factor keep its old numbers -/
example : update ([[⟨1, 10⟩], []] : PM Nat) [5, 7] = some [[⟨5, 7⟩], []] := by decide +kernel

/-- the statistics family on concrete measures: maximum over ALL factors' positions, ess_* with a zero weight,
a raising case, pof_value -/
example : pmMaximum (fun x : List ℚ => x.headD 0) exQ = some 5 ∧ pmMinimum (fun x : List ℚ => x.headD 0) exQ = some 1 := by
  decide +kernel
example : pmEssMaximum (fun x : List ℚ => x.headD 0) 0 exQ = some 3 := by decide +kernel
example : pmMaximum (fun x : List ℚ => x.headD 0) ([[⟨1, 2⟩], []] : PM ℚ) = none := by decide +kernel
example : pofValue (⟨exQ, [-1, 2, -3, 4]⟩ : Scen ℚ) (fun v => v) = 1/2 := by decide +kernel

/-! ## shared objects (Model/DiscreteHeap): `update` / `load` on a collection whose factor objects are shared

python's containers hold OBJECTS: `product_measure([m]*2 + [n])` uses one measure object for two factors,
`product_measure(c)`, `c[:]`, `copy.copy(c)` hold the factor objects of `c`.  On the object graph (`Heap`: cells,
measure objects, collection objects) with ARBITRARY sharing: -/

section heap
open MysticVerif.DiscreteHeap

/-- **update, addressed collection (any sharing).** Whatever objects the collection shares with itself or with other
collections, what python shows for it after `update(params)` is exactly the value-level `update` of what it showed
before (and it raises exactly when that raises): so `update_spec` / `update_every_prefix` / `update_any_shape` hold for
the addressed collection object; in particular, under the hypotheses of `update_spec`, `update(p).flatten()` is
`p[:2*sum(pts)]`. -/
theorem heap_update_obs (h : Heap α) (hw : WF h) (cid : Nat) (hc : cid < h.colls.length) (params : List α) :
    (hUpdate h cid params).map (fun h' => obsC h' cid) = update (obsC h cid) params := by
  unfold hUpdate update
  cases hu : unflatten (truncParams params (pts (obsC h cid))) (pts (obsC h cid)) with
  | none => rfl
  | some pm =>
    obtain ⟨he, _, ho, _⟩ := allocPM_spec pm hw
    have hc' : cid < (allocPM h pm).1.colls.length := by rw [he.2.2.1]; exact hc
    simp only [Option.map_some]
    rw [obsC_setColl_same hc', List.map_append, List.map_take, ho, List.map_drop, map_obsM_ext hw he cid]
    simp only [obsC, List.length_map]

/-- **update, frame (any sharing).** `update` on one collection object changes nothing that python shows for ANY other
collection object (also one built over the very same factor objects), for their values, or for any existing measure
object: it only allocates new objects and rebinds the entries of the addressed list. -/
theorem heap_update_frame (h h' : Heap α) (hw : WF h) (cid : Nat) (params : List α)
    (hu : hUpdate h cid params = some h') :
    (∀ cid', cid' ≠ cid → obsC h' cid' = obsC h cid') ∧ h'.vals = h.vals ∧
      (∀ mid, mid < h.meas.length → obsM h' mid = obsM h mid) := by
  obtain ⟨pm, _, rfl⟩ := Option.map_eq_some_iff.mp hu
  exact rebind_frame hw pm cid _

/-- **load, addressed collection (any sharing).** What python shows for the collection after `load(params, pts)` is
the value-level `load` of what it showed before: the factors already present keep their numbers, the new ones are
appended. -/
theorem heap_load_obs (h : Heap α) (hw : WF h) (cid : Nat) (hc : cid < h.colls.length) (params : List α) (p : List Nat) :
    (hLoad h cid params p).map (fun h' => obsC h' cid) = load (obsC h cid) params p := by
  unfold hLoad load
  cases hu : unflatten (truncParams params p) p with
  | none => rfl
  | some pm =>
    obtain ⟨he, _, ho, _⟩ := allocPM_spec pm hw
    have hc' : cid < (allocPM h pm).1.colls.length := by rw [he.2.2.1]; exact hc
    simp only [Option.map_some]
    rw [obsC_setColl_same hc', List.map_append, ho, map_obsM_ext hw he cid]

/-- **load, frame (any sharing).** `load` changes nothing that python shows for any other collection, for the values,
or for any existing measure object. -/
theorem heap_load_frame (h h' : Heap α) (hw : WF h) (cid : Nat) (params : List α) (p : List Nat)
    (hu : hLoad h cid params p = some h') :
    (∀ cid', cid' ≠ cid → obsC h' cid' = obsC h cid') ∧ h'.vals = h.vals ∧
      (∀ mid, mid < h.meas.length → obsM h' mid = obsM h mid) := by
  obtain ⟨pm, _, rfl⟩ := Option.map_eq_some_iff.mp hu
  exact rebind_frame hw pm cid _

/-- `product_measure([m, m])` (one two-point measure object used for both factors) and a second collection over the
same object: after `update` with four different blocks the first collection shows the four blocks, the second
collection and the measure object `m` show the old numbers -/
def exHeap : Heap Nat :=
  { cells := [⟨1, 10⟩, ⟨2, 20⟩], meas := [[0, 1]], colls := [[0, 0], [0]], vals := [[], []], scen := [false, false] }

example : WF exHeap := ⟨by decide, by decide⟩

example : (hUpdate exHeap 0 [3, 4, 30, 40, 5, 6, 50, 60]).map (fun h' => (obsC h' 0, obsC h' 1, obsM h' 0)) =
    some ([[⟨3, 30⟩, ⟨4, 40⟩], [⟨5, 50⟩, ⟨6, 60⟩]], [[⟨1, 10⟩, ⟨2, 20⟩]], [⟨1, 10⟩, ⟨2, 20⟩]) := by decide +kernel

end heap

end MysticVerif.C19
