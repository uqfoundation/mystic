/-
C07 - results depend only on configuration and seed, not on call order or schedule.

Models: Model/Config.lean (the configuration record of abstract_solver.py, one function per `Set*`, the
footprint table `writes / reads / fin`, and the deferred decoration `bootstrap` = what the next `Step` does to a
re-configured solver), Model/Schedule.lean (DE2 with an arbitrary evaluation order of the map, mutable work items
and objectives that write to their argument, a run as a function of the configuration, ensemble member schedules),
on top of Model/Solver.lean.

All statements are for ALL configurations, argument values, random streams `u`, cost / penalty / constraints
functions, trial vectors (strategies), populations, numbers of generations, evaluation orders and schedules.

Not proved here (runtime, tied by the correspondence only): real thread / process interleavings inside ONE cost
evaluation (an evaluation is atomic in the model), pickling of solvers through a process map.
-/
import MysticVerif.Proofs.Config
import MysticVerif.Proofs.Schedule

namespace MysticVerif.C07
open MysticVerif.Solver MysticVerif.Config MysticVerif.Sched

variable {R : Type} [Add R] [Sub R] [Mul R] [Neg R] [OfNat R 0] [OfNat R 1] [BEq R] [LT R] [DecidableLT R]
variable {X E : Type}

/-! ## configuration calls -/

/-- **Independent `Set*` calls commute.**  `Independent` is computed from the footprint table alone (own writes
disjoint from what the other call reads or writes; the shared trailing `Finalize` - reached from SetReducer,
SetPenalty, SetConstraints (not on the DE solvers), SetStrictRanges and SetEvaluationMonitor - only conflicts with
calls that touch what `Finalize` touches: `_live`, and on a live Powell solver the step monitor, the history
override and the save settings).
Both orders give the same configuration - including the population and the position in the random stream - and
whether either call raises does not depend on the other. -/
theorem setters_commute (u : Nat → R) (s : Cfg R) (a b : Op R) (h : Independent s.pl s.kind a b = true) :
    (apply u (apply u s a).1 b).1 = (apply u (apply u s b).1 a).1 ∧
    (apply u (apply u s a).1 b).2 = (apply u s b).2 ∧ (apply u (apply u s b).1 a).2 = (apply u s a).2 :=
  apply_comm u s a b h

/-- **Any permutation of pairwise independent configuration calls yields the same configuration** (every
attribute, the population and the state of the random source included), by induction over `List.Perm`. -/
theorem config_perm (u : Nat → R) (s : Cfg R) (l l' : List (Op R)) (hp : l.Perm l')
    (hi : l.Pairwise (fun a b => Independent s.pl s.kind a b = true)) :
    cfgAfter u s l = cfgAfter u s l' ∧ rngConsumed u s l = rngConsumed u s l' := by
  have h := cfgAfter_perm u s.pl s.kind hp s ⟨rfl, fun h => h⟩ hi
  exact ⟨h, by unfold rngConsumed; rw [h]⟩

/-- in a pairwise independent configuration phase a call raises exactly when it would have raised as the first
call: no setter can make another one fail, in any order -/
theorem config_raises (u : Nat → R) (s : Cfg R) (l : List (Op R))
    (hi : l.Pairwise (fun a b => Independent s.pl s.kind a b = true)) :
    raisedAfter u s l = l.map (fun op => (apply u s op).2) :=
  raisedAfter_eq u s.pl s.kind l s ⟨rfl, fun h => h⟩ hi

/-- **only `SetInitialPoints` / `SetRandomInitialPoints` consume random numbers**: a configuration phase without
them (in any order, independent or not) consumes none and leaves the population alone -/
theorem config_no_rng (u : Nat → R) (s : Cfg R) (l : List (Op R)) (h : ∀ op ∈ l, consumesRng op = false) :
    rngConsumed u s l = 0 ∧ (cfgAfter u s l).pop = s.pop := by
  have := cfgAfter_pop u l s h
  exact ⟨by unfold rngConsumed; rw [this]; exact Nat.sub_self _, this⟩

/-- a random-number consumer draws exactly `nPop * nDim` numbers and is independent of every other setter
(`SetStrictRanges` included: `SetInitialPoints` does not look at the ranges) -/
theorem rng_consumer_amount (u : Nat → R) (s : Cfg R) (mn mx : Option (List R))
    (hb : blocked s.kind (Op.setRandomInitialPoints mn mx) = false)
    (hr : randomRaise s.nDim s.dmin s.dmax mn mx = false) :
    (apply u s (.setRandomInitialPoints mn mx)).1.pop.rngPos = s.pop.rngPos + s.pop.population.length * s.nDim := by
  rw [apply_unblocked u s s.kind rfl _ hb]
  show (newPopRandom u s.nDim s.dmin s.dmax s.pop mn mx).rngPos = _
  rw [newPopRandom_eq u s.nDim s.dmin s.dmax s.pop mn mx hr]

/-! ### re-configuration of a LIVE solver: `Set*` = record + `Finalize`, decoration deferred to the next `Step` -/

/-- **A `Set*` call never decorates the objective and never touches the random source** (the two
initial-points methods aside), on a live solver as on any other: the number of executions of
`_decorate_objective` is unchanged, the population and the position in the random stream are unchanged, and a
finalising call that does not raise leaves the solver not live - which is what makes the NEXT `Step` re-decorate
(`_bootstrap_objective`).  `_update_objective` is `Finalize()`, not "trigger immediately". -/
theorem setter_defers_decoration (u : Nat → R) (s : Cfg R) (op : Op R) :
    (apply u s op).1.ndec = s.ndec ∧
    (consumesRng op = false → (apply u s op).1.pop = s.pop) ∧
    (blocked s.kind op = false → fin s.kind op = true → (apply u s op).2 = false → (apply u s op).1.live = false) ∧
    ((apply u s op).1.live = true → s.live = true) :=
  ⟨ndec_of_static (apply_static u s op), apply_pop u s op, apply_fin_live u s op, apply_live u s op⟩

/-- **However many `Set*` calls are made between two iterations, in whatever order, the next `Step` decorates at
most once** - and exactly once as soon as one of the calls finalised; the block itself decorates never and (without
initial-points calls) draws no random number and leaves the population alone. -/
theorem live_reconfig_decorates_once (u : Nat → R) (s : Cfg R) (l : List (Op R)) (c : Nat) :
    (cfgAfter u s l).ndec = s.ndec ∧
    (bootstrap u (cfgAfter u s l) c).ndec ≤ s.ndec + 1 ∧
    ((∀ op ∈ l, consumesRng op = false) → (cfgAfter u s l).pop = s.pop) ∧
    (∀ (l1 l2 : List (Op R)) (op : Op R), l = l1 ++ op :: l2 → blocked s.kind op = false → fin s.kind op = true →
      (apply u (cfgAfter u s l1) op).2 = false → (bootstrap u (cfgAfter u s l) c).ndec = s.ndec + 1) := by
  have hn : (cfgAfter u s l).ndec = s.ndec := ndec_of_static (cfgAfter_static u l s)
  refine ⟨hn, ?_, cfgAfter_pop u l s, ?_⟩
  · rw [bootstrap_ndec, hn]
    split
    · exact Nat.le_succ _
    · exact Nat.le_refl _
  · intro l1 l2 op hl hb hf hr
    subst hl
    have hk : (cfgAfter u s l1).kind = s.kind := kind_of_static (cfgAfter_static u l1 s)
    have h1 := apply_fin_live u _ op (by rw [hk]; exact hb) (by rw [hk]; exact hf) hr
    -- no later call makes the solver live again
    have h2 : (cfgAfter u s (l1 ++ op :: l2)).live = false := by
      rw [cfgAfter, List.foldl_append]
      exact Bool.eq_false_iff.mpr fun h => Bool.false_ne_true (h1 ▸ cfgAfter_live u l2 _ h)
    rw [bootstrap_ndec, hn, h2, Bool.and_false, if_neg Bool.false_ne_true]

/-- **Permuted re-configuration of a live solver**: the solver (live or not, after any number of iterations) is
re-configured by pairwise independent `Set*` calls in two different orders; the state in which the next `Step`
starts iterating - after its one deferred decoration, which under strict ranges clips the population and draws
random numbers - is the same: every attribute, the population, the position in the random stream. -/
theorem live_reconfig_perm (u : Nat → R) (s : Cfg R) (l l' : List (Op R)) (c : Nat) (hp : l.Perm l')
    (hi : l.Pairwise (fun a b => Independent s.pl s.kind a b = true)) :
    bootstrap u (cfgAfter u s l) c = bootstrap u (cfgAfter u s l') c := by
  rw [(config_perm u s l l' hp hi).1]

/-! ### the table is tight where the code is order dependent (witnesses over `Int`) -/

/-- a fresh 2-dimensional solver of the given kind, with a 3-member population -/
def ex (k : Kind) (live : Bool) : Cfg Int :=
  { kind := k, nDim := 2, dmin := [-1000, -1000], dmax := [1000, 1000], best := 77, fcalls := 5, bestIdx := 0,
    reducer := none, penalty := none, constraints := none, term := {}, stepmon := { id := 0, null := false, recs := [10, 11] },
    evalmon := nullMon, hist := {}, ranges := {}, limits := {}, cost := {}, live := live, save := {}, mapc := {},
    sigint := false, pop := { population := [[0, 0], [0, 0], [0, 0]], rngPos := 0 } }

def exU : Nat → Int := fun n => n

/-- `SetEvaluationLimits(new=True)` reads the counters: it does not commute with `SetGenerationMonitor` -/
theorem limits_new_vs_monitor_witness :
    let a : Op Int := .setEvaluationLimits (some 3) none true
    let b : Op Int := .setGenerationMonitor (some { id := 4, null := false, recs := [1, 2, 3] }) false
    Independent false .abstract a b = false ∧
    (cfgAfter exU (ex .abstract false) [a, b]).limits ≠ (cfgAfter exU (ex .abstract false) [b, a]).limits := by
  decide +kernel

/-- on a LIVE Powell solver `Finalize` appends a step record, so a finalising setter does not commute with
`SetGenerationMonitor` (nor with `SetEvaluationLimits(new=True)`); on every other solver it does -/
theorem powell_finalize_witness :
    let a : Op Int := .setPenalty (some 1)
    let b : Op Int := .setGenerationMonitor (some { id := 4, null := false, recs := [1] }) false
    Independent true .powell a b = false ∧ Independent false .powell a b = true ∧
    (cfgAfter exU (ex .powell true) [a, b]).stepmon ≠ (cfgAfter exU (ex .powell true) [b, a]).stepmon ∧
    cfgAfter exU (ex .powell false) [a, b] = cfgAfter exU (ex .powell false) [b, a] := by
  refine ⟨by decide +kernel, by decide +kernel, by decide +kernel, ?_⟩
  exact (config_perm exU (ex .powell false) _ _ (List.Perm.swap _ _ _) (by decide +kernel)).1

/-- two random-number consumers do not commute -/
theorem two_rng_consumers_witness :
    let a : Op Int := .setRandomInitialPoints (some [0, 0]) (some [1, 1])
    let b : Op Int := .setInitialPoints [5, 7] 1
    Independent false .abstract a b = false ∧
    (cfgAfter exU (ex .abstract false) [a, b]).pop.population ≠ (cfgAfter exU (ex .abstract false) [b, a]).pop.population := by
  decide +kernel

/-- a LIVE differential-evolution solver after two generations (cost stored and decorated), three members -/
def exLive : Cfg Int :=
  { ex .de true with stepmon := { id := 0, null := false, recs := [10, 11, 12] }, cost := { raw := some 1, decorated := true },
                     pop := { population := [[0, 0], [7, 2], [3, 9]], rngPos := 0 }, bestIdx := 1, ndec := 1 }

/-- the same solver with strict ranges `[0, 10]^2` already in force -/
def exLiveBoxed : Cfg Int :=
  { exLive with ranges := { useStrict := true, smin := [0, 0], smax := [10, 10] } }

/-- **why the decoration is deferred**: `SetStrictRanges` and `SetPenalty` are independent and commute on a live
solver (no random number drawn, population untouched, ONE decoration at the next `Step`); had `_update_objective`
decorated at once ("trigger immediately", the dormant branch) the two orders would leave the random source at
different positions and different populations - the trajectory would depend on the order of the `Set*` calls -/
theorem eager_decoration_witness :
    let a : Op Int := .setStrictRanges false (some [1, 1]) (some [5, 5]) none none
    let b : Op Int := .setPenalty (some 2)
    Independent exLive.pl exLive.kind a b = true ∧
    cfgAfter exU exLive [a, b] = cfgAfter exU exLive [b, a] ∧
    rngConsumed exU exLive [a, b] = 0 ∧ (cfgAfter exU exLive [a, b]).ndec = 1 ∧
    (bootstrap exU (cfgAfter exU exLive [a, b]) 1).ndec = 2 ∧
    (bootstrap exU (cfgAfter exU exLive [a, b]) 1).pop.rngPos = 2 ∧
    ((applyEager exU (applyEager exU exLive a).1 b).1.pop.rngPos = 4 ∧
     (applyEager exU (applyEager exU exLive b).1 a).1.pop.rngPos = 2) ∧
    -- with strict ranges already in force the two orders draw equally often, but clip with different draws
    (applyEager exU (applyEager exU exLiveBoxed a).1 b).1.pop.population ≠
      (applyEager exU (applyEager exU exLiveBoxed b).1 a).1.pop.population ∧
    cfgAfter exU exLiveBoxed [a, b] = cfgAfter exU exLiveBoxed [b, a] := by
  refine ⟨by decide +kernel, ?_, by decide +kernel, by decide +kernel, by decide +kernel, by decide +kernel, by decide +kernel, by decide +kernel, ?_⟩
  · exact (config_perm exU exLive _ _ (List.Perm.swap _ _ _) (by decide +kernel)).1
  · exact (config_perm exU exLiveBoxed _ _ (List.Perm.swap _ _ _) (by decide +kernel)).1

example : (bootstrap exU (cfgAfter exU exLive
      [.setStrictRanges false (some [1, 1]) (some [5, 5]) none none, .setPenalty (some 2)]) 1).pop.population
    = [[1, 1], [5, 2], [3, 5]] := by decide +kernel

/-- non-vacuity: the usual configuration phase - ranges, constraints, penalty, limits, termination, both monitors,
reducer, initial points, mapper - is pairwise independent on each kind of solver (so `config_perm` applies to all
its 3628800 orders), and it really changes the configuration and consumes random numbers -/
def exPhase : List (Op Int) :=
  [.setStrictRanges false (some [0, 0]) (some [4, 4]) (some true) none, .setConstraints (some 1), .setPenalty (some 2),
   .setEvaluationLimits (some 10) (some 100) false, .setTermination (some 3) false,
   .setEvaluationMonitor (some { id := 5, null := false, recs := [] }) false,
   .setGenerationMonitor (some { id := 6, null := false, recs := [] }) false, .setReducer (some 7) false,
   .setInitialPoints [1, 2] 1, .setMapper 8 0]

example : PairwiseIndependent false .abstract exPhase = true ∧ PairwiseIndependent false .de exPhase = true ∧
    PairwiseIndependent false .powell exPhase = true := by decide +kernel

example : rngConsumed exU (ex .de false) exPhase = 6 ∧ (cfgAfter exU (ex .de false) exPhase).ranges.useStrict = true ∧
    (cfgAfter exU (ex .de false) exPhase).pop.population = [[1, 2], [5, 14], [11, 24]] := by decide +kernel

/-! ## the map of DifferentialEvolutionSolver2 -/

/-- **DE2 is independent of the order in which the map evaluates its work items.**  For every permutation `π` of
the positions: population, energies, best solution, best energy and step record after the step are those of the
in-order map, and the evaluation monitor holds the same entries (hence the same count) in a possibly different
order. -/
theorem de2_map_independent [LT E] [DecidableLT E] (o : Obj X E) (π : List Nat) (trials : List X) (s : DE X E)
    (hπ : π.Perm (List.range trials.length)) :
    obs (step2With o π trials s) = obs (DE.step2 o trials s) ∧
    (step2With o π trials s).log.Perm (DE.step2 o trials s).log ∧
    (step2With o π trials s).log.length = (DE.step2 o trials s).log.length := by
  have h := step2With_sim o π (List.range trials.length) trials s s hπ (List.Perm.refl _) ⟨rfl, List.Perm.refl _⟩
  rw [step2With_range] at h
  exact ⟨h.1, h.2, h.2.length_eq⟩

/-- the in-order map is `python_map`: the model of Model/Solver.lean (tied to the real solver by C01's replays) -/
theorem de2_inorder_is_step2 [LT E] [DecidableLT E] (o : Obj X E) (trials : List X) (s : DE X E) :
    step2With o (List.range trials.length) trials s = DE.step2 o trials s :=
  step2With_range o trials s

/-- and therefore equal to the sequential DifferentialEvolutionSolver on everything observable -/
theorem de2_any_order_eq_de1 [LinearOrder E] (o : Obj X E) (π : List Nat) (trials : List X) (s : DE X E)
    (hπ : π.Perm (List.range trials.length)) :
    obs (step2With o π trials s) = obs (DE.step1 o trials s) := by
  rw [(de2_map_independent o π trials s hπ).1, DE.step2_eq_step1]

/-- **whole runs**: any number of generations, each evaluated in its own order, the trial vectors produced by any
strategy from the current population / energies / best and that generation's random draws. Two runs that start
from states with the same observable part (logs equal up to order) and use the same draws agree on everything
observable after every generation, whatever the evaluation orders. -/
theorem de2_run_map_independent [LT E] [DecidableLT E] {D : Type} (o : Obj X E)
    (strat : List X → List E → X → D → List X) (n : Nat)
    (hlen : ∀ pop popE best d, (strat pop popE best d).length = n) :
    ∀ (gens : List (D × List Nat)) (orders' : List (List Nat)) (s s' : DE X E),
      obs s = obs s' → s.log.Perm s'.log → (∀ g ∈ gens, g.2.Perm (List.range n)) →
      orders'.length = gens.length → (∀ π ∈ orders', π.Perm (List.range n)) →
      obs (run2With o strat gens s) = obs (run2With o strat ((gens.map Prod.fst).zip orders') s') ∧
      (run2With o strat gens s).log.Perm (run2With o strat ((gens.map Prod.fst).zip orders') s').log := by
  intro gens orders' s s' ho hl hg hlen' ho'
  refine run2With_sim o strat n hlen gens _ s s' ?_ hg (fun g hm => ho' g.2 (List.of_mem_zip hm).2) ⟨ho, hl⟩
  rw [List.map_fst_zip (by rw [List.length_map, hlen'])]

/-! ### objectives that write to their argument, maps that hand out copies -/

/-- **The stored population never depends on what the evaluator does to its argument, nor on whether the map hands
the worker the trial vector itself or a copy of it.**  The user's cost and penalty are arbitrary PROCEDURES on a
mutable vector (value + the contents they leave behind: abs-fold, sort, clamp, ...); `sh i` says whether work item
`i` reaches the worker as the object itself (in-process map) or as a copy (forked process, pickling, deep copy).
Because `wrap_penalty` evaluates on `_x = x[:]`, the DE2 step on mutable work items is the step of `step2With` on
the objective record of the procedures - for every sharing discipline and evaluation order - hence (with
`de2_map_independent`) population, energies, best and step record are those of the in-order in-process map, and
the evaluated points are the same up to order. -/
theorem de2_evaluator_effect_free [LT E] [DecidableLT E] (K : X → X) (inBox : X → Bool) (useRange : Bool) (top : E)
    (add : E → E → E) (cost pen : Proc X E) (sh sh' : Nat → Bool) (π π' : List Nat) (trials : List X) (s : DE X E)
    (hπ : π.Perm (List.range trials.length)) (hπ' : π'.Perm (List.range trials.length)) :
    step2Proc K inBox useRange top add cost pen sh π trials s =
      step2With (objOfProcs K inBox useRange top add cost pen) π trials s ∧
    obs (step2Proc K inBox useRange top add cost pen sh π trials s) =
      obs (step2Proc K inBox useRange top add cost pen sh' π' trials s) ∧
    obs (step2Proc K inBox useRange top add cost pen sh π trials s) =
      obs (DE.step2 (objOfProcs K inBox useRange top add cost pen) trials s) ∧
    (step2Proc K inBox useRange top add cost pen sh π trials s).log.Perm
      (step2Proc K inBox useRange top add cost pen sh' π' trials s).log := by
  have h1 := step2Proc_eq K inBox useRange top add cost pen sh π trials s
  have h2 := step2Proc_eq K inBox useRange top add cost pen sh' π' trials s
  have m1 := de2_map_independent (objOfProcs K inBox useRange top add cost pen) π trials s hπ
  have m2 := de2_map_independent (objOfProcs K inBox useRange top add cost pen) π' trials s hπ'
  refine ⟨h1, ?_, ?_, ?_⟩
  · rw [h1, h2, m1.1, m2.1]
  · rw [h1, m1.1]
  · rw [h1, h2]; exact m1.2.1.trans m2.2.1.symm

/-- whole runs with a writing objective: generation after generation, each under its own evaluation order and its
own sharing discipline, the run is the run of `run2With` (to which `de2_run_map_independent` applies) -/
theorem de2_run_effect_free [LT E] [DecidableLT E] {D : Type} (K : X → X) (inBox : X → Bool) (useRange : Bool)
    (top : E) (add : E → E → E) (cost pen : Proc X E) (strat : List X → List E → X → D → List X) :
    ∀ (gens : List (D × List Nat × (Nat → Bool))) (s : DE X E),
      gens.foldl (fun s g => step2Proc K inBox useRange top add cost pen g.2.2 g.2.1 (strat s.pop s.popE s.best g.1) s) s =
        run2With (objOfProcs K inBox useRange top add cost pen) strat (gens.map fun g => (g.1, g.2.1)) s := by
  intro gens
  induction gens with
  | nil => intro s; rfl
  | cons g gens ih =>
    intro s
    simp only [List.foldl_cons, List.map_cons, run2With]
    rw [step2Proc_eq, ih]

/-- a cost that folds its argument onto the non-negative axis in place, squared distance to 1 -/
def exFold : Proc Int Int := fun x => ((x.natAbs - 1) * (x.natAbs - 1), x.natAbs)

/-- **what the defensive copy is there for**: with `wrap_penalty` calling cost and penalty on the caller's own
vector, an in-process map stores the FOLDED trial in the population while a copying map stores the trial itself -
the trajectory would depend on the map; with the pinned `wrap_penalty` both store the trial -/
theorem de2_uncopied_witness :
    let s : DE Int Int := { pop := [5, 4], popE := [16, 9], best := 4, bestE := 9, log := [], stepLog := [] }
    let logOf : Int → Option (Int × Int) := fun y => some (y, (exFold y).1)
    let pure0 : Proc Int Int := fun x => (0, x)
    (step2ProcWith (wrapPenaltyNoCopyP (· + ·) exFold pure0) logOf id 1000 (fun _ => true) [0, 1] [-3, 2] s).pop = [3, 2] ∧
    (step2ProcWith (wrapPenaltyNoCopyP (· + ·) exFold pure0) logOf id 1000 (fun _ => false) [0, 1] [-3, 2] s).pop = [-3, 2] ∧
    (step2Proc id (fun _ => true) false 1000 (· + ·) exFold pure0 (fun _ => true) [1, 0] [-3, 2] s).pop = [-3, 2] ∧
    (step2Proc id (fun _ => true) false 1000 (· + ·) exFold pure0 (fun _ => false) [0, 1] [-3, 2] s).pop = [-3, 2] := by
  decide +kernel

/-- the evaluation counter of DE2 without an evaluation monitor (`+= len(trialEnergy) - isinf(trialEnergy).sum()`,
l.570-571) counts exactly the evaluations the monitor would have recorded, provided no evaluated point has an
infinite objective -/
theorem de2_counter_agrees [DecidableEq E] (o : Obj X E) (ys : List X)
    (hfin : ∀ y ∈ ys, (logged o y).isSome = true → o.energy y ≠ o.top)
    (htop : ∀ p, o.add o.top p = o.top) :
    countFinite o.top (ys.map o.energy) = (ys.filterMap (logged o)).length := by
  induction ys with
  | nil => rfl
  | cons y ys ih =>
    have ih' := ih (fun z hz => hfin z (by simp [hz]))
    simp only [countFinite, List.map_cons, List.filter_cons, List.filterMap_cons, ne_eq, decide_not] at ih' ⊢
    cases hl : logged o y with
    | none =>
      have : o.energy y = o.top := by
        unfold logged at hl
        unfold Obj.energy
        split at hl
        · rename_i hb; simp [hb, htop]
        · cases hl
      simp [this, ih']
    | some p =>
      have := hfin y (by simp) (by simp [hl])
      simp [this, ih']

/-! ## a run is a function of the configuration, the population and the draws -/

omit [Add R] [Sub R] [Mul R] [Neg R] [OfNat R 0] [OfNat R 1] [BEq R] [LT R] [DecidableLT R] in
/-- **Equal configuration + equal population + equal draws and trial streams => equal runs.**  The run reads the
configuration only through `Cfg.view` (the evaluation-monitor object, the contents of the step monitor, the save
settings, the signal switch and the map are not in it): two solvers whose views agree produce the same states,
counters and stop messages under the control loop, generation by generation. -/
theorem trajectory_of_cfg [LT E] [DecidableLT E] {D : Type} (dec : View R → Obj X E) (cond : Option Nat → DE X E → Bool)
    (strat : List X → List E → X → D → List X) (emb : List R → X) (scale : Nat × Nat) (c c' : Cfg R)
    (gens : List (D × List Nat)) (h : c.view = c'.view) :
    trajectory dec cond strat emb scale c gens = trajectory dec cond strat emb scale c' gens := by
  unfold trajectory
  rw [h]

/-- the property's first sentence: the same seed (`u`), the same solver (`s`), the same settings in ANY order
(pairwise independent calls) - the same trajectory; the draws of the run are those that follow the configuration
phase in the random stream (`drawsOf`) -/
theorem trajectory_config_perm [LT E] [DecidableLT E] {D : Type} (dec : View R → Obj X E)
    (cond : Option Nat → DE X E → Bool) (strat : List X → List E → X → D → List X) (emb : List R → X)
    (scale : Nat × Nat) (drawsOf : (Nat → R) → Nat → List (D × List Nat))
    (u : Nat → R) (s : Cfg R) (l l' : List (Op R)) (hp : l.Perm l')
    (hi : l.Pairwise (fun a b => Independent s.pl s.kind a b = true)) :
    trajectory dec cond strat emb scale (cfgAfter u s l) (drawsOf u (cfgAfter u s l).pop.rngPos) =
      trajectory dec cond strat emb scale (cfgAfter u s l') (drawsOf u (cfgAfter u s l').pop.rngPos) := by
  rw [(config_perm u s l l' hp hi).1]

/-! ## ensembles -/

variable {M : Type}

/-- **Any interleaving of the members' steps gives the members their run-to-completion states**, provided every
member is stepped at least until it terminates (`T i` steps).  Members do not share state (each occupies its own
slot) and stepping is deterministic (`step` is a function): the hypotheses `MembersDeterministic` and
`NoSharedState` of the design (DESIGN.md, C07) are built into the model. -/
theorem ensemble_any_schedule (step : M → M) (done : M → Bool) (ms : List M) (T : Nat → Nat) (fuel : Nat)
    (sched : List Nat)
    (hT : ∀ i (h : i < ms.length), done ((stepIfLive step done)^[T i] ms[i]) = true)
    (hs : ∀ i, i < ms.length → T i ≤ sched.count i) (hf : ∀ i, i < ms.length → T i ≤ fuel) :
    runSched step done ms sched = ms.map (runToEnd step done fuel) := by
  apply List.ext_getElem?
  intro i
  rw [getElem?_runSched, List.getElem?_map]
  exact getElem?_iter_eq_runToEnd step done ms T hT i _ fuel (hs i) (hf i)

/-- **step-wise mode = run-to-completion mode**: `k` ensemble `Step`s (each maps `Step` over all members) leave
the same members as one `Solve` that maps `Solve` over them, once `k` covers the slowest member; the reported best
(the last member of minimal energy, by index) is therefore the same. -/
theorem ensemble_step_eq_solve [LE E] [DecidableLE E] (step : M → M) (done : M → Bool) (energy : M → E)
    (ms : List M) (T : Nat → Nat) (k fuel : Nat)
    (hT : ∀ i (h : i < ms.length), done ((stepIfLive step done)^[T i] ms[i]) = true)
    (hk : ∀ i, i < ms.length → T i ≤ k) (hf : ∀ i, i < ms.length → T i ≤ fuel) :
    (ensembleStep step done)^[k] ms = ms.map (runToEnd step done fuel) ∧
    bestOf energy ((ensembleStep step done)^[k] ms) = bestOf energy (ms.map (runToEnd step done fuel)) := by
  have h : (ensembleStep step done)^[k] ms = ms.map (runToEnd step done fuel) := by
    rw [ensembleStep_iter]
    apply List.ext_getElem?
    intro i
    rw [List.getElem?_map, List.getElem?_map]
    exact getElem?_iter_eq_runToEnd step done ms T hT i k fuel (hk i) (hf i)
  exact ⟨h, by rw [h]⟩

/-! ## ensembles: the members' `_live` flag and the deferred decoration

`ensemble_step_eq_solve` above takes "a `Step` on a terminated member does nothing" as the definition of a member
step (`stepIfLive`).  In the code that is the joint effect of three things - `Finalize` switching `_live` off,
`_bootstrap_objective` re-decorating a solver that is not live (and a decoration changes the state: Nelder-Mead
rebuilds its simplex under strict ranges), and the `_live` toggle of the ensemble's mapped `_step` / `_solve` - which
Model/Schedule.lean (`mStep`, `mSolve`, `toggled`) spells out.  The theorems below are for EVERY member algorithm
(`MAlg`: any decoration, iteration, `Finalize` and termination verdict). -/

variable {S : Type}

/-- **a finished member (finalized, terminated, with a step record) is left exactly as it is** by the mapped `_step`
of an ensemble `Step` and by the mapped `_solve` of an ensemble `Solve` - no decoration, no iteration - whatever
a decoration would do to it -/
theorem ens_finished_member_untouched (a : MAlg S) (m : Mem S) (fuel : Nat) (h : Finished a m) :
    ensMemberStep a m = m ∧ ensMemberSolve a (fuel + 1) m = (m, true) :=
  ⟨ensMemberStep_finished a m h, ensMemberSolve_finished a fuel m h⟩

/-- **step-wise mode = run-to-completion mode, with the `_live` flag and the decoration modelled**: `k` ensemble
`Step`s leave the members that one run-to-completion `Solve` leaves (state, flag, number of decorations and of
iterations), hence the same reported best, once every member's `Solve` has come back with a message within `fuel ≤ k`
`Step`s.  Hypotheses: an iteration that stops leaves a step record (`hrec`); the members are ones an ensemble can
hold (`Regular`: live, or not terminated, or finished). -/
theorem ens_live_step_eq_solve [LE E] [DecidableLE E] (a : MAlg S)
    (hrec : ∀ s, a.term (a.iter s) = true → a.started (a.fin (a.iter s)) = true)
    (energy : Mem S → E) (ms : List (Mem S)) (fuel k : Nat)
    (hr : ∀ m ∈ ms, Regular a m) (hs : ∀ m ∈ ms, (ensMemberSolve a fuel m).2 = true) (hk : fuel ≤ k) :
    (ensStepL a)^[k] ms = ensSolveL a fuel ms ∧
    bestOf energy ((ensStepL a)^[k] ms) = bestOf energy (ensSolveL a fuel ms) := by
  have h : (ensStepL a)^[k] ms = ensSolveL a fuel ms := by
    rw [ensStepL_iter]
    unfold ensSolveL
    apply List.map_congr_left
    intro m hm
    exact member_steps_eq_solve a hrec fuel m (hr m hm) (hs m hm) k hk
  exact ⟨h, by rw [h]⟩

/-- **mixed driving**: `j` ensemble `Step`s followed by a run-to-completion `Solve` end where the `Solve` alone ends -/
theorem ens_steps_then_solve (a : MAlg S)
    (hrec : ∀ s, a.term (a.iter s) = true → a.started (a.fin (a.iter s)) = true)
    (ms : List (Mem S)) (j fuel fuel' : Nat)
    (hr : ∀ m ∈ ms, Regular a m) (hs : ∀ m ∈ ms, (ensMemberSolve a fuel m).2 = true)
    (hs' : ∀ m ∈ ms, (ensMemberSolve a fuel' ((ensMemberStep a)^[j] m)).2 = true) :
    ensSolveL a fuel' ((ensStepL a)^[j] ms) = ensSolveL a fuel ms := by
  rw [ensStepL_iter]
  unfold ensSolveL
  rw [List.map_map]
  apply List.map_congr_left
  intro m hm
  show (ensMemberSolve a fuel' ((ensMemberStep a)^[j] m)).1 = (ensMemberSolve a fuel m).1
  have h1 := member_steps_eq_solve a hrec fuel m (hr m hm) (hs m hm) (fuel + fuel' + j)
    (Nat.le_trans (Nat.le_add_right _ _) (Nat.le_add_right _ _))
  have h2 := member_steps_eq_solve a hrec fuel' _ (regular_steps a hrec m (hr m hm) j) (hs' m hm) (fuel + fuel')
    (Nat.le_add_left _ _)
  rw [← h2, ← h1, ← Function.iterate_add_apply]

/-- **a member is decorated once**: the first mapped `_step` of a fresh member (not live, not terminated) decorates
its objective, no later one does - however many ensemble `Step`s follow, before and after it has stopped.
Hypothesis `hfin`: `Finalize` does not revoke the stop and an iteration that stops leaves a step record. -/
theorem ens_decorates_once (a : MAlg S)
    (hfin : ∀ s, a.term (a.iter s) = true → a.term (a.fin (a.iter s)) = true ∧ a.started (a.fin (a.iter s)) = true)
    (m : Mem S) (hl : m.live = false) (ht : a.term m.st = false) (k : Nat) :
    ((ensMemberStep a)^[k + 1] m).ndec = m.ndec + 1 := by
  rw [Function.iterate_succ_apply]
  have h := fresh_step a hfin m hl ht
  rw [(settled_steps a hfin _ h.1 k).2, h.2]

/-- a member that is live or finished is never decorated again by ensemble `Step`s -/
theorem ens_settled_not_redecorated (a : MAlg S)
    (hfin : ∀ s, a.term (a.iter s) = true → a.term (a.fin (a.iter s)) = true ∧ a.started (a.fin (a.iter s)) = true)
    (m : Mem S) (h : m.live = true ∨ Finished a m) (k : Nat) : ((ensMemberStep a)^[k] m).ndec = m.ndec :=
  (settled_steps a hfin m h k).2

/-- a Nelder-Mead-like member for the witness: state = (spread of the simplex, generations); an iteration halves the
spread; the termination is CandidateRelativeTolerance-like (spread <= 1); the decoration rebuilds the simplex
(spread 4) once `generations > 0` - `NelderMeadSimplexSolver._decorate_objective` under strict ranges -/
def nmLike : MAlg (Nat × Nat) :=
  { dec := fun s => if s.2 > 0 then (4, s.2) else s, iter := fun s => (s.1 / 2, s.2 + 1), fin := id,
    term := fun s => decide (s.1 ≤ 1), started := fun s => decide (s.2 > 0) }

/-- **what the `_live` toggle is there for** (kernel-checked witness): two members that stop at different iterations
(after 3 and after 1).  With the toggle, 3 ensemble `Step`s = `Solve`.  WITHOUT it (`_step` = `solver.Step()` alone)
the member that stopped first is re-decorated by the next ensemble `Step`, its rebuilt simplex no longer satisfies the
termination, and it resumes: step-wise and run-to-completion results differ. -/
theorem ens_untoggled_witness :
    (ensStepL nmLike)^[3] [{ st := (8, 0), live := false }, { st := (2, 0), live := false }]
        = ensSolveL nmLike 5 [{ st := (8, 0), live := false }, { st := (2, 0), live := false }] ∧
    ([{ st := (8, 0), live := false }, { st := (2, 0), live := false }].map (ensMemberStepBare nmLike)^[3])
        = [{ st := (1, 3), live := false, ndec := 1, niter := 3 }, { st := (1, 3), live := false, ndec := 2, niter := 3 }] ∧
    ensSolveL nmLike 5 [{ st := (8, 0), live := false }, { st := (2, 0), live := false }]
        = [{ st := (1, 3), live := false, ndec := 1, niter := 3 }, { st := (1, 1), live := false, ndec := 1, niter := 1 }] := by
  decide +kernel

/-- non-vacuity of `ens_live_step_eq_solve`: its hypotheses hold for the witness members -/
example : (∀ s, nmLike.term (nmLike.iter s) = true → nmLike.started (nmLike.fin (nmLike.iter s)) = true) ∧
    (∀ m ∈ [({ st := (8, 0), live := false } : Mem (Nat × Nat)), { st := (2, 0), live := false }],
      Regular nmLike m ∧ (ensMemberSolve nmLike 5 m).2 = true) := by
  refine ⟨fun s _ => by simp [nmLike], ?_⟩
  intro m hm
  simp only [List.mem_cons, List.mem_nil_iff, or_false] at hm
  rcases hm with rfl | rfl
  · exact ⟨Or.inl (by unfold Plain; decide), by decide +kernel⟩
  · exact ⟨Or.inl (by unfold Plain; decide), by decide +kernel⟩

/-- **a member that meets its termination at generation 0** - its first `_Step` (the initial evaluation) already stops
it, it has ONE step record and `generations == 0` - is iterated exactly once, however many ensemble `Step`s follow
while the other members run on, and is then exactly what the run-to-completion `_solve` leaves: the stop test `Step`
makes before it iterates reads `len(self._stepmon)` (`started`), which one record satisfies.  Hypotheses: the member is
fresh (not live, no verdict, no step record after its decoration); `Finalize` does not revoke the stop and an iteration
that stops leaves a step record. -/
theorem ens_generation0_member_iterated_once (a : MAlg S)
    (hfin : ∀ s, a.term (a.iter s) = true → a.term (a.fin (a.iter s)) = true ∧ a.started (a.fin (a.iter s)) = true)
    (m : Mem S) (hl : m.live = false) (ht : a.term m.st = false)
    (hs : a.started (a.dec m.st) = false) (h0 : a.term (a.iter (a.dec m.st)) = true) (k fuel : Nat) :
    (ensMemberStep a)^[k + 1] m
        = { st := a.fin (a.iter (a.dec m.st)), live := false, ndec := m.ndec + 1, niter := m.niter + 1 } ∧
    ensMemberSolve a (fuel + 1) m = ((ensMemberStep a)^[k + 1] m, true) := by
  have hp : Plain a m := by simp [Plain, ht]
  have h1 : mStep a m
      = ({ st := a.fin (a.iter (a.dec m.st)), live := false, ndec := m.ndec + 1, niter := m.niter + 1 }, true) := by
    simp [mStep, bootstrapM, hl, hs, h0, (hfin _ h0).1]
  have h1' := (ensMemberStep_plain a m hp).trans (congrArg Prod.fst h1)
  have hF : Finished a (ensMemberStep a m) := by
    rw [h1']; exact ⟨rfl, (hfin _ h0).1, (hfin _ h0).2⟩
  have h2 : (ensMemberStep a)^[k + 1] m = ensMemberStep a m := by
    rw [Function.iterate_succ_apply]
    exact Function.iterate_fixed (ensMemberStep_finished a _ hF) k
  refine ⟨h2.trans h1', ?_⟩
  rw [h2, h1', ensMemberSolve_plain a (fuel + 1) m hp]
  simp [mSolve, h1]

/-- members for the witness below: state = (best energy, number of step records); the first iteration is the initial
evaluation (one record, energy unchanged), every later one halves the energy; the termination is value-to-reach-like
(a record exists and the energy is <= 2).  `byGenerations = false`: the stop test of `Step` as it is in the code
(`if len(self._stepmon)`); `true`: NOT the code - the test guarded by `if self.generations` (records - 1) instead. -/
def vtrLike (byGenerations : Bool) : MAlg (Nat × Nat) :=
  { dec := id, iter := fun s => if s.2 = 0 then (s.1, 1) else (s.1 / 2, s.2 + 1), fin := id,
    term := fun s => decide (0 < s.2 ∧ s.1 ≤ 2),
    started := fun s => if byGenerations = true then decide (1 < s.2) else decide (0 < s.2) }

/-- **why the stop test before the iteration must read the step RECORDS, not the generations** (kernel-checked
witness): two members, the second one meets the termination at generation 0 while the first needs three iterations.
With the code's guard 4 ensemble `Step`s = `Solve`, the early member iterated once.  With the guard
`if self.generations` the run-to-completion result is the same (its `Solve` loop leaves through the message of the
first `Step`), but the next ensemble `Step` iterates the finished member AGAIN (one record = generation 0 does not
pass the guard): step-wise and run-to-completion results differ. -/
theorem ens_generations_guard_witness :
    (ensStepL (vtrLike false))^[4] [{ st := (8, 0), live := false }, { st := (2, 0), live := false }]
        = ensSolveL (vtrLike false) 5 [{ st := (8, 0), live := false }, { st := (2, 0), live := false }] ∧
    ensSolveL (vtrLike false) 5 [{ st := (8, 0), live := false }, { st := (2, 0), live := false }]
        = [{ st := (2, 3), live := false, ndec := 1, niter := 3 }, { st := (2, 1), live := false, ndec := 1, niter := 1 }] ∧
    ensSolveL (vtrLike true) 5 [{ st := (8, 0), live := false }, { st := (2, 0), live := false }]
        = ensSolveL (vtrLike false) 5 [{ st := (8, 0), live := false }, { st := (2, 0), live := false }] ∧
    (ensStepL (vtrLike true))^[4] [{ st := (8, 0), live := false }, { st := (2, 0), live := false }]
        = [{ st := (2, 3), live := false, ndec := 1, niter := 3 }, { st := (1, 2), live := false, ndec := 1, niter := 2 }] := by
  decide +kernel

/-- non-vacuity of `ens_generation0_member_iterated_once`: the early member of the witness satisfies its hypotheses -/
example : (∀ s, (vtrLike false).term ((vtrLike false).iter s) = true →
      (vtrLike false).term ((vtrLike false).fin ((vtrLike false).iter s)) = true ∧
      (vtrLike false).started ((vtrLike false).fin ((vtrLike false).iter s)) = true) ∧
    (vtrLike false).term (2, 0) = false ∧ (vtrLike false).started ((vtrLike false).dec (2, 0)) = false ∧
    (vtrLike false).term ((vtrLike false).iter ((vtrLike false).dec (2, 0))) = true := by
  refine ⟨fun s h => ⟨h, ?_⟩, by decide +kernel, by decide +kernel, by decide +kernel⟩
  by_cases hz : s.2 = 0 <;> simp [vtrLike, hz]

/-- non-vacuity: three countdown members, a schedule that interleaves them unevenly -/
example : runSched (fun n : Nat => n - 1) (fun n => n == 0) [3, 1, 2] [2, 0, 0, 1, 2, 0, 1, 2, 0]
    = [3, 1, 2].map (runToEnd (fun n : Nat => n - 1) (fun n => n == 0) 5) := by decide +kernel

/-- non-vacuity of the map theorem: a concrete DE2 generation over `Int` evaluated in the order 2,0,1 with one
trial outside the box (not logged) -/
def exObj : Obj Int Int :=
  { raw := fun x => x * x, pen := fun x => if x < 0 then 5 else 0, K := fun x => max x (-2),
    inBox := fun x => decide (-3 ≤ x ∧ x ≤ 9), useRange := true, top := 1000000, add := (· + ·) }

example : (step2With exObj [2, 0, 1] [1, 12, -8] (DE.init exObj [7, 3, 4] 7)).pop = [1, 3, -2]
    ∧ (step2With exObj [2, 0, 1] [1, 12, -8] (DE.init exObj [7, 3, 4] 7)).log = [(-2, 4), (1, 1)]
    ∧ (DE.step2 exObj [1, 12, -8] (DE.init exObj [7, 3, 4] 7)).log = [(1, 1), (-2, 4)] := by decide +kernel

end MysticVerif.C07
