/-
C02 wherever `Solve()` stops (closed loop, Model/ClosedLoop.lean): whatever the termination condition tree, the
limits, the trial vectors / line searches and the number of iterations the run performs, every call made to the user's
cost - every record of the evaluation monitor of the state `Solve` leaves - is at a point inside the box, and a finite
reported best lies in the box.
-/
import MysticVerif.Props.C02
import MysticVerif.Props.Solve

namespace MysticVerif.C02
open MysticVerif.Solver MysticVerif.Closed MysticVerif.SolveProps MysticVerif.PowellS

variable {R : Type} [Add R] [Sub R] [Mul R] [Div R] [Neg R] [LinearOrder R] [BEq R] [OfNat R 0] [OfNat R 2]

/-- differential evolution (1 and 2) -/
theorem solve_de_in_box (two : Bool) (o : Obj (List R) R) (h : Hyp o) (hu : o.useRange = true) (cond : Term.Cond R)
    (pop0 : List (List R)) (x0 : List R) (trialss : List (List (List R))) (fuel : Nat) (c : Ctl) :
    let s := (solve (deAlg two o cond pop0 trialss) fuel c (DE.init o pop0 x0) 0 0).st
    (∀ p ∈ s.log, o.inBox p.1 = true) ∧ (s.bestE ≠ o.top → o.inBox s.best = true) := by
  intro s
  have hi := solve_de_inv two o h cond pop0 x0 trialss fuel c
  exact ⟨fun p hp => (hi.logOK p hp).2.2 hu, fun hne => (hi.best hne).2.2.2 hu⟩

/-- Nelder-Mead (from the first `_Step` on; before it nothing was evaluated by this run) -/
theorem solve_nm_in_box (o : Obj (Pt R) R) (h : Hyp o) (hu : o.useRange = true) (coef : Coef R)
    (st clip0 mkVal : Pt R → Pt R) (hst : ∀ x, o.K (st x) = o.K x)
    (hclip : ∀ x, (o.useRange = true → o.inBox x = true) → clip0 x = x)
    (cond : Term.Cond R) (x0 : Pt R) (fuel : Nat) (c : Ctl) (s0 : NM R R)
    (hran : 1 ≤ (solve (nmAlg o coef st clip0 mkVal cond x0) fuel c s0 0 0).iters) :
    ∀ p ∈ (solve (nmAlg o coef st clip0 mkVal cond x0) fuel c s0 0 0).st.log, o.inBox p.1 = true := by
  intro p hp
  exact ((solve_nm_inv o h coef st clip0 mkVal hst hclip cond x0 fuel c s0 hran).logOK p hp).2.2 hu

/-- Powell -/
theorem solve_pw_in_box (o : Obj (Pt R) R) (h : Hyp o) (hu : o.useRange = true) (cfg : PwCfg R R)
    (ls : Nat → Pt R → Pt R → LsRec R) (cond : Term.Cond R) (record : Bool) (x0 : Pt R) (direc : List (Pt R))
    (hd : direc ≠ []) (fuel : Nat) (c : Ctl) (s0 : Pw R R)
    (hran : 1 ≤ (solve (pwAlg o cfg ls cond record x0 direc) fuel c s0 0 0).iters) :
    let s := (solve (pwAlg o cfg ls cond record x0 direc) fuel c s0 0 0).st
    (∀ p ∈ s.log, o.inBox p.1 = true) ∧ (s.fval ≠ o.top → o.inBox s.x = true) := by
  intro s
  have hi := solve_pw_inv o h cfg ls cond record x0 direc hd fuel c s0 hran
  exact ⟨fun p hp => (hi.logOK p hp).2.2 hu, fun hne => (hi.best hne).2.2.2 hu⟩

end MysticVerif.C02
