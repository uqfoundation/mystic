/-
C02, the clauses about where a run STARTS (Model/Config.lean, the configuration model that C07's differential run ties
to /repo: population bits and random-stream position after every Set* / decoration):

  * "initial points requested within given limits are generated within them":
    `SetRandomInitialPoints(min, max)` (abstract_solver.py l.500-526: `population[i][j] = random.uniform(min[j], max[j])`)
    and `SetInitialPoints(x0, radius)` (l.464-498);
  * "the initial population / simplex is clipped into the box when the objective is (re)decorated":
    `_clipGuessWithinRangeBoundary(x0, at)` (l.443-462) in BOTH its modes - clipping at the bounds, and (once a generation
    has run) replacing the offending coordinates by a random draw inside the box - and the loop over the members in
    `_decorate_objective` (l.909-913).

Field statements for EVERY stream of `random()` values in [0, 1] (`random.uniform(a, b) = a + (b - a) * random()`).
-/
import MysticVerif.Proofs.Config
import Mathlib.Tactic.Linarith
import Mathlib.Algebra.Order.Field.Basic

namespace MysticVerif.C02
open MysticVerif.Config

/-- a coordinate that is clipped (`c`), or re-drawn (`w`) when the clipping would change it, lies where `c` and `w` lie -/
private theorem ite_in_range {α : Type} [LE α] [BEq α] [LawfulBEq α] {lo hi c w v : α} (at_ : Bool)
    (hc : lo ≤ c ∧ c ≤ hi) (hw : lo ≤ w ∧ w ≤ hi) :
    lo ≤ (if at_ = true then c else if (c != v) = true then w else v) ∧
    (if at_ = true then c else if (c != v) = true then w else v) ≤ hi := by
  cases at_
  · by_cases h : (c != v) = true
    · rw [if_neg Bool.false_ne_true, if_pos h]; exact hw
    · have hcv : c = v := by simpa using h
      rw [if_neg Bool.false_ne_true, if_neg h, ← hcv]; exact hc
  · rw [if_pos rfl]; exact hc

variable {K : Type} [Field K] [LinearOrder K] [IsStrictOrderedRing K]

/-- `random.uniform(a, b)` lands in `[a, b]` -/
theorem uniform_in_range (r a b : K) (hab : a ≤ b) (h0 : 0 ≤ r) (h1 : r ≤ 1) :
    a ≤ uniform r a b ∧ uniform r a b ≤ b := by
  have hd : 0 ≤ b - a := sub_nonneg.mpr hab
  constructor
  · exact le_add_of_nonneg_right (mul_nonneg hd h0)
  · calc a + (b - a) * r ≤ a + (b - a) := add_le_add (le_refl a) (mul_le_of_le_one_right hd h1)
      _ = b := add_sub_cancel a b

/-- numpy's clip of one coordinate lands in `[lo, hi]` and is the identity inside -/
theorem clipCoord_in_range (lo hi x : K) (h : lo ≤ hi) : lo ≤ clipCoord lo hi x ∧ clipCoord lo hi x ≤ hi := by
  have hm : lo ≤ (if lo < x then x else lo) := by
    split
    · exact le_of_lt ‹_›
    · exact le_refl lo
  unfold clipCoord
  generalize (if lo < x then x else lo) = m at hm
  split
  · exact ⟨hm, le_of_lt ‹_›⟩
  · exact ⟨h, le_refl hi⟩

theorem clipCoord_id (lo hi x : K) (h1 : lo ≤ x) (h2 : x ≤ hi) : clipCoord lo hi x = x := by
  have hm : (if lo < x then x else lo) = x := by
    split
    · rfl
    · exact le_antisymm h1 (not_lt.mp ‹_›)
  unfold clipCoord
  rw [hm]
  split
  · rfl
  · exact le_antisymm (not_lt.mp ‹_›) h2

/-- **generated within the requested limits**: after `SetRandomInitialPoints(min, max)` with bounds of the right
length and `min[j] ≤ max[j]`, every coordinate `j` of every member lies in `[min[j], max[j]]`, for every random stream -/
theorem random_initial_points_in_limits (u : Nat → K) (hu : ∀ n, 0 ≤ u n ∧ u n ≤ 1) (nDim : Nat) (dmin dmax : List K)
    (cur : Pop K) (mn mx : List K) (hmn : mn.length = nDim) (hmx : mx.length = nDim)
    (hle : ∀ j, j < nDim → mn.getD j 0 ≤ mx.getD j 0) :
    let p := newPopRandom u nDim dmin dmax cur (some mn) (some mx)
    p.population.length = cur.population.length ∧
    ∀ m ∈ p.population, m.length = nDim ∧ ∀ j, j < nDim → mn.getD j 0 ≤ m.getD j 0 ∧ m.getD j 0 ≤ mx.getD j 0 := by
  have hraise : randomRaise nDim dmin dmax (some mn) (some mx) = false := by
    show decide (mn.length ≠ nDim ∨ mx.length ≠ nDim) = false
    rw [hmn, hmx]
    exact decide_eq_false fun h => h.elim (· rfl) (· rfl)
  show (newPopRandom u nDim dmin dmax cur (some mn) (some mx)).population.length = _ ∧
    ∀ m ∈ (newPopRandom u nDim dmin dmax cur (some mn) (some mx)).population, _
  rw [newPopRandom_eq u nDim dmin dmax cur _ _ hraise]
  refine ⟨by rw [List.length_map, List.length_range], fun m hm => ?_⟩
  obtain ⟨i, _, rfl⟩ := List.mem_map.mp hm
  refine ⟨by rw [List.length_map, List.length_range], fun j hj => ?_⟩
  have hget : ∀ f : Nat → K, ((List.range nDim).map f).getD j 0 = f j := fun f => by
    rw [List.getD_eq_getElem?_getD, List.getElem?_map, List.getElem?_range hj]; rfl
  rw [hget]
  exact uniform_in_range _ _ _ (hle j hj) (hu _).1 (hu _).2

/-- **clipped into the box on (re)decoration, both modes**: for a box `smin ≤ smax` as long as the member, every
coordinate of `_clipGuessWithinRangeBoundary(x, at)` lies in the box - whether the member is clipped at the bounds
(`at=True`) or its offending coordinates are re-drawn (`at=False`) - and a member already inside is returned unchanged -/
theorem clipGuess_in_box (smin smax x : List K) (at_ : Bool) (r : K) (h0 : 0 ≤ r) (h1 : r ≤ 1)
    (hlen1 : smin.length = x.length) (hlen2 : smax.length = x.length) (hne : x ≠ [])
    (hbox : ∀ j, j < x.length → smin.getD j 0 ≤ smax.getD j 0) :
    (clipGuess smin smax at_ r x).length = x.length ∧
    ∀ j, j < x.length → smin.getD j 0 ≤ (clipGuess smin smax at_ r x).getD j 0 ∧
                        (clipGuess smin smax at_ r x).getD j 0 ≤ smax.getD j 0 := by
  have hs : smin.isEmpty = false := by
    cases smin with
    | nil => exact absurd (List.length_eq_zero_iff.mp hlen1.symm) hne
    | cons a l => rfl
  have hlen := clipGuess_length smin smax x at_ r hs hlen1 hlen2
  refine ⟨hlen, fun j hj => ?_⟩
  have hb := hbox j hj
  have hg : ∀ (l : List K) (h : j < l.length), l.getD j 0 = l[j] := fun l h => by
    rw [List.getD_eq_getElem?_getD, List.getElem?_eq_getElem h]; rfl
  rw [hg smin (hlen1 ▸ hj), hg smax (hlen2 ▸ hj)] at hb ⊢
  rw [hg _ (hlen ▸ hj), clipGuess_getElem smin smax x at_ r hs j _ hj (hlen1 ▸ hj) (hlen2 ▸ hj)]
  exact ite_in_range at_ (clipCoord_in_range _ _ _ hb) (uniform_in_range _ _ _ hb h0 h1)

theorem clipGuess_id_inside (smin smax x : List K) (at_ : Bool) (r : K)
    (hlen1 : smin.length = x.length) (hlen2 : smax.length = x.length)
    (hin : ∀ j (hj : j < x.length), smin[j]'(by omega) ≤ x[j] ∧ x[j] ≤ smax[j]'(by omega)) :
    clipGuess smin smax at_ r x = x := by
  cases hs : smin.isEmpty
  · refine List.ext_getElem (clipGuess_length smin smax x at_ r hs hlen1 hlen2) fun j h1 hj => ?_
    rw [clipGuess_getElem smin smax x at_ r hs j h1 hj (hlen1 ▸ hj) (hlen2 ▸ hj),
      clipCoord_id _ _ _ (hin j hj).1 (hin j hj).2, bne_self_eq_false, if_neg Bool.false_ne_true, ite_self]
  · unfold clipGuess
    rw [hs, if_pos rfl]

/-- non-vacuity over ℚ: two members, box [0,1] x [2,4], draws 1/2 -/
example : (newPopRandom (fun _ => (1/2 : ℚ)) 2 [] [] { population := [[9, 9], [9, 9]], rngPos := 0 } (some [0, 2]) (some [1, 4])).population
    = [[1/2, 3], [1/2, 3]] := by
  decide +kernel

example : clipGuess ([0, 2] : List ℚ) [1, 4] true 0 [5, 3] = [1, 3] ∧ clipGuess ([0, 2] : List ℚ) [1, 4] false (1/2) [5, 3] = [1/2, 3] := by
  decide +kernel

end MysticVerif.C02
