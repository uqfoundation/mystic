/-
C17, call SEQUENCES on one combinator object (Model/CombinatorsSeq): the object `and_(c1..cn)` / `or_(..)` /
`not_(c)` is built once and called many times (a solver calls it on every candidate).  The property's clauses
hold for EVERY call of EVERY sequence - not only for the first call of a fresh object - because nothing survives
from one call to the next: the k-th answer of the object is the answer a freshly built object gives on the k-th
input (`seq_*_fresh`), and for stateful members (oracles indexed by the global member-call number) the oracle forms
of the clauses hold at the global call numbers the k-th call covers (`seq_*_oracle`).

`seq_restart_needed_witness` shows that this is a fact about the code as it is and not a triviality: ONE
variation - the member iterator of the cycling phase surviving from call to call, i.e. the cycling phase of a later
call starting at member 1 instead of member 0 - makes `and_` report success for two idempotent, compatible members
at a vector that member 0 still changes.
-/
import MysticVerif.Model.CombinatorsSeq
import MysticVerif.Props.C17.Ext

namespace MysticVerif.C17S
open MysticVerif.CombX MysticVerif.CombSeq
open MysticVerif.Comb (Stats)

variable {X D I : Type}

theorem seqRun_length (f : Nat → I → ResX X × Stats) :
    ∀ (is : List I) (g0 : Nat), (seqRun f g0 is).length = is.length := by
  intro is
  induction is with
  | nil => intro _; rfl
  | cons _ rest ih => intro _; exact congrArg (· + 1) (ih _)

/-- call `k` of the sequence is `f` on the k-th input at `offset f g0 is k`, the member calls made by calls `0 .. k-1` -/
theorem seqRun_get (f : Nat → I → ResX X × Stats) :
    ∀ (is : List I) (g0 k : Nat), (seqRun f g0 is)[k]? = is[k]?.map (f (offset f g0 is k)) := by
  intro is
  induction is with
  | nil => intro _ _; rfl
  | cons _ rest ih =>
    intro _ k
    cases k with
    | zero => rfl
    | succ k => exact ih _ k

private theorem seqRun_get_some {f : Nat → I → ResX X × Stats} {is : List I} {g0 k : Nat} {r : ResX X × Stats}
    (h : (seqRun f g0 is)[k]? = some r) : ∃ p, f (offset f g0 is k) p = r := by
  rw [seqRun_get] at h
  cases hp : is[k]? with
  | none => rw [hp] at h; cases h
  | some p => rw [hp] at h; exact ⟨p, Option.some.inj h⟩

/-- the global call counter advances by exactly the member calls the k-th call of the object made -/
theorem offset_succ (f : Nat → I → ResX X × Stats) :
    ∀ (is : List I) (g0 k : Nat),
      offset f g0 is (k + 1) = offset f g0 is k + (((seqRun f g0 is)[k]?).map (·.2.calls)).getD 0 := by
  intro is
  induction is with
  | nil => intro _ k; cases k <;> rfl
  | cons i rest ih =>
    intro g0 k
    cases k with
    | zero => rfl
    | succ k => exact ih (g0 + (f g0 i).2.calls) k

theorem seqRun_const (f : Nat → I → ResX X × Stats) (f' : I → ResX X × Stats) (h : ∀ g i, f g i = f' i) :
    ∀ (is : List I) (g0 : Nat), seqRun f g0 is = is.map f' := by
  intro is
  induction is with
  | nil => intro _; rfl
  | cons i rest ih => intro g0; rw [seqRun, h, ih]; rfl

theorem view_pure (c : Nat → Nat → X → Out X) (mem : Nat → X → Out X) (h : ∀ g i v, c g i v = mem i v)
    (n g0 : Nat) : view c n g0 = detc mem n := by
  funext j v; simp [view, detc, h]

theorem view1_pure (c : Nat → Nat → X → Out X) (mem : X → Out X) (h : ∀ g i v, c g i v = mem v)
    (g0 : Nat) : view1 c g0 = fun _ => mem := by
  funext j v; simp [view1, h]

/-- **and_ object, any members (stateful, raising, shared), any call sequence.**  If call `k` of the object reports
success with `(y, t, links)`, then each of the newest `min links (n-1)` history links of THAT call is a member call
that returned `y` unchanged: global call number `g_k + (t - m)`, made to member `(t - m) % n`. -/
theorem seq_and_success_links_oracle [BEq X] [LawfulBEq X] (c : Nat → Nat → X → Out X) (rand : D → X → X)
    (n cap g0 : Nat) (calls : List (X × List D)) (k : Nat) (y : X) (t links : Nat) (st : Stats)
    (hk : (andSeq c rand n cap g0 calls)[k]? = some (.success y t links, st)) :
    ∀ m, m < links → m + 1 < n →
      c (offset (fun g p => and_ (view c n g) rand n cap p.1 p.2) g0 calls k + (t - m)) ((t - m) % n) y = .ret y := by
  intro m hm hmn
  obtain ⟨p, hp⟩ := seqRun_get_some hk
  exact C17X.and_success_links_oracle _ rand n cap p.1 p.2 y t links st hp m hm hmn

/-- **no state leaks (and_).**  With pure members the object answers every input of every sequence exactly as a
freshly built `and_` answers it as its first input. -/
theorem seq_and_fresh [BEq X] (c : Nat → Nat → X → Out X) (mem : Nat → X → Out X)
    (hpure : ∀ g i v, c g i v = mem i v) (rand : D → X → X) (n cap g0 : Nat) (calls : List (X × List D)) :
    andSeq c rand n cap g0 calls = calls.map (fun p => and_ (detc mem n) rand n cap p.1 p.2) := by
  unfold andSeq
  apply seqRun_const
  intro g p
  rw [view_pure c mem hpure]

/-- the k-th answer is the fresh object's answer on the k-th input -/
theorem seq_and_get_fresh [BEq X] (c : Nat → Nat → X → Out X) (mem : Nat → X → Out X)
    (hpure : ∀ g i v, c g i v = mem i v) (rand : D → X → X) (n cap g0 : Nat) (calls : List (X × List D)) (k : Nat) :
    (andSeq c rand n cap g0 calls)[k]? = calls[k]?.map (fun p => and_ (detc mem n) rand n cap p.1 p.2) := by
  rw [seq_and_fresh c mem hpure]; simp

/-- **and_ object / all but one**, every call of every sequence (pure members, intact window) -/
theorem seq_and_success_fixed_all_but_one [BEq X] [LawfulBEq X] (c : Nat → Nat → X → Out X)
    (mem : Nat → X → Out X) (hpure : ∀ g i v, c g i v = mem i v) (rand : D → X → X)
    (n cap g0 : Nat) (calls : List (X × List D)) (y : X) (t links : Nat) (st : Stats)
    (hr : (.success y t links, st) ∈ andSeq c rand n cap g0 calls) (hlinks : n - 1 ≤ links) :
    ∀ i, i < n → i ≠ (t + 1) % n → mem i y = .ret y := by
  rw [seq_and_fresh c mem hpure, List.mem_map] at hr
  obtain ⟨p, _, hp⟩ := hr
  exact C17X.and_success_fixed_all_but_one mem rand n cap p.1 p.2 y t links st hp hlinks

/-- **and_ object / fixed point**: whenever ANY call of ANY sequence on one `and_` object over pure idempotent
members reports success with an intact window, the returned vector is left unchanged by every member. -/
theorem seq_and_success_fixed [BEq X] [LawfulBEq X] (c : Nat → Nat → X → Out X)
    (mem : Nat → X → Out X) (hpure : ∀ g i v, c g i v = mem i v) (rand : D → X → X)
    (n cap g0 : Nat) (calls : List (X × List D)) (y : X) (t links : Nat) (st : Stats)
    (hidem : ∀ i, i < n → C17X.Idem (mem i))
    (hr : (.success y t links, st) ∈ andSeq c rand n cap g0 calls) (hlinks : n ≤ links) :
    ∀ i, i < n → mem i y = .ret y := by
  rw [seq_and_fresh c mem hpure, List.mem_map] at hr
  obtain ⟨p, _, hp⟩ := hr
  exact C17X.and_success_fixed mem rand n cap p.1 p.2 y t links st hidem hp hlinks

/-- bounded work per call, whatever happened in earlier calls and whatever the members do -/
theorem seq_and_calls_bounded [BEq X] (c : Nat → Nat → X → Out X) (rand : D → X → X)
    (n cap g0 : Nat) (calls : List (X × List D)) :
    ∀ r ∈ andSeq c rand n cap g0 calls, r.2.calls ≤ max n cap := by
  intro r hr
  obtain ⟨k, hk⟩ := List.mem_iff_getElem?.mp hr
  obtain ⟨p, rfl⟩ := seqRun_get_some hk
  exact C17X.and_calls_bounded _ rand n cap p.1 p.2

/-- **or_ object, any members, any call sequence**: a success of call `k` returns a vector that one member call of
that very call (global number `g_k + j`, made to member `j % n`) returned unchanged. -/
theorem seq_or_success_fixed_oracle [BEq X] [LawfulBEq X] (c : Nat → Nat → X → Out X) (pick : D → Nat)
    (n cap g0 : Nat) (calls : List (X × List D)) (k : Nat) (y : X) (t links : Nat) (st : Stats)
    (hk : (orSeq c pick n cap g0 calls)[k]? = some (.success y t links, st)) :
    ∃ j, c (offset (fun g p => or_ (view c n g) pick n cap p.1 p.2) g0 calls k + j) (j % n) y = .ret y := by
  obtain ⟨p, hp⟩ := seqRun_get_some hk
  exact C17X.or_success_fixed_oracle _ pick n cap p.1 p.2 y t links st hp

/-- **no state leaks (or_)** -/
theorem seq_or_fresh [BEq X] (c : Nat → Nat → X → Out X) (mem : Nat → X → Out X)
    (hpure : ∀ g i v, c g i v = mem i v) (pick : D → Nat) (n cap g0 : Nat) (calls : List (X × List D)) :
    orSeq c pick n cap g0 calls = calls.map (fun p => or_ (detc mem n) pick n cap p.1 p.2) := by
  unfold orSeq
  apply seqRun_const
  intro g p
  rw [view_pure c mem hpure]

/-- **or_ object**: every success of every call of every sequence is left unchanged by at least one member -/
theorem seq_or_success_fixed [BEq X] [LawfulBEq X] (c : Nat → Nat → X → Out X)
    (mem : Nat → X → Out X) (hpure : ∀ g i v, c g i v = mem i v) (pick : D → Nat)
    (n cap g0 : Nat) (calls : List (X × List D)) (y : X) (t links : Nat) (st : Stats)
    (hcap : n = 0 → cap = 0)
    (hr : (.success y t links, st) ∈ orSeq c pick n cap g0 calls) : ∃ i, i < n ∧ mem i y = .ret y := by
  rw [seq_or_fresh c mem hpure, List.mem_map] at hr
  obtain ⟨p, _, hp⟩ := hr
  exact C17X.or_success_fixed mem pick n cap p.1 p.2 y t links st hcap hp

/-- **not_ object, any member, any call sequence**: a success of call `k` returns a vector that the member call
that examined it (global number `g_k + t`) changed. -/
theorem seq_not_success_moved_oracle [BEq X] [LawfulBEq X] (c : Nat → Nat → X → Out X) (rand : D → X → X)
    (maxiter g0 : Nat) (calls : List (X × List D)) (k : Nat) (y : X) (t links : Nat) (st : Stats)
    (hk : (notSeq c rand maxiter g0 calls)[k]? = some (.success y t links, st)) :
    ∃ z, c (offset (fun g p => not_ (view1 c g) rand maxiter p.1 p.2) g0 calls k + t) 0 y = .ret z ∧ z ≠ y := by
  obtain ⟨p, hp⟩ := seqRun_get_some hk
  exact C17X.not_success_moved_oracle _ rand maxiter p.1 p.2 y t links st hp

/-- **no state leaks (not_)** -/
theorem seq_not_fresh [BEq X] (c : Nat → Nat → X → Out X) (mem : X → Out X)
    (hpure : ∀ g i v, c g i v = mem v) (rand : D → X → X) (maxiter g0 : Nat) (calls : List (X × List D)) :
    notSeq c rand maxiter g0 calls = calls.map (fun p => not_ (fun _ => mem) rand maxiter p.1 p.2) := by
  unfold notSeq
  apply seqRun_const
  intro g p
  rw [view1_pure c mem hpure]

/-- **not_ object**: every success of every call of every sequence is changed by the member -/
theorem seq_not_success_moved [BEq X] [LawfulBEq X] (c : Nat → Nat → X → Out X) (mem : X → Out X)
    (hpure : ∀ g i v, c g i v = mem v) (rand : D → X → X) (maxiter g0 : Nat) (calls : List (X × List D))
    (y : X) (t links : Nat) (st : Stats)
    (hr : (.success y t links, st) ∈ notSeq c rand maxiter g0 calls) : ∃ z, mem y = .ret z ∧ z ≠ y := by
  rw [seq_not_fresh c mem hpure, List.mem_map] at hr
  obtain ⟨p, _, hp⟩ := hr
  exact C17X.not_success_moved mem rand maxiter p.1 p.2 y t links st hp

/-! ## why the restart of the member iterator matters; non-vacuity -/

/-- members of the witness: `m0` imposes `a ≥ b` (raises `a`), `m1` imposes `b ≥ 1` (raises `b`): idempotent, compatible -/
def wm : Nat → Int × Int → Out (Int × Int) := fun i p =>
  if i = 0 then (if p.1 < p.2 then .ret (p.2, p.2) else .ret p) else (if p.2 < 1 then .ret (p.1, 1) else .ret p)

/-- the variation: the cycling phase (local calls `j ≥ n`) starts at member 1 instead of member 0 - what a member
iterator kept from an earlier call that stopped mid-round would do -/
def shifted (mem : Nat → X → Out X) (n : Nat) : Nat → X → Out X :=
  fun j => if j < n then mem j else mem ((j + 1) % n)

/-- with the iterator position carried over, `and_` reports success at `(0, 1)`, which member 0 changes to `(1, 1)`;
the model as it is (`detc`, restart at member 0) returns the common fixed point `(1, 1)` on the same input. -/
theorem seq_restart_needed_witness :
    (and_ (shifted wm 2) (fun (_ : Unit) p => p) 2 20 ((0, 0) : Int × Int) []).1 = .success (0, 1) 2 3
    ∧ wm 0 (0, 1) = .ret (1, 1)
    ∧ (and_ (detc wm 2) (fun (_ : Unit) p => p) 2 20 ((0, 0) : Int × Int) []).1 = .success (1, 1) 3 4
    ∧ wm 0 (1, 1) = .ret (1, 1) ∧ wm 1 (1, 1) = .ret (1, 1) := by
  decide

/-- a sequence on one object whose first call stops the cycling phase mid-round (3 calls, n = 2) and whose second
call needs the cycling phase again: both answers are common fixed points; the counter advanced by 3 then 4 -/
example : andSeq (fun _ i p => wm i p) (fun (_ : Unit) p => p) 2 20 0 [(((5, 0) : Int × Int), []), ((0, 0), [])]
    = [(.success (5, 1) 2 3, { calls := 3 }), (.success (1, 1) 3 4, { calls := 4 })] := by
  decide

end MysticVerif.C17S
