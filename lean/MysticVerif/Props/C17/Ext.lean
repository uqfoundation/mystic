/-
C17 - the combinator clauses over `Model/CombinatorsX.lean`: every `except` clause of constraints.and_/or_/not_
(constraints.py), members as call-indexed, possibly non-deterministic oracles, iteration / draw bounds.
Property theorems only (helper lemmas live in Proofs/CombinatorsX.lean).

`c j x` : what member call number `j` (to member `j % n`) does on `x` (`Out`: returned `y`, raised a swallowed
`ZeroDivisionError` / `TypeError`-`ValueError`, raised something that propagates); `detc mem n` = deterministic
members `mem 0 .. mem (n-1)`.  All statements hold for EVERY draw stream `draws` and every replacement function
`rand`/`pick`; the `_oracle` / `_bounded` ones for EVERY member behaviour, deterministic or not.
-/
import MysticVerif.Proofs.CombinatorsX

namespace MysticVerif.C17X
open MysticVerif.CombX
open MysticVerif.Comb (Stats)

variable {X D : Type}

/-- **and_ / links, for ALL member behaviours** (deterministic or not, raising or not).  On success, each of the
newest `min links (n-1)` history links is a member call that RETURNED the result unchanged: call number `t - m`
(made to member `(t - m) % n`) mapped `y` to `y`, for `m < links`, `m + 1 < n`.
(`links` is the ghost count of genuine member applications since the last swallowed exception or random
replacement that changed a value; it is `≥ n` on every run without such an event inside the window.) -/
theorem and_success_links_oracle [BEq X] [LawfulBEq X] (c : Nat → X → Out X) (rand : D → X → X)
    (n cap : Nat) (x : X) (draws : List D) (y : X) (t links : Nat) (st : Stats)
    (hr : and_ c rand n cap x draws = (.success y t links, st)) :
    ∀ m, m < links → m + 1 < n → c (t - m) y = .ret y := by
  intro m hm hmn
  obtain ⟨a, ha, hay⟩ := (and_success_calls (Nat.zero_lt_of_lt hmn) hr).2 m hm (Nat.lt_of_succ_lt hmn)
  rw [hay hmn] at ha; exact ha

/-- **and_ / links**, deterministic members `mem 0 .. mem (n-1)`: member `(t - m) % n` leaves the result unchanged. -/
theorem and_success_links [BEq X] [LawfulBEq X] (mem : Nat → X → Out X) (rand : D → X → X)
    (n cap : Nat) (x : X) (draws : List D) (y : X) (t links : Nat) (st : Stats)
    (hr : and_ (detc mem n) rand n cap x draws = (.success y t links, st)) :
    ∀ m, m < links → m + 1 < n → mem ((t - m) % n) y = .ret y :=
  and_success_links_oracle (detc mem n) rand n cap x draws y t links st hr

/-- **and_ / all but one.** With an intact window (`n - 1 ≤ links`) every member except possibly
member `(t + 1) % n` - the one whose *output* the window ends with - leaves the result unchanged. -/
theorem and_success_fixed_all_but_one [BEq X] [LawfulBEq X] (mem : Nat → X → Out X) (rand : D → X → X)
    (n cap : Nat) (x : X) (draws : List D) (y : X) (t links : Nat) (st : Stats)
    (hr : and_ (detc mem n) rand n cap x draws = (.success y t links, st)) (hlinks : n - 1 ≤ links) :
    ∀ i, i < n → i ≠ (t + 1) % n → mem i y = .ret y := by
  intro i hi hne
  have ht := (and_success_calls (Nat.zero_lt_of_lt hi) hr).1
  obtain ⟨m, hm, hmi, hlast⟩ := exists_sub_mod_eq hi ht
  have hmn : m + 1 < n := Nat.lt_of_le_of_ne hm fun h => hne (hlast h)
  have := and_success_links mem rand n cap x draws y t links st hr m
    (Nat.lt_of_lt_of_le (Nat.lt_sub_of_add_lt hmn) hlinks) hmn
  rwa [hmi] at this

/-- a member is idempotent where it returns -/
def Idem (f : X → Out X) : Prop := ∀ a b, f a = .ret b → f b = .ret b

/-- **and_ / fixed point.** With idempotent members and an intact window (`n ≤ links`), a success of
`and_` returns a vector left unchanged by EVERY member. -/
theorem and_success_fixed [BEq X] [LawfulBEq X] (mem : Nat → X → Out X) (rand : D → X → X)
    (n cap : Nat) (x : X) (draws : List D) (y : X) (t links : Nat) (st : Stats)
    (hidem : ∀ i, i < n → Idem (mem i))
    (hr : and_ (detc mem n) rand n cap x draws = (.success y t links, st)) (hlinks : n ≤ links) :
    ∀ i, i < n → mem i y = .ret y := by
  intro i hi
  obtain ⟨ht, hwin⟩ := and_success_calls (Nat.zero_lt_of_lt hi) hr
  obtain ⟨m, hm, rfl, _⟩ := exists_sub_mod_eq hi ht
  -- call `t - m` went to member `i` and returned `y`
  obtain ⟨a, ha, _⟩ := hwin m (Nat.lt_of_lt_of_le hm hlinks) hm
  exact hidem _ hi a y ha

/-- **bounded iterations (and_).**  For EVERY member behaviour (non-deterministic, raising, anything), every
draw stream and every replacement function: `and_` makes at most `max n cap` member calls (`cap = maxiter * n`). -/
theorem and_calls_bounded [BEq X] (c : Nat → X → Out X) (rand : D → X → X)
    (n cap : Nat) (x : X) (draws : List D) : (and_ c rand n cap x draws).2.calls ≤ max n cap :=
  (and_stats c rand n cap x draws).1

/-- **bounded randomisation (and_).**  The cycle-breaker replaces `x[-1]` at most `cap - n` times (once per
iteration of the cycling phase at most; each replacement consumes `2 * len(x[-1])` draws of `random`), and never
before the first pass is over. -/
theorem and_draws_bounded [BEq X] (c : Nat → X → Out X) (rand : D → X → X)
    (n cap : Nat) (x : X) (draws : List D) : (and_ c rand n cap x draws).2.draws ≤ cap - n :=
  (and_stats c rand n cap x draws).2

/-! ### the two ways the full claim fails on the code as it is (known findings F7 / F7b) -/

/-- F7: one non-idempotent member (`x ↦ x+1 while x < 2`): `and_(c)([0])` succeeds with `1`, which `c` moves. -/
def witC : Nat → Nat → Out Nat := fun _ x => if x < 2 then .ret (x + 1) else .ret x
theorem and_not_fixed_witness :
    (and_ (detc witC 1) (fun (d : Nat) _ => d) 1 100 0 []).1 = .success 1 0 1 ∧ witC 0 1 ≠ .ret 1 := by
  decide

/-- F7b: three idempotent, conflicting members (identity, clamp to [1,3], clamp to [-4,0]) on `0`, two random
replacements that happen to produce `0` again: `and_` succeeds with `0`, which member 1 moves to `1`. -/
def witC3 : Nat → Int → Out Int := fun i x =>
  if i = 0 then .ret x else if i = 1 then .ret (max 1 (min 3 x)) else .ret (max (-4) (min 0 x))
theorem and_collision_witness :
    (and_ (detc witC3 3) (fun (d : Int) _ => d) 3 9 0 [0, 0]).1 = .success 0 5 1 ∧ witC3 1 0 ≠ .ret 0
      ∧ (∀ i a b, witC3 i a = .ret b → witC3 i b = .ret b) := by
  refine ⟨by decide, by decide, ?_⟩
  intro i a b h
  unfold witC3 at h ⊢
  by_cases h0 : i = 0
  · rw [if_pos h0]
  · rw [if_neg h0] at h ⊢
    by_cases h1 : i = 1
    · rw [if_pos h1] at h ⊢; cases h; rw [clamp_idem (by decide)]
    · rw [if_neg h1] at h ⊢; cases h; rw [clamp_idem (by decide)]

/-- **or_, for ALL member behaviours.** A success of `or_` returns a vector that one member call returned unchanged. -/
theorem or_success_fixed_oracle [BEq X] [LawfulBEq X] (c : Nat → X → Out X) (pick : D → Nat)
    (n cap : Nat) (x : X) (draws : List D) (y : X) (t links : Nat) (st : Stats)
    (hr : or_ c pick n cap x draws = (.success y t links, st)) : ∃ j, c j y = .ret y := by
  unfold or_ at hr
  cases hf : orFirst c x n 0 [x] false 0 with
  | succ y' calls =>
    rw [hf] at hr
    cases hr
    obtain ⟨i, _, _, h3⟩ := orFirst_success c x n 0 [x] false 0 hf
    exact ⟨i, h3⟩
  | raised calls => rw [hf] at hr; cases hr
  | cont h calls => rw [hf] at hr; exact ⟨t, orCycle_success c pick n cap _ _ _ _ _ hr⟩

/-- **or_.** A success of `or_` returns a vector left unchanged by at least one member. -/
theorem or_success_fixed [BEq X] [LawfulBEq X] (mem : Nat → X → Out X) (pick : D → Nat)
    (n cap : Nat) (x : X) (draws : List D) (y : X) (t links : Nat) (st : Stats)
    (hcap : n = 0 → cap = 0)      -- the code's cap is `maxiter * n`
    (hr : or_ (detc mem n) pick n cap x draws = (.success y t links, st)) : ∃ i, i < n ∧ mem i y = .ret y := by
  obtain ⟨j, hj⟩ := or_success_fixed_oracle _ pick n cap x draws y t links st hr
  by_cases hn : n = 0
  · -- no members: the first loop is empty and the cycling phase cannot run
    subst hn
    rw [hcap rfl] at hr
    cases hr
  · exact ⟨j % n, Nat.mod_lt _ (Nat.pos_of_ne_zero hn), hj⟩

/-- **bounded iterations (or_).**  For EVERY member behaviour and draw stream: at most `max n cap` member calls
and at most `cap - n` random picks (one `randint` each). -/
theorem or_calls_bounded [BEq X] (c : Nat → X → Out X) (pick : D → Nat)
    (n cap : Nat) (x : X) (draws : List D) :
    (or_ c pick n cap x draws).2.calls ≤ max n cap ∧ (or_ c pick n cap x draws).2.draws ≤ cap - n := by
  unfold or_
  obtain ⟨hf1, hf2⟩ := orFirst_calls c x n 0 [x] false 0
  cases hf : orFirst c x n 0 [x] false 0 with
  | succ y calls => rw [hf, Nat.zero_add] at hf1; exact stats_first _ _ hf1
  | raised calls => rw [hf, Nat.zero_add] at hf1; exact stats_first _ _ hf1
  | cont h calls =>
    have hc := hf2 h calls hf
    rw [Nat.zero_add] at hc
    rw [hc]
    exact stats_cycle (orCycle_stats c pick n cap (cap - n) n h draws { calls := n })

/-- **not_, for ALL member behaviours.** A success of `not_(c)` returns a vector that the member call that
examined it (call number `t`) changed. -/
theorem not_success_moved_oracle [BEq X] [LawfulBEq X] (c : Nat → X → Out X) (rand : D → X → X)
    (maxiter : Nat) (x : X) (draws : List D) (y : X) (t links : Nat) (st : Stats)
    (hr : not_ c rand maxiter x draws = (.success y t links, st)) : ∃ z, c t y = .ret z ∧ z ≠ y :=
  notLoop_success c rand maxiter 0 x draws {} hr

/-- **not_.** A success of `not_(c)` returns a vector that `c` changes. -/
theorem not_success_moved [BEq X] [LawfulBEq X] (mem : X → Out X) (rand : D → X → X)
    (maxiter : Nat) (x : X) (draws : List D) (y : X) (t links : Nat) (st : Stats)
    (hr : not_ (fun _ => mem) rand maxiter x draws = (.success y t links, st)) : ∃ z, mem y = .ret z ∧ z ≠ y :=
  not_success_moved_oracle (fun _ => mem) rand maxiter x draws y t links st hr

/-- **bounded iterations (not_).** For EVERY member behaviour: at most `maxiter` calls and `maxiter` replacements -/
theorem not_calls_bounded [BEq X] (c : Nat → X → Out X) (rand : D → X → X)
    (maxiter : Nat) (x : X) (draws : List D) :
    (not_ c rand maxiter x draws).2.calls ≤ maxiter ∧ (not_ c rand maxiter x draws).2.draws ≤ maxiter := by
  have := notLoop_stats c rand maxiter 0 x draws {}
  rwa [Nat.zero_add] at this

/-! ## non-vacuity: the hypotheses are met by concrete, non-trivial runs -/

/-- a cycling run (two clamps to [1,3] and [2,5] on `0`): success after the first pass failed, links intact,
    both members idempotent and both fix the result -/
def exC : Nat → Int → Out Int := fun i x => if i = 0 then .ret (max 1 (min 3 x)) else .ret (max 2 (min 5 x))
example : (and_ (detc exC 2) (fun (d : Int) _ => d) 2 20 0 []).1 = .success 2 2 3 ∧ exC 0 2 = .ret 2 ∧ exC 1 2 = .ret 2 := by
  decide

example : (or_ (detc (fun (i : Nat) (x : Int) => if i = 0 then .ret (x + 1) else .ret (max 0 x)) 2) (fun (d : Nat) => d)
    2 10 (-3) [1, 1, 1, 1]).1 = .success 0 3 1 := by decide

example : (not_ (fun _ (x : Int) => .ret (max 0 x)) (fun (d : Int) _ => d) 5 3 [7, -2]).1 = .success (-2) 2 0 := by
  decide

/-! ### exception classes and oracles: concrete runs (kernel-evaluated) -/

/-- a propagating exception stops the combinator at once: member 1 raises on its first call (call number 1):
no exit path, exactly 2 calls, no draw -/
example : and_ (detc (fun (i : Nat) (x : Int) => if i = 1 then .raise else .ret x) 2) (fun (d : Int) _ => d)
    2 20 5 [] = (.raised, { calls := 2, draws := 0 }) := by decide

/-- a swallowed `TypeError` blocks the first-pass success of `and_` exactly like a `ZeroDivisionError`
(both members leave `5` unchanged, member 0 raised once - call 0 - and is re-tried in the cycling phase) -/
example : (and_ (fun (j : Nat) (x : Int) => if j = 0 then .tverr else .ret x) (fun (d : Int) _ => d)
    2 20 5 []).1 = .success 5 2 2 := by decide

/-- `or_` treats the two swallowed classes differently (constraints.py l.653 vs l.658): after `ZeroDivisionError` the appended
entry is a copy of the member's input `x[-n]`, after `TypeError`/`ValueError` a copy of `x[-1]`; here the picked
replacement (`randint = 1`: keep the appended entry) makes the histories, and the final vectors, differ -/
theorem or_swallow_classes_differ :
    (or_ (fun (j : Nat) (x : Int) => if j = 0 then .ret 7 else if j = 1 then .ret 8 else .zdiv) (fun (d : Nat) => d)
      2 3 0 [1]).1 = .fail 7 ∧
    (or_ (fun (j : Nat) (x : Int) => if j = 0 then .ret 7 else if j = 1 then .ret 8 else .tverr) (fun (d : Nat) => d)
      2 3 0 [1]).1 = .fail 8 := by decide

/-- a NON-DETERMINISTIC member (its answer depends on the call number): `and_` reports success at `3` because call
2 returned `3` on `3` - which is all `and_success_links_oracle` claims (`n - 1 = 1` link) - although the same member
(call 0) moves `3` when asked again with its early behaviour -/
example : (and_ (fun (j : Nat) (x : Int) => if j < 2 then .ret (x + 1) else .ret x) (fun (d : Int) _ => d)
    2 20 1 []).1 = .success 3 2 3 := by decide

end MysticVerif.C17X
