/-
C17 - the penalty-combinator clause, stated on the penalty-OBJECT model of C15 (`Model/PenaltyTree.lean`:
`coupler.and_ / or_ / not_` build a penalty whose condition evaluates live member penalty objects).
"and_/or_ are zero exactly where all / any member penalties are zero; not_ penalises exactly the interior of the
region its member accepts."  `K` is any linearly ordered field; scalar operations read through `LawfulPenOps`.
The combined object is `T(cond, k, h)(lambda x: 0.)` (coupler.py l.205/248/289): base function zero.
-/
import MysticVerif.Proofs.Penalty
import MysticVerif.Proofs.PenaltyTree

-- the statements carry their section's instances, used or not
set_option linter.unusedSectionVars false

namespace MysticVerif.C17
open MysticVerif.Pen MysticVerif.C15

variable {K : Type} [Field K] [LinearOrder K] [IsStrictOrderedRing K] [PenOps K] [LawfulPenOps K]

private theorem evalT_zero_base (env : Env K) {l : Level K} {c : PC K} {z : Nat} {v a : K} (hz : env.f z = 0)
    (hc : condV env c = some v) (ha : term l v = .ok (.add a)) :
    evalT env (.pen l c (.base z)) = .ok (a + 0) := by
  rw [evalT_pen_base, hc, hz]
  exact evalStack_single_add 0 ha

private theorem scaled_abs_eq_zero {k h : K} (hk : 0 < k) (hh : 0 < h) (n : Int) (x : K) :
    k * h ^ n * |x| + 0 = 0 ↔ x = 0 := by
  rw [add_zero, mul_eq_zero, abs_eq_zero]
  exact or_iff_right (mul_pos hk (zpow_pos hh n)).ne'

/-- **penalty and_ (object level).**  `coupler.and_(p1..pm, k=k, h=h)` (default type `linear_equality`), at ANY
penalty iteration `n`: where every member returns a value (`vals`), none of them negative, the combined object
returns `k*h^n*|Σ vals|`, which is never negative and is ZERO EXACTLY WHERE ALL member penalties are zero. -/
theorem pen_tree_and_zero (env : Env K) (k h : K) (n : Int) (y : List K) (ms : PL K) (z : Nat) (vals : List K)
    (hk : 0 < k) (hh : 0 < h) (hz : env.f z = 0)
    (hv : valsL env ms = some vals) (h0 : ∀ v ∈ vals, 0 ≤ v) :
    evalT env (.pen { t := .lEq, k := k, h := h, n := n, y := y } (.and ms) (.base z))
        = .ok (k * h ^ n * |vals.sum| + 0)
      ∧ (k * h ^ n * |vals.sum| + 0 = 0 ↔ ∀ u ∈ vals, u = 0) := by
  refine ⟨?_, (scaled_abs_eq_zero hk hh n _).trans (sum_nonneg_zero_iff vals h0).2⟩
  rw [← andCond_eq_sum]
  exact evalT_zero_base env hz (condV_and env hv) (term_lEq rfl _ fun h0 => hh.ne' h0.1)

/-- a member that raises (`ZeroDivisionError`) makes the combination `inf`, not zero -/
theorem pen_tree_and_raise (env : Env K) (l : Level K) (ms : PL K) (z : Nat) (hv : valsL env ms = none) :
    evalT env (.pen l (.and ms) (.base z)) = .ok PenOps.inf := by
  simp only [evalT, condV, hv]

/-- **penalty or_ (object level).**  `coupler.or_(p0, p1..pm, k=k, h=h)`: the combined object returns
`k*h^n*|min vals|`: ZERO EXACTLY WHERE SOME member penalty is zero. -/
theorem pen_tree_or_zero (env : Env K) (k h : K) (n : Int) (y : List K) (m : PT K) (ms : PL K) (z : Nat)
    (v : K) (vals : List K) (hk : 0 < k) (hh : 0 < h) (hz : env.f z = 0)
    (hm : evalT env m = .ok v) (hv : valsL env ms = some vals) (hv0 : 0 ≤ v) (h0 : ∀ u ∈ vals, 0 ≤ u) :
    evalT env (.pen { t := .lEq, k := k, h := h, n := n, y := y } (.or m ms) (.base z))
        = .ok (k * h ^ n * |orCond v vals| + 0)
      ∧ (k * h ^ n * |orCond v vals| + 0 = 0 ↔ v = 0 ∨ ∃ u ∈ vals, u = 0) := by
  exact ⟨evalT_zero_base env hz (condV_or env hm hv) (term_lEq rfl _ fun h0 => hh.ne' h0.1),
    (scaled_abs_eq_zero hk hh n _).trans (orCond_zero_iff vals v hv0 h0).2⟩

/-- **penalty not_ (object level), inequality member types.**  `coupler.not_(p)` over a member of type
`uniform/quadratic/linear_inequality` (which ACCEPTS `cond x ≤ 0`) re-wraps `0 - cond` in the member's type:
the result is positive EXACTLY on the interior `cond x < 0` of the accepted region, and zero elsewhere. -/
theorem pen_tree_not_ineq (env : Env K) (l : Level K) (c : PC K) (z : Nat) (v : K)
    (ht : l.t = .uIneq ∨ l.t = .qIneq ∨ l.t = .lIneq) (hk : 0 < l.k) (hh : 0 < l.h) (hz : env.f z = 0)
    (hc : condV env c = some v) :
    ∃ w, evalT env (.pen l (.not l.t c) (.base z)) = .ok w ∧ 0 ≤ w ∧ (0 < w ↔ v < 0) := by
  have hconf : conforming l.t := Or.inr (Or.inr (Or.inr ht))
  have hne : l.t.isEq = false := by rcases ht with h | h | h <;> rw [h] <;> rfl
  obtain ⟨a, ha, h0, _, hpos⟩ := level_sign l (notCond l.t v) hconf hk hh
  refine ⟨a + 0, evalT_zero_base env hz (condV_not env l.t hc) ha, by rwa [add_zero], ?_⟩
  rw [add_zero, hpos, satisfied_notCond_ineq hne, not_le]

/-- **penalty not_ (object level), equality member types.**  Over a member of type
`quadratic/linear/uniform_equality` (which ACCEPTS `cond x = 0`) `not_` re-wraps `not cond` (1 where `cond x = 0`,
else 0): the result is positive EXACTLY where the member accepts, and zero elsewhere. -/
theorem pen_tree_not_eq (env : Env K) (l : Level K) (c : PC K) (z : Nat) (v : K)
    (ht : l.t = .qEq ∨ l.t = .lEq ∨ l.t = .uEq) (hk : 0 < l.k) (hh : 0 < l.h) (hz : env.f z = 0)
    (hc : condV env c = some v) :
    ∃ w, evalT env (.pen l (.not l.t c) (.base z)) = .ok w ∧ 0 ≤ w ∧ (0 < w ↔ v = 0) := by
  have hconf : conforming l.t := ht.imp_right fun h => h.imp_right Or.inl
  have he : l.t.isEq = true := by rcases ht with h | h | h <;> rw [h] <;> rfl
  obtain ⟨a, ha, h0, _, hpos⟩ := level_sign l (notCond l.t v) hconf hk hh
  refine ⟨a + 0, evalT_zero_base env hz (condV_not env l.t hc) ha, by rwa [add_zero], ?_⟩
  rw [add_zero, hpos, satisfied_notCond_eq he, not_not]

end MysticVerif.C17
