/-
C04 - best-so-far never worsens; counters, monitors and callbacks are faithful.

In the model the evaluation monitor IS the list of calls made to the user's cost (`log`, append-only) and the
evaluation counter is its length; what the theorems add is that no step ever rewrites or drops an entry, that
each entry is `(x, cost x)`, that each `_Step` appends exactly one `(best, bestEnergy)` record, and that the
recorded best energies never increase and end in the reported best.  The tie of `solver.evaluations`,
`len(evalmon)` and `generations` to these lists is the correspondence (`ctl`, `de`, `nm` commands) and the monitor.
The callback is checked on the implementation only.
-/
import MysticVerif.Proofs.Solver
import MysticVerif.Proofs.NelderMead
import MysticVerif.Proofs.PowellS
import MysticVerif.Props.C05

namespace MysticVerif.C04
open MysticVerif.Solver

variable {X E R : Type}

/-- **DE / DE2: the best-energy history is non-increasing**, for any trial vectors and any number of steps -/
theorem de_history_antitone [LinearOrder E] (o : Obj X E) (h : Hyp o) (pop : List X) (x0 : X)
    (trialss : List (List X)) :
    ((DE.run1 o trialss (DE.init o pop x0)).stepLog.map Prod.snd).Pairwise (· ≥ ·) :=
  (DE.run1_inv h trialss _ (DE.init_inv pop x0)).hist

/-- **DE / DE2: the last history entry is the reported (best solution, best energy)** -/
theorem de_last_history_is_best [LinearOrder E] (o : Obj X E) (ts : List X) (s : DE X E) :
    (DE.step1 o ts s).stepLog.getLast? = some ((DE.step1 o ts s).best, (DE.step1 o ts s).bestE) := by
  rw [DE.step1_stepLog]
  exact List.getLast?_concat

/-- **one step record per iteration** -/
theorem de_one_record_per_step [LinearOrder E] (o : Obj X E) :
    ∀ (trialss : List (List X)) (s : DE X E),
      (DE.run1 o trialss s).stepLog.length = s.stepLog.length + trialss.length := by
  intro trialss
  induction trialss with
  | nil => intro s; rfl
  | cons ts tss ih =>
    intro s
    refine (ih (DE.step1 o ts s)).trans ?_
    rw [DE.step1_stepLog, List.length_append, List.length_singleton, List.length_cons, Nat.add_assoc, Nat.add_comm 1]

/-- **the evaluation monitor is append-only** within a generation: earlier records are never rewritten, dropped or
reordered -/
theorem de_log_prefix [LinearOrder E] (o : Obj X E) :
    ∀ (ts : List X) (i : Nat) (s : DE X E), s.log <+: (DE.candidates1 o ts i s).log :=
  fun ts i s => (DE.candidates1_appended o ts i s).isPrefix

/-- **each record of the evaluation monitor is `(x, cost x)`** for a point the cost was really called at -/
theorem de_evalmon_records [LinearOrder E] (o : Obj X E) (h : Hyp o) (pop : List X) (x0 : X)
    (trialss : List (List X)) : ∀ p ∈ (DE.run1 o trialss (DE.init o pop x0)).log, p.2 = o.raw p.1 := by
  intro p hp
  exact ((DE.run1_inv h trialss _ (DE.init_inv pop x0)).logOK p hp).1

/-- the number of evaluations grows by at most one per candidate (out-of-box trials are not evaluated) -/
theorem de_evals_per_step [LinearOrder E] (o : Obj X E) :
    ∀ (ts : List X) (i : Nat) (s : DE X E), (DE.candidates1 o ts i s).log.length ≤ s.log.length + ts.length := by
  intro ts
  induction ts with
  | nil => intro i s; exact Nat.le_refl _
  | cons t ts ih =>
    intro i s
    unfold DE.candidates1
    refine le_trans (ih _ _) ?_
    rw [DE.select_log]
    have := objK_log_le o t s.log
    rw [List.length_cons, ← Nat.add_assoc, Nat.add_right_comm]
    exact Nat.add_le_add_right this _

/-- **Nelder-Mead: history non-increasing, last entry = reported best** (part of the invariant) -/
theorem nm_history [Add R] [Sub R] [Mul R] [Div R] [LinearOrder E] (o : Obj (Pt R) E) (h : Hyp o) (c : Coef R)
    (st : Pt R → Pt R) (hst : ∀ x, o.K (st x) = o.K x) (s : NM R E) (hs : NMInv o s) :
    (((NM.update o c st s).1.stepLog).map Prod.snd).Pairwise (· ≥ ·) ∧
    (NM.update o c st s).1.stepLog.getLast? = (NM.update o c st s).1.simplex.head? :=
  ⟨(NM.update_inv h c st hst s hs).hist, (NM.update_inv h c st hst s hs).lastIsBest⟩

/-- **`Step` changes the evaluation counter exactly by the evaluations its iteration made**, and not at all when
it stops before stepping -/
theorem step_evals (c : Ctl) (tp tq : Bool) (d : Delta) :
    (c.step tp tq d).1.evals = c.evals + (if (c.step tp tq d).2.2 = true then d.dEvals else 0) :=
  C05.step_evals c tp tq d

/-- **reconfiguration and restart keep the counter**: `Finalize` (reached through every `Set*` that re-decorates the
objective) and `SetEvaluationLimits` leave the evaluation counter untouched (finding F1 of DESIGN.md) -/
theorem finalize_setLimits_keep_evals (c : Ctl) (g e : Option Nat) (new : Bool) :
    c.finalize.evals = c.evals ∧ (c.setLimits g e new).evals = c.evals := by
  constructor
  · exact C05.finalize_evals c
  · unfold Ctl.setLimits; split <;> rfl

/-- over any sequence of `Step`s the counter is the initial count plus the evaluations of the iterations that ran -/
theorem evals_eq_sum_of_ran :
    ∀ (steps : List (Bool × Bool × Delta)) (c : Ctl),
      (steps.foldl (fun (acc : Ctl × Nat) s =>
          ((acc.1.step s.1 s.2.1 s.2.2).1,
           acc.2 + (if (acc.1.step s.1 s.2.1 s.2.2).2.2 = true then s.2.2.dEvals else 0))) (c, c.evals)).1.evals
      = (steps.foldl (fun (acc : Ctl × Nat) s =>
          ((acc.1.step s.1 s.2.1 s.2.2).1,
           acc.2 + (if (acc.1.step s.1 s.2.1 s.2.2).2.2 = true then s.2.2.dEvals else 0))) (c, c.evals)).2 := by
  intro steps
  suffices h : ∀ (c : Ctl) (n : Nat), c.evals = n →
      (steps.foldl (fun (acc : Ctl × Nat) s =>
          ((acc.1.step s.1 s.2.1 s.2.2).1,
           acc.2 + (if (acc.1.step s.1 s.2.1 s.2.2).2.2 = true then s.2.2.dEvals else 0))) (c, n)).1.evals
      = (steps.foldl (fun (acc : Ctl × Nat) s =>
          ((acc.1.step s.1 s.2.1 s.2.2).1,
           acc.2 + (if (acc.1.step s.1 s.2.1 s.2.2).2.2 = true then s.2.2.dEvals else 0))) (c, n)).2 from
    fun c => h c c.evals rfl
  induction steps with
  | nil => intro c n h; exact h
  | cons s ss ih =>
    intro c n h
    simp only [List.foldl_cons]
    apply ih
    rw [step_evals, h]

/-- non-vacuity: the history of a concrete run really decreases -/
def C04ex : Obj Int Int :=
  { raw := fun x => x * x, pen := fun _ => 0, K := id, inBox := fun _ => true, useRange := false, top := 1000000, add := (· + ·) }
example : ((DE.run1 C04ex [[7, 3], [1, -8], [0, 2]] (DE.init C04ex [7, 3] 7)).stepLog.map Prod.snd) = [9, 1, 0] := by
  decide

open MysticVerif.PowellS

/-- **Powell: the best-energy history (`energy_history`: the step monitor's energies plus the deferred entry of the
iteration in progress) is non-increasing**, given the contract of the line search (`LsMono`: a search never returns
a point worse than its start - Brent's bracket contains `alpha = 0`; checked on every recorded search) -/
theorem pw_history_antitone [Sub R] [Mul R] [LinearOrder E] (o : Obj (Pt R) E) (h : Hyp o) (c : PwCfg R E)
    (ls : Nat → Pt R → Pt R → LsRec R) (hm : LsMono o ls) (record : Bool) (x0 : Pt R) (direc : List (Pt R))
    (hd : direc ≠ []) (n : Nat) : (reach o c ls record x0 direc n).hist.Pairwise (· ≥ ·) :=
  (reach_hist h c ls hm record x0 direc hd n).anti

/-- **Powell: the last history entry is the reported best energy** -/
theorem pw_last_history_is_best [Sub R] [Mul R] [LinearOrder E] (o : Obj (Pt R) E) (c : PwCfg R E)
    (ls : Nat → Pt R → Pt R → LsRec R) (record : Bool) (x0 : Pt R) (direc : List (Pt R)) (n : Nat) :
    (reach o c ls record x0 direc n).hist.getLast? = some (reach o c ls record x0 direc n).fval := by
  have hp : (reach o c ls record x0 direc n).pending = true :=
    run_induction o c ls (fun s => s.pending = true) (fun s _ => (sweep_stepLog o c ls _).2) n _
      (sweep_stepLog o c ls _).2
  rw [hist_of_pending hp, List.getLast?_concat]

/-- **Powell: the evaluation monitor is append-only** over any number of `_Step`s -/
theorem pw_log_prefix [Sub R] [Mul R] [LinearOrder E] (o : Obj (Pt R) E) (c : PwCfg R E)
    (ls : Nat → Pt R → Pt R → LsRec R) (n : Nat) (s : Pw R E) : ∃ t, (run o c ls n s).log = s.log ++ t :=
  run_log_prefix o c ls n s

/-- **Powell: each entry of the evaluation monitor is `(x, cost x)`** -/
theorem pw_evalmon_records [Sub R] [Mul R] [LinearOrder E] (o : Obj (Pt R) E) (h : Hyp o) (c : PwCfg R E)
    (ls : Nat → Pt R → Pt R → LsRec R) (record : Bool) (x0 : Pt R) (direc : List (Pt R)) (hd : direc ≠ []) (n : Nat) :
    ∀ p ∈ (reach o c ls record x0 direc n).log, p.2 = o.raw p.1 := by
  intro p hp
  exact ((reach_inv h c ls record x0 direc hd n).logOK p hp).1

/-- **Powell: exactly one step record per `_Step` at generation >= 2** (the record of an iteration is written by the
NEXT `_Step`, or by `Finalize`: control model `Ctl`, `powell := true`) -/
theorem pw_one_record_per_step [Sub R] [Mul R] [LinearOrder E] (o : Obj (Pt R) E) (c : PwCfg R E)
    (ls : Nat → Pt R → Pt R → LsRec R) (n : Nat) (s : Pw R E) :
    (run o c ls n s).stepLog.length = s.stepLog.length + n :=
  run_stepLog_length o c ls n s

/-- at most one record in the evaluation monitor per call of the decorated cost -/
theorem pw_at_most_one_record_per_call (o : Obj (Pt R) E) (x : Pt R) (log : List (Pt R × E)) :
    (o.objK x log).2.length ≤ log.length + 1 := objK_log_length o x log

end MysticVerif.C04
