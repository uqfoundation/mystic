/-
C12 - symbolic rewriting preserves the solution set (verified validator).
Property theorems only (helper lemmas: Proofs/Symbolic.lean, Symbolic2.lean, SymbolicTop.lean).  Line numbers `l.N`: mystic/symbolic.py.

`K` is an arbitrary linearly ordered field; a point is `x : Nat → K`.  The harness parses the input text
and the text the real `simplify / solve / linear_symbolic / symbolic_bounds` returned on THIS run into
`Item`s / `Line`s with exact rational coefficients and runs `validate / solveOK / sameSystem` at `K := Rat`
(`Drv/C12.lean`).  The theorems below say: whenever those Boolean functions answer `true`, the two texts are
satisfied by exactly the same points - for every system, every number of variables and lines, every
coefficient, every comparator.  (Nothing is claimed when they answer `false`: then the harness searches a
separating point.)

DESIGN.md C12 list -> names here, where they differ:
  signcase_sound -> signcase_sound, signcase_sound_general       cert_sound -> cert_sound, solve_validator_sound
  matrix_text_sound -> matrix_rows_spec + matrix_text_sound, bounds_rows_spec + bounds_text_sound
Beyond that list:
  simplify_validator_sound : the end-to-end statement for `simplify(..., all=True)`
  merge_exclusive_sound / merge_exclusive_none / merge_inclusive_partial / merge_inclusive_drops_witness /
        merge_inclusive_ne_witness : the literal `merge` decision table, incl. the defect of applying the
        inclusive table to a conjunction (l.582)
  absolute values (absval pre-pass) and product divisors (Model/Symbolic2.lean): abs_expand_sound,
        signcase_product_sound, simplify_validator_sound_ext, simplify_validator_sound_abs
  the string-free cores of symbolic.py (`flip`, `comparator`, `equals`, the test-point decision): flip_*_factor_sound,
        flipB_complement, comparator_*, equals_spec, testpoint_*, merge_exclusive_none_iff_partial_witness
  the top level of `simplify` (Model/SymbolicTop.lean; absval cases -> one `_simplify` per case -> flatten -> select,
        as a function of THIS call's values only): simplify_top_*, single_case_not_whole_witness
-/
import MysticVerif.Proofs.Symbolic
import MysticVerif.Proofs.Symbolic2
import MysticVerif.Proofs.SymbolicTop
import MysticVerif.Proofs.ScalarFacts

namespace MysticVerif.C12
open MysticVerif.Sym

-- fixed statements carry binders their proofs do not use
set_option linter.unusedSectionVars false

section orderedField
variable {K : Type} [Field K] [LinearOrder K] [IsStrictOrderedRing K]

/-- all lines of a system hold at `x` -/
def satAll (s : List (Line K)) (x : Nat → K) : Prop := ∀ ln ∈ s, ln.sat x

/-- **isolate / flip rule.**  Isolating `x_i` from `c * x_i + r ⋈ 0` divides by `c`: the comparator is kept
for `0 < c` and flipped (`_flip`, `=` and `!=` untouched) for `c < 0`. -/
theorem isolate_sound (cmp : Cmp) (c xi r : K) (hc : c ≠ 0) :
    cmp.holds (c * xi + r) 0 ↔ (if 0 < c then cmp else cmp.flip).holds xi (-r / c) := by
  have key : (c * xi + r) / c = xi - -r / c := by
    simp only [add_div, mul_div_cancel_left₀ xi hc, neg_div, sub_neg_eq_add]
  rw [Cmp.holds_sub _ xi, ← key]
  exact Cmp.holds_div cmp _ hc

omit [Field K] [IsStrictOrderedRing K] in
/-- **flip(bounds=True)** of an inequality is its complement (l.197-199) -/
theorem flipB_complement (cmp : Cmp) (hi : cmp.isIneq = true) (a b : K) : cmp.flipB.holds a b ↔ ¬ cmp.holds a b := by
  cases cmp
  case lt => exact not_lt.symm
  case le => exact not_le.symm
  case gt => exact not_lt.symm
  case ge => exact not_le.symm
  all_goals cases hi

/-- **sign cases (general divisor).** Where the divisor `q` is non-zero, `p / q ⋈ r` holds iff
`0 < q ∧ p ⋈ r*q` or `q < 0 ∧ p (flip ⋈) r*q`. -/
theorem signcase_sound_general (cmp : Cmp) (p q r : K) (hq : q ≠ 0) :
    cmp.holds (p / q) r ↔ (0 < q ∧ cmp.holds p (r * q)) ∨ (q < 0 ∧ cmp.flip.holds p (r * q)) :=
  (and_iff_right hq).symm.trans (Cmp.signcase_iff cmp p q r)

/-- **sign cases, as in the property: the direction depends on the sign of one variable factor.**
With `q = c * x_k`, `c ≠ 0`: the cases are the sign of `x_k` (swapped when `c < 0`). -/
theorem signcase_sound (cmp : Cmp) (p c xk r : K) (hc : c ≠ 0) (hx : xk ≠ 0) :
    cmp.holds (p / (c * xk)) r ↔
      ((if 0 < c then 0 < xk else xk < 0) ∧ cmp.holds p (r * (c * xk))) ∨
      ((if 0 < c then xk < 0 else 0 < xk) ∧ cmp.flip.holds p (r * (c * xk))) := by
  -- with the sign of `c` known two of the four product cases are empty
  refine ((and_iff_right (mul_ne_zero hc hx)).symm.trans (Cmp.signcase_mul_iff cmp p c xk r)).trans ?_
  rcases hc.lt_or_gt with h | h
  · simp only [h, h.not_gt, if_false, true_and, false_and, false_or]
    exact or_comm
  · simp only [h, h.not_gt, if_true, true_and, false_and, or_false]

/-- **canonLine.** The canonical lines of a line (difference of the sides, trailing zeros stripped, divided by
the leading coefficient with the comparator flipped for a negative one, `=` split into `≥`,`≤`) hold exactly
where the line holds. -/
theorem canonLine_sound (ln : Line K) (x : Nat → K) : (∀ c ∈ canonLine ln, c.sat x) ↔ ln.sat x :=
  canonLine_sat ln x

/-- **canonSys.** Systems with the same set of canonical lines have the same solutions. -/
theorem canonSys_sound (a b : List (Line K)) (h : sameSet (canonSys a) (canonSys b) = true) (x : Nat → K) :
    satAll a x ↔ satAll b x :=
  (canonSys_sat a x).symm.trans
    ((forall_congr' fun c => imp_congr_left (sameSet_mem h c)).trans (canonSys_sat b x))

/-- **simplify, end to end.** If the validator accepts, then the input system (linear lines and rational
relations `p / q ⋈ r`, the latter unsatisfied where `q = 0`) is satisfied at `x` iff SOME returned case has
all its lines (its sign conditions included) satisfied at `x`. -/
theorem simplify_validator_sound (inp : List (Item K)) (out : List (List (Line K)))
    (h : validate inp out = true) (x : Nat → K) :
    (∀ it ∈ inp, it.sat x) ↔ ∃ s ∈ out, satAll s x :=
  (expand_sound inp x).trans (dnfEquiv_canon h x)

/-- for a purely linear input and a single returned text: same points -/
theorem simplify_validator_sound_linear (inp out : List (Line K))
    (h : validate (inp.map Item.lin) [out] = true) (x : Nat → K) : satAll inp x ↔ satAll out x := by
  have := dnfEquiv_canon (A := [inp]) (B := [out]) (expand_lin inp ▸ h) x
  simp only [List.mem_singleton, exists_eq_left] at this
  exact this

/-- **certificate.** If every output equation is the stated combination of the input equations and vice versa
(checked exactly), both systems `p = 0` have the same solutions. -/
theorem cert_sound (inp out : List (Form K)) (A B : List (List K)) (h : certOK inp out A B = true)
    (x : Nat → K) : (∀ p ∈ inp, p.eval x = 0) ↔ (∀ p ∈ out, p.eval x = 0) := by
  simp only [certOK, Bool.and_eq_true] at h
  exact ⟨combOK_sound A inp out h.1 x, combOK_sound B out inp h.2 x⟩

/-- **solve, end to end.** If `solveOK` accepts the parsed input and the parsed solved form, they have exactly
the same solutions. -/
theorem solve_validator_sound (inp out : List (Line K)) (A B : List (List K))
    (h : solveOK inp out A B = true) (x : Nat → K) : satAll inp x ↔ satAll out x := by
  unfold solveOK at h
  split at h
  · rename_i fi fo hi ho
    exact (eqForms_sat inp fi hi x).trans ((cert_sound fi fo A B h x).trans (eqForms_sat out fo ho x).symm)
  · simp at h

/-- the rows built from the matrices mean `A x = b ∧ G x ≤ h` (row by row) -/
theorem matrix_rows_spec (A : List (List K)) (b : List K) (G : List (List K)) (h : List K) (x : Nat → K) :
    satAll (matrixRows A b G h) x ↔
      (∀ p ∈ A.zip b, dot p.1 x 0 = p.2) ∧ (∀ p ∈ G.zip h, dot p.1 x 0 ≤ p.2) :=
  List.forall_mem_append.trans ((and_congr (leRows_sat G h x) (eqRows_sat A b x)).trans and_comm)

/-- **linear_symbolic.** If the validator accepts the parsed text against the rows of the matrices, the text
holds exactly where `A x = b` and `G x ≤ h`. -/
theorem matrix_text_sound (A : List (List K)) (b : List K) (G : List (List K)) (h : List K)
    (txt : List (Line K)) (hv : sameSystem (matrixRows A b G h) txt = true) (x : Nat → K) :
    satAll txt x ↔ (∀ p ∈ A.zip b, dot p.1 x 0 = p.2) ∧ (∀ p ∈ G.zip h, dot p.1 x 0 ≤ p.2) :=
  (simplify_validator_sound_linear _ _ hv x).symm.trans (matrix_rows_spec A b G h x)

/-- the rows built from the bounds mean `lo_i ≤ x_i ≤ hi_i`, infinite sides (`none`) omitted -/
theorem bounds_rows_spec (lo hi : List (Option K)) (x : Nat → K) :
    satAll (boundRows lo hi) x ↔
      (∀ i v, lo[i]? = some (some v) → v ≤ x i) ∧ (∀ i v, hi[i]? = some (some v) → x i ≤ v) := by
  have h1 := loRows_sat 0 lo x
  have h2 := hiRows_sat 0 hi x
  simp only [Nat.zero_add] at h1 h2
  exact List.forall_mem_append.trans (and_congr h1 h2)

/-- **symbolic_bounds.** If the validator accepts, the text holds exactly inside the box. -/
theorem bounds_text_sound (lo hi : List (Option K)) (txt : List (Line K))
    (hv : sameSystem (boundRows lo hi) txt = true) (x : Nat → K) :
    satAll txt x ↔ (∀ i v, lo[i]? = some (some v) → v ≤ x i) ∧ (∀ i v, hi[i]? = some (some v) → x i ≤ v) :=
  (simplify_validator_sound_linear _ _ hv x).symm.trans (bounds_rows_spec lo hi x)

/-! ## `merge` (the literal decision tables, l.277-303) -/

/-- **merge, exclusive table** (the one `_simplify` applies to each product of cases, l.786): when it returns
lines, they hold exactly where all the given lines hold (for every meaning `v` of the line texts). -/
theorem merge_exclusive_sound {E : Type} [DecidableEq E] (v : E → K × K) (eqs out : List (TLine E))
    (h : mergeExcl eqs = some out) : (∀ l ∈ eqs, l.holds v) ↔ ∀ l ∈ out, l.holds v := by
  obtain ⟨-, hout⟩ := Option.ite_none_left_eq_some.mp h
  rw [← Option.some.inj hout, exclStep_iff v eqs]
  exact forall_congr' fun l => by rw [mem_dedup]; exact Iff.rfl

/-- when the exclusive table answers `None`, the lines have no common solution (dropping the case is right) -/
theorem merge_exclusive_none {E : Type} [DecidableEq E] (v : E → K × K) (eqs : List (TLine E))
    (h : mergeExcl eqs = none) : ¬ ∀ l ∈ eqs, l.holds v := by
  intro hall
  have hs1 := (exclStep_iff v eqs).mp hall
  -- `None` is only returned when the test of the table fires
  have hany := of_not_not fun hc => by
    unfold mergeExcl at h
    rw [if_neg hc] at h
    cases h
  simp only [List.any_eq_true, Bool.and_eq_true, Bool.or_eq_true, decide_eq_true_eq] at hany
  obtain ⟨i, hi, hineq, hf | hf⟩ := hany
  · have h1 := hs1 i hi
    have h2 := hs1 _ hf
    obtain ⟨e, c⟩ := i
    cases c
    case lt => exact lt_asymm h1 h2
    case gt => exact lt_asymm h1 h2
    -- `(e, <=)` and `(e, >=)` cannot both survive the first pass: it turns each of them into `(e, =)`
    case le => exact (mem_exclStep_of_ne_eq hi nofun).2 ⟨rfl, (mem_exclStep_of_ne_eq hf nofun).1⟩
    case ge => exact (mem_exclStep_of_ne_eq hi nofun).2 ⟨rfl, (mem_exclStep_of_ne_eq hf nofun).1⟩
    all_goals cases hineq
  · exact (flipB_complement _ hineq _ _).mp (hs1 _ hf) (hs1 i hi)

/-- **merge, inclusive table.**  It only weakens a conjunction: where all given lines hold, all returned lines hold.
The converse is false (`merge_inclusive_drops_witness`, `merge_inclusive_ne_witness`), and `absval` (l.582) applies
this table to the conjunction of the input lines of `simplify`. -/
theorem merge_inclusive_partial {E : Type} [DecidableEq E] (v : E → K × K) (eqs : List (TLine E))
    (h : ∀ l ∈ eqs, l.holds v) : ∀ l ∈ mergeIncl eqs, l.holds v := by
  intro l hl
  unfold mergeIncl at hl
  simp only [mem_dedup, List.mem_filter, List.mem_map] at hl
  obtain ⟨⟨i, hi, rfl⟩, _⟩ := hl
  have h1 := h i hi
  split
  · rename_i hc
    obtain ⟨e, c⟩ := i
    cases c
    case lt => exact ne_of_lt h1
    case gt => exact ne_of_gt h1
    all_goals cases hc.1
  · exact h1

/-- **absval pre-pass (symbolic.py l.490-583).** A relation with terms `c_k * abs(a_k)` on its left side / in its
numerator holds at `x` iff for SOME choice of signs all conditions (`a_k >= 0` where abs was replaced by `+`,
`a_k <= 0` where by `-`) hold and the relation with `abs` replaced accordingly holds.  For all term lists, items, points. -/
theorem abs_expand_sound (ts : List (K × Form K)) (it : Item K) (x : Nat → K) :
    (XItem.absl ts it).sat x ↔ ∃ p ∈ absExpand ts it, (∀ ln ∈ p.1, ln.sat x) ∧ p.2.sat x :=
  absExpand_sound ts it x

/-- `absK` (the model of python's `abs`) is the absolute value of the field -/
theorem absK_spec (a : K) : absK a = |a| := ite_neg_eq_abs a

/-- **sign cases for a divisor that is a product of two factors**: four cases, the comparator flipped exactly when
one factor is negative. -/
theorem signcase_product_sound (cmp : Cmp) (p q1 q2 r : K) (h : q1 * q2 ≠ 0) :
    cmp.holds (p / (q1 * q2)) r ↔
      (0 < q1 ∧ 0 < q2 ∧ cmp.holds p (r * (q1 * q2))) ∨ (0 < q1 ∧ q2 < 0 ∧ cmp.flip.holds p (r * (q1 * q2))) ∨
      (q1 < 0 ∧ 0 < q2 ∧ cmp.flip.holds p (r * (q1 * q2))) ∨ (q1 < 0 ∧ q2 < 0 ∧ cmp.holds p (r * (q1 * q2))) :=
  (and_iff_right h).symm.trans (Cmp.signcase_mul_iff cmp p q1 q2 r)

/-- **simplify, end to end, extended class.** If the extended validator accepts, then at every point `x` at which the
extra variables mean the monomials they stand for (`x m = x i * x j` for every product divisor), the input - linear
lines, rational relations, relations with absolute values, rational relations with a product divisor - holds iff some
returned case holds. -/
theorem simplify_validator_sound_ext (inp : List (XItem K)) (out : List (List (Line K)))
    (h : validateX inp out = true) (x : Nat → K) (hy : ∀ it ∈ inp, it.hyp x) :
    (∀ it ∈ inp, it.sat x) ↔ ∃ s ∈ out, satAll s x :=
  (expandX_sound inp x hy).trans (dnfEquiv_canon h x)

/-- without product divisors there is no side condition: absolute values, all points -/
theorem simplify_validator_sound_abs (inp : List (List (K × Form K) × Item K)) (out : List (List (Line K)))
    (h : validateX (inp.map fun p => XItem.absl p.1 p.2) out = true) (x : Nat → K) :
    (∀ it ∈ inp.map (fun p => XItem.absl p.1 p.2), it.sat x) ↔ ∃ s ∈ out, satAll s x :=
  simplify_validator_sound_ext _ out h x (by
    intro it hit
    obtain ⟨p, _, rfl⟩ := List.mem_map.mp hit
    trivial)

/-- **flip.** Multiplying both sides by a negative factor: the relation holds iff the FLIPPED relation holds between
the products (`flip`, symbolic.py l.200-212; `=`, `!=` untouched). -/
theorem flip_neg_factor_sound (cmp : Cmp) (c a b : K) (hc : c < 0) :
    cmp.holds a b ↔ cmp.flip.holds (c * a) (c * b) :=
  Cmp.holds_mul_neg cmp hc a b

/-- ... and by a positive factor the relation is kept -/
theorem flip_pos_factor_sound (cmp : Cmp) (c a b : K) (hc : 0 < c) :
    cmp.holds a b ↔ cmp.holds (c * a) (c * b) :=
  Cmp.holds_mul_pos cmp hc a b

/-- **the test-point decision of `_simplify1` (l.738-741).** Let the isolated form be `a cmp b` and let the original
line be equivalent, in the sign region of the test point, to `a cmp b` (`s = true`) or to `a flip(cmp) b`
(`s = false`).  If the test point is not on the boundary (`a ≠ b`), then `equals` answers `s`, i.e. the comparator that
is emitted, `flipDecision cmp eq`, is the right one. -/
theorem testpoint_decides_flip (cmp : Cmp) (hi : cmp.isIneq = true) (s : Bool) (a b : K) (hab : a ≠ b) (before : Bool)
    (hb : before = true ↔ (if s = true then cmp else cmp.flip).holds a b) (errors : Bool) :
    equalsM errors (some before) (some (cmp.test a b)) = .val s ∧
    flipDecision cmp (before == cmp.test a b) = (if s = true then cmp else cmp.flip) := by
  -- off the boundary `_flip` is the complement
  have key : (before == cmp.test a b) = s := by
    cases s
    · rw [if_neg Bool.false_ne_true, Cmp.flip_holds_of_ne cmp hab, flipB_complement cmp hi, ← Cmp.test_iff] at hb
      exact beq_eq_false_iff_ne.mpr fun e => iff_not_self (e ▸ hb)
    · rw [if_pos rfl, ← Cmp.test_iff] at hb
      exact beq_iff_eq.mpr (Bool.eq_iff_iff.mpr hb)
  exact ⟨congrArg EqRes.val key, by rw [key]; rfl⟩

end orderedField

/-- the hypothesis `a ≠ b` is needed: at a test point ON the boundary of a weak inequality both directions hold, `equals`
answers True and the comparator is kept even when it has to be flipped (`-x0 <= 0` tested at `x0 = 0` gives `x0 <= 0`;
the real test point is random in (-1,1), so this has probability zero - reproduced with `rand=lambda: 0.5`). -/
theorem testpoint_on_boundary_witness :
    ∃ (cmp : Cmp) (a b : ℚ) (before : Bool), cmp.isIneq = true ∧ (before = true ↔ cmp.flip.holds a b) ∧
      equalsM true (some before) (some (cmp.test a b)) = .val true ∧ flipDecision cmp (before == cmp.test a b) ≠ cmp.flip :=
  ⟨.le, 0, 0, true, rfl, iff_of_true rfl (le_refl (0 : ℚ)), by decide, by decide⟩

/-- the flip is necessary: without it the rewritten line is wrong (witness `-x > 2` vs `x > -2` at `x = 0`) -/
theorem isolate_noflip_wrong : ¬ (∀ (c xi r : ℚ), c ≠ 0 → (Cmp.gt.holds (c * xi + r) 0 ↔ Cmp.gt.holds xi (-r / c))) := by
  intro h
  have := h (-1) 0 (-2) (by norm_num)
  simp only [Cmp.holds] at this
  norm_num at this

/-- `_flip` leaves `=` and `!=` alone and is an involution -/
theorem flip_eq_ne : Cmp.eq.flip = .eq ∧ Cmp.ne.flip = .ne ∧ ∀ c : Cmp, c.flip.flip = c :=
  ⟨rfl, rfl, Cmp.flip_flip⟩

/-- witness: `['A >= B', 'A <= B', 'C > D']` is merged (inclusive) to `['C > D']`; at `A=5, B=1, C=1, D=0` the
result holds and the input does not.  (`simplify("x0 >= 1\nx0 <= 1\nx1 > 0")` returns `"x1 > 0"`.) -/
theorem merge_inclusive_drops_witness :
    mergeIncl [(⟨0, .ge⟩ : TLine Nat), ⟨0, .le⟩, ⟨1, .gt⟩] = [⟨1, .gt⟩] ∧
    ∃ v : Nat → ℚ × ℚ, (∀ l ∈ mergeIncl [(⟨0, .ge⟩ : TLine Nat), ⟨0, .le⟩, ⟨1, .gt⟩], l.holds v) ∧
      ¬ ∀ l ∈ [(⟨0, .ge⟩ : TLine Nat), ⟨0, .le⟩, ⟨1, .gt⟩], l.holds v := by
  have e : mergeIncl [(⟨0, .ge⟩ : TLine Nat), ⟨0, .le⟩, ⟨1, .gt⟩] = [⟨1, .gt⟩] := by decide
  refine ⟨e, fun n => if n = 0 then (5, 1) else (1, 0), ?_, fun h => ?_⟩
  · rw [e, List.forall_mem_singleton]
    exact (zero_lt_one : (0 : ℚ) < 1)
  · have : (5 : ℚ) ≤ 1 := h ⟨0, .le⟩ (.tail _ (.head _))
    norm_num at this

/-- witness: `['A > B', 'A < B']` (no solution) is merged (inclusive) to `['A != B']` (almost everything) -/
theorem merge_inclusive_ne_witness :
    mergeIncl [(⟨0, .gt⟩ : TLine Nat), ⟨0, .lt⟩] = [⟨0, .ne⟩] ∧
    ∃ v : Nat → ℚ × ℚ, (∀ l ∈ mergeIncl [(⟨0, .gt⟩ : TLine Nat), ⟨0, .lt⟩], l.holds v) ∧
      ¬ ∀ l ∈ [(⟨0, .gt⟩ : TLine Nat), ⟨0, .lt⟩], l.holds v := by
  have e : mergeIncl [(⟨0, .gt⟩ : TLine Nat), ⟨0, .lt⟩] = [⟨0, .ne⟩] := by decide
  refine ⟨e, fun _ => (1, 0), ?_, fun h => ?_⟩
  · rw [e, List.forall_mem_singleton]
    exact (one_ne_zero : (1 : ℚ) ≠ 0)
  · have : (1 : ℚ) < 0 := h ⟨0, .lt⟩ (.tail _ (.head _))
    exact not_lt.mpr zero_le_one this

/-- **comparator.** On a line that contains exactly one comparator text (and maybe a second copy of it), the priority
table over `str.count` (l.189-192) returns that text although `<=` also contains `<` and `=` etc. -/
theorem comparator_single_token (c : CTok) : comparatorOf c.toks = some c ∧ comparatorOf Toks.none = none := by
  cases c <;> decide

/-- with two different comparator texts on a line the result is the one of higher priority, not the first one
(`a > b <= c` gives `<=`): lines of constraints contain one comparator -/
theorem comparator_priority_witness : comparatorOf (CTok.gt.toks.or CTok.le.toks) = some .le := by decide

/-- **equals** (l.425-487): when both texts evaluate, the answer is whether the two truth values agree; with
`error=False` two failing evaluations count as equal, one failing as different; with `error=True` any failure is re-raised -/
theorem equals_spec (errors : Bool) (b a : Bool) :
    equalsM errors (some b) (some a) = .val (b == a) ∧
    equalsM false none none = .val true ∧ equalsM false (some b) none = .val false ∧
    equalsM false none (some a) = .val false ∧
    equalsM true none none = .zde ∧ equalsM true (some b) none = .zde ∧ equalsM true none (some a) = .zde :=
  ⟨rfl, rfl, rfl, rfl, rfl, rfl, rfl⟩

/-- **merge(inclusive=False) does not recognise every empty system.**  `['A > 3', 'A < 2']` has no solution and is
returned unchanged: the table only sees opposite bounds with literally the same sides.  So of
`mergeExcl eqs = none ↔ no common solution` only `→` holds (`merge_exclusive_none`). -/
theorem merge_exclusive_none_iff_partial_witness :
    mergeExcl [(⟨0, .gt⟩ : TLine Nat), ⟨1, .lt⟩] = some [⟨0, .gt⟩, ⟨1, .lt⟩] ∧
    ∀ A : ℚ, ¬ ∀ l ∈ [(⟨0, .gt⟩ : TLine Nat), ⟨1, .lt⟩], l.holds (fun e => if e = 0 then (A, 3) else (A, 2)) := by
  refine ⟨by decide, fun A h => ?_⟩
  have h0 : (3 : ℚ) < A := h ⟨0, .gt⟩ (.head _)
  have h1 : A < (2 : ℚ) := h ⟨1, .lt⟩ (.tail _ (.head _))
  exact absurd (h0.trans h1) (by norm_num)

/-! ## the top level of `simplify`: every call computes every case anew -/

section top
variable {T U X : Type}

/-- the points at which what `_simplify` returned for one case holds: SOME returned text holds (`None` = a case
without solutions contributes nothing) -/
def retHolds (sat : U → X → Prop) (r : Ret U) (x : X) : Prop := ∃ u, some u ∈ r.elems ∧ sat u x

/-- the points at which what `simplify` returned holds: some returned case holds -/
def topHolds (sat : U → X → Prop) (t : TopRet U) (x : X) : Prop := ∃ u, some u ∈ t.cases ∧ sat u x

/-- **simplify(all=True) returns EVERY case of EVERY `_simplify` result of this call** (l.807-810): the returned
cases are the elements of `simple ci` for the case texts `ci` of `absval`, in order, nothing selected away.  (This is
the statement that the module-level memo of `_simplify`, DESIGN.md C12-5, breaks: it answers with the single case of an
earlier `all=False` call.) -/
theorem simplify_top_all_complete (r : Nat) (cons : Ret T) (simple : T → Ret U) :
    (simplifyTop true r cons simple).cases = cons.texts.flatMap fun c => (simple c).elems := by
  rw [simplifyTop, selectTop_all_cases, topEqns_eq_flatMap]

/-- **simplify(all=True), end to end over the abs cases.**  If for every case text `c` of `absval` the value
`_simplify` returns for `c` IN THIS CALL holds exactly where `c` holds, then what `simplify` returns holds exactly
where some abs case holds (which, by `abs_expand_sound`, is where the input holds). -/
theorem simplify_top_all_sound (satT : T → X → Prop) (sat : U → X → Prop) (r : Nat) (cons : Ret T)
    (simple : T → Ret U) (h : ∀ c ∈ cons.texts, ∀ x, retHolds sat (simple c) x ↔ satT c x) (x : X) :
    topHolds sat (simplifyTop true r cons simple) x ↔ ∃ c ∈ cons.texts, satT c x := by
  unfold topHolds
  rw [simplify_top_all_complete]
  constructor
  · rintro ⟨u, hu, hs⟩
    obtain ⟨c, hc, hcu⟩ := List.mem_flatMap.mp hu
    exact ⟨c, hc, (h c hc x).mp ⟨u, hcu, hs⟩⟩
  · rintro ⟨c, hc, hs⟩
    obtain ⟨u, hcu, hu⟩ := (h c hc x).mpr hs
    exact ⟨u, List.mem_flatMap.mpr ⟨c, hc, hcu⟩, hu⟩

/-- **any keywords (all=False included): what is returned lies inside the input.**  Every returned case is a case
of some `_simplify` result of this call, so where it holds some abs case holds. -/
theorem simplify_top_inside (satT : T → X → Prop) (sat : U → X → Prop) (all : Bool) (r : Nat) (cons : Ret T)
    (simple : T → Ret U) (h : ∀ c ∈ cons.texts, ∀ x, retHolds sat (simple c) x → satT c x) (x : X)
    (hx : topHolds sat (simplifyTop all r cons simple) x) : ∃ c ∈ cons.texts, satT c x := by
  obtain ⟨u, hu, hs⟩ := hx
  have hu2 := selectTop_cases_sub all r _ u hu
  rw [topEqns_eq_flatMap] at hu2
  obtain ⟨c, hc, hcu⟩ := List.mem_flatMap.mp hu2
  exact ⟨c, hc, h c hc x ⟨u, hcu, hs⟩⟩

/-- **all=False returns one of the cases all=True returns** (for a draw `r` inside the range, which
`random.randint(0, len-1)` guarantees) -/
theorem simplify_top_single_member (r : Nat) (cons : Ret T) (simple : T → Ret U)
    (hr : r < (topEqns cons simple).length) :
    ∃ a ∈ (simplifyTop true r cons simple).cases, simplifyTop false r cons simple = .single a := by
  rw [simplifyTop, selectTop_all_cases]
  exact selectTop_single r _ hr

end top

/-- **one sign case is NOT the whole answer (witness).**  `x0/x1 <= 2`: `_simplify(all=True)` yields the two cases
`x1 > 0, x0 <= 2*x1` and `x1 < 0, x0 >= 2*x1`; answering `all=True` with the first case alone (what the memo of
C12-5 amounts to) is rejected by the validator, and the point `(-1, -1)` satisfies the
input but not the returned case. -/
theorem single_case_not_whole_witness :
    validate [Item.rat (⟨[1], 0⟩ : Form ℚ) ⟨[0, 1], 0⟩ .le 2]
      [[⟨⟨[0, 1], 0⟩, .gt, ⟨[], 0⟩⟩, ⟨⟨[1], 0⟩, .le, ⟨[0, 2], 0⟩⟩]] = false ∧
    (Item.rat (⟨[1], 0⟩ : Form ℚ) ⟨[0, 1], 0⟩ .le 2).sat (fun _ => -1) ∧
    ¬ satAll [(⟨⟨[0, 1], 0⟩, .gt, ⟨[], 0⟩⟩ : Line ℚ), ⟨⟨[1], 0⟩, .le, ⟨[0, 2], 0⟩⟩] (fun _ => -1) := by
  refine ⟨by decide +kernel, ⟨by decide +kernel, (Cmp.test_iff _ _ _).mp (by decide +kernel)⟩, fun h => ?_⟩
  exact absurd ((Cmp.test_iff _ _ _).mpr (h _ (.head _))) (by decide +kernel)

/-! ## non-vacuity: the validators accept real rewrites and reject the targeted mistakes (at `ℚ`) -/

section examples
/-- `-7/2*x0 + 2*x1 < 4`  vs  `x0 > 4/7*x1 - 8/7` : accepted -/
example : validate [Item.lin (⟨⟨[-7/2, 2], 0⟩, .lt, ⟨[], 4⟩⟩ : Line ℚ)]
    [[⟨⟨[1], 0⟩, .gt, ⟨[0, 4/7], -8/7⟩⟩]] = true := by decide +kernel
/-- the same without the flip (`x0 < ...`): rejected -/
example : validate [Item.lin (⟨⟨[-7/2, 2], 0⟩, .lt, ⟨[], 4⟩⟩ : Line ℚ)]
    [[⟨⟨[1], 0⟩, .lt, ⟨[0, 4/7], -8/7⟩⟩]] = false := by decide +kernel
/-- `<` turned into `<=`: rejected -/
example : validate [Item.lin (⟨⟨[-7/2, 2], 0⟩, .lt, ⟨[], 4⟩⟩ : Line ℚ)]
    [[⟨⟨[1], 0⟩, .ge, ⟨[0, 4/7], -8/7⟩⟩]] = false := by decide +kernel
/-- `x0/x1 <= 3` vs `(x1 > 0, x0 <= 3*x1) | (x0 >= 3*x1, x1 < 0)` : accepted -/
example : validate [Item.rat (⟨[1], 0⟩ : Form ℚ) ⟨[0, 1], 0⟩ .le 3]
    [[⟨⟨[0, 1], 0⟩, .gt, ⟨[], 0⟩⟩, ⟨⟨[1], 0⟩, .le, ⟨[0, 3], 0⟩⟩],
     [⟨⟨[1], 0⟩, .ge, ⟨[0, 3], 0⟩⟩, ⟨⟨[0, 1], 0⟩, .lt, ⟨[], 0⟩⟩]] = true := by decide +kernel
/-- sign conditions swapped: rejected -/
example : validate [Item.rat (⟨[1], 0⟩ : Form ℚ) ⟨[0, 1], 0⟩ .le 3]
    [[⟨⟨[0, 1], 0⟩, .lt, ⟨[], 0⟩⟩, ⟨⟨[1], 0⟩, .le, ⟨[0, 3], 0⟩⟩],
     [⟨⟨[1], 0⟩, .ge, ⟨[0, 3], 0⟩⟩, ⟨⟨[0, 1], 0⟩, .gt, ⟨[], 0⟩⟩]] = false := by decide +kernel
/-- a dropped line (`x0 >= 1, x0 <= 1, x1 > 0` -> `x1 > 0`): rejected -/
example : validate [Item.lin (⟨⟨[1], 0⟩, .ge, ⟨[], 1⟩⟩ : Line ℚ), .lin ⟨⟨[1], 0⟩, .le, ⟨[], 1⟩⟩,
      .lin ⟨⟨[0, 1], 0⟩, .gt, ⟨[], 0⟩⟩]
    [[⟨⟨[0, 1], 0⟩, .gt, ⟨[], 0⟩⟩]] = false := by decide +kernel
/-- ... while the correct merge (`x0 = 1, x1 > 0`) is accepted -/
example : validate [Item.lin (⟨⟨[1], 0⟩, .ge, ⟨[], 1⟩⟩ : Line ℚ), .lin ⟨⟨[1], 0⟩, .le, ⟨[], 1⟩⟩,
      .lin ⟨⟨[0, 1], 0⟩, .gt, ⟨[], 0⟩⟩]
    [[⟨⟨[1], 0⟩, .eq, ⟨[], 1⟩⟩, ⟨⟨[0, 1], 0⟩, .gt, ⟨[], 0⟩⟩]] = true := by decide +kernel
/-- `solve`: `x0 - x2 = 2, x2 = 2*x3`  vs  `x0 = 2*x3 + 2, x2 = 2*x3` with `out = [[1,1],[0,1]]·inp`, `inp = [[1,-1],[0,1]]·out` -/
example : solveOK [(⟨⟨[1, 0, -1], 0⟩, .eq, ⟨[], 2⟩⟩ : Line ℚ), ⟨⟨[0, 0, 1], 0⟩, .eq, ⟨[0, 0, 0, 2], 0⟩⟩]
    [⟨⟨[1], 0⟩, .eq, ⟨[0, 0, 0, 2], 2⟩⟩, ⟨⟨[0, 0, 1], 0⟩, .eq, ⟨[0, 0, 0, 2], 0⟩⟩]
    [[1, 1], [0, 1]] [[1, -1], [0, 1]] = true := by decide +kernel
/-- a wrong solved form (`x0 = 2*x3 - 2`): no certificate of this shape passes -/
example : solveOK [(⟨⟨[1, 0, -1], 0⟩, .eq, ⟨[], 2⟩⟩ : Line ℚ), ⟨⟨[0, 0, 1], 0⟩, .eq, ⟨[0, 0, 0, 2], 0⟩⟩]
    [⟨⟨[1], 0⟩, .eq, ⟨[0, 0, 0, 2], -2⟩⟩, ⟨⟨[0, 0, 1], 0⟩, .eq, ⟨[0, 0, 0, 2], 0⟩⟩]
    [[1, 1], [0, 1]] [[1, -1], [0, 1]] = false := by decide +kernel
/-- bounds `[-10, None] .. [10, 69]` vs `x0 >= -10, x0 <= 10, x1 <= 69` -/
example : sameSystem (boundRows [some (-10 : ℚ), none] [some 10, some 69])
    [⟨⟨[1], 0⟩, .ge, ⟨[], -10⟩⟩, ⟨⟨[1], 0⟩, .le, ⟨[], 10⟩⟩, ⟨⟨[0, 1], 0⟩, .le, ⟨[], 69⟩⟩] = true := by decide +kernel
/-- the exclusive merge table on a satisfiable and on a contradictory system -/
example : mergeExcl [(⟨0, .ge⟩ : TLine Nat), ⟨0, .le⟩, ⟨1, .gt⟩] = some [⟨0, .eq⟩, ⟨1, .gt⟩] := by decide
example : mergeExcl [(⟨0, .gt⟩ : TLine Nat), ⟨0, .le⟩] = none := by decide
/-- the hypotheses of `isolate_sound` / `signcase_sound` are satisfiable with a negative divisor -/
example : Cmp.lt.holds ((-2 : ℚ) * 3 + 1) 0 ∧ (if (0 : ℚ) < -2 then Cmp.lt else Cmp.lt.flip).holds (3 : ℚ) (-1 / -2) :=
  ⟨(Cmp.test_iff _ _ _).mp (by decide +kernel), (Cmp.test_iff _ _ _).mp (by decide +kernel)⟩
/-- `abs(x0 - 1) <= 2` vs `(x0 >= 1, x0 <= 3) | (x0 >= -1, x0 <= 1)` : accepted; with the second condition not flipped: rejected -/
example : validateX [XItem.absl [((1 : ℚ), ⟨[1], -1⟩)] (.lin ⟨⟨[], 0⟩, .le, ⟨[], 2⟩⟩)]
    [[⟨⟨[1], 0⟩, .ge, ⟨[], 1⟩⟩, ⟨⟨[1], 0⟩, .le, ⟨[], 3⟩⟩], [⟨⟨[1], 0⟩, .ge, ⟨[], -1⟩⟩, ⟨⟨[1], 0⟩, .le, ⟨[], 1⟩⟩]] = true := by
  decide +kernel
example : validateX [XItem.absl [((1 : ℚ), ⟨[1], -1⟩)] (.lin ⟨⟨[], 0⟩, .le, ⟨[], 2⟩⟩)]
    [[⟨⟨[1], 0⟩, .ge, ⟨[], 1⟩⟩, ⟨⟨[1], 0⟩, .le, ⟨[], 3⟩⟩], [⟨⟨[1], 0⟩, .ge, ⟨[], -1⟩⟩, ⟨⟨[1], 0⟩, .ge, ⟨[], 1⟩⟩]] = false := by
  decide +kernel
/-- `x1/(x0*x2) = 3` vs `x0 != 0, x2 != 0, x1 = 3*x0*x2` (the monomial `x0*x2` is variable 3): accepted -/
example : validateX [XItem.rat2 (⟨[0, 1], 0⟩ : Form ℚ) 1 0 0 1 0 2 3 .eq 3]
    [[⟨⟨[1], 0⟩, .ne, ⟨[], 0⟩⟩, ⟨⟨[0, 0, 1], 0⟩, .ne, ⟨[], 0⟩⟩, ⟨⟨[0, 1], 0⟩, .eq, ⟨[0, 0, 0, 3], 0⟩⟩]] = true := by
  decide +kernel
/-- the hypotheses of `testpoint_decides_flip` are satisfiable: `-x0 <= 0` isolated as `x0 <= 0`, tested at `x0 = 1/2` -/
example : equalsM true (some true) (some (Cmp.le.test (1/2 : ℚ) 0)) = .val false ∧
    flipDecision .le (true == Cmp.le.test (1/2 : ℚ) 0) = .ge :=
  ⟨by decide +kernel, by decide +kernel⟩
end examples

end MysticVerif.C12
