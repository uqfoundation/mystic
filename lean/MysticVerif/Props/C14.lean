/-
C14 - compiled condition and penalty functions measure exactly the stated violation.

Objects (Model/Emitted.lean): `Rel2` = the line `lhs ⋈ rhs` the TEXT states; `condEmit` = the (kind, expression)
`penalty_parser` emits for it; `recogniseCond r k e` = the decidable validator run on what the current tree
emits (`condition.__name__`, `condition.__doc__` - the very string that is eval'ed); `PType.term` = the term
one `mystic.penalty` decorator adds; `penalty` = the stack `generate_penalty` builds.
`K` is ANY linearly ordered field, `env.ι` ANY reading of the numerals, `x` ANY point, `k' = k*h^n` ANY multiplier.

Property clause                                              theorem
  conditions are lhs-rhs oriented: inequality iff <= 0,       condition_exact, condition_orientation
  equality iff == 0                                           (strict comparators: iff with the tolerance margin;
                                                              the unrestricted "iff holds" is FALSE inside the band:
                                                              strict_band_is_penalised, DESIGN F9)
  penalty = documented sum of per-line terms                  penalty_is_sum
  zero exactly where every line is satisfied, positive else   penalty_zero_iff, penalty_pos_of_violation
  constraint output drives the penalty of the same text to 0  constraint_drives_penalty_to_zero
  join=and_ / or_ (mystic.coupler; Model/EmittedJoin.penJoin)  penjoin_and_zero_iff (zero exactly where EVERY line of every
                                                              group is satisfied), penjoin_or_zero_iff (zero exactly where all
                                                              lines of AT LEAST ONE group are satisfied; one line per group:
                                                              at least one line), penjoin_nonneg, penjoin_or_empty
-/
import MysticVerif.Props.C13
import Mathlib.Tactic.Ring

set_option linter.unusedSectionVars false

namespace MysticVerif.C14
open MysticVerif.Emitted

section
variable {K : Type} [Field K] [LinearOrder K] [IsStrictOrderedRing K] {C : Type}

/-- **Orientation, exact form.** For every (kind, expression) the validator accepts for `lhs ⋈ rhs`:
the condition value is "satisfied" (`≤ 0` for an inequality, `= 0` for an equality) EXACTLY when the line holds
with its margin (`margin` = `holds` for `= <= >= !=`; `lhs ≤ rhs - tol(rhs)` / `lhs ≥ rhs + tol(rhs)` for `<` / `>`). -/
theorem condition_exact [DecidableEq C] (env : Env C K) (r : Rel2 C) (k : Kind) (e : Expr C) (x : List K)
    (hrec : recogniseCond r k e = true) :
    k.satisfied (e.eval env x) ↔ r.margin env x := by
  have h : (k, e) = condEmit r := of_decide_eq_true hrec
  have hle (a b : K) : a - b ≤ 0 ↔ a ≤ b := sub_nonpos
  have hge (a b : K) : -(a - b) ≤ 0 ↔ b ≤ a := neg_nonpos.trans sub_nonneg
  obtain ⟨lhs, cmp, rhs⟩ := r
  cases cmp <;> obtain ⟨rfl, rfl⟩ := Prod.mk.inj h
  case eq => exact sub_eq_zero
  case le | lt => exact hle _ _
  case ge | gt => exact hge _ _
  case ne =>
    -- `(lhs - rhs) == 0` as a number: 1 where the sides agree, 0 where they differ
    show b2r (lhs.eval env x - rhs.eval env x == 0) = (0 : K) ↔ lhs.eval env x ≠ rhs.eval env x
    rw [b2r_beq]
    by_cases hx : lhs.eval env x - rhs.eval env x = 0
    · rw [if_pos hx]; exact iff_of_false one_ne_zero (not_not.mpr (sub_eq_zero.mp hx))
    · rw [if_neg hx]; exact iff_of_true rfl fun h => hx (sub_eq_zero.mpr h)

/-- the kind under which a line is filed: `=` and `!=` are equality conditions, the rest inequalities -/
theorem condition_kind [DecidableEq C] (r : Rel2 C) (k : Kind) (e : Expr C)
    (hrec : recogniseCond r k e = true) :
    k = (if r.cmp = .eq ∨ r.cmp = .ne then Kind.eq else Kind.ineq) := by
  have h : (k, e) = condEmit r := of_decide_eq_true hrec
  obtain ⟨lhs, cmp, rhs⟩ := r
  cases cmp <;> obtain ⟨rfl, _⟩ := Prod.mk.inj h
  all_goals rfl

set_option linter.unusedVariables false in -- `htol`
/-- **Orientation.** `<=`, `>=` : value `≤ 0` iff the inequality holds; `=` : value `= 0` iff the equality holds;
`!=` : value `= 0` iff the two sides differ; `<`, `>` (with `0 < tol`, `0 ≤ rel`): value `≤ 0` implies the strict
inequality, and the strict inequality with the tolerance margin implies value `≤ 0`. -/
theorem condition_orientation [DecidableEq C] (env : Env C K) (htol : 0 ≤ env.tol) (hrel : 0 ≤ env.rel)
    (r : Rel2 C) (k : Kind) (e : Expr C) (x : List K) (hrec : recogniseCond r k e = true) :
    (r.cmp ≠ .lt → r.cmp ≠ .gt → (k.satisfied (e.eval env x) ↔ r.holds env x)) ∧
    (0 < env.tol → k.satisfied (e.eval env x) → r.holds env x) ∧
    (r.margin env x → k.satisfied (e.eval env x)) := by
  have hex := condition_exact env r k e x hrec
  refine ⟨?_, ?_, hex.mpr⟩
  · -- off `<`, `>` the margin IS the relation
    intro hlt hgt; rw [hex]
    obtain ⟨lhs, cmp, rhs⟩ := r
    cases cmp with
    | eq | le | ge | ne => exact Iff.rfl
    | lt => exact absurd rfl hlt
    | gt => exact absurd rfl hgt
  · intro hpos hs
    have hm := hex.mp hs
    obtain ⟨lhs, cmp, rhs⟩ := r
    have ht := tolf_pos env hpos hrel (rhs.eval env x)
    cases cmp with
    | eq | le | ge | ne => exact hm
    | lt => exact hm.trans_lt (sub_lt_self _ ht)
    | gt => exact (lt_add_of_pos_right _ ht).trans_le hm

/-- every condition of the stack evaluates without `ZeroDivisionError` / `IndexError` -/
def AllDefined (env : Env C K) (ts : List (PType × Expr C)) (x : List K) : Prop :=
  ∀ te ∈ ts, te.2.defined env x = true

private theorem penalty_fold (env : Env C K) (k' top : K) (x : List K) :
    ∀ (ts : List (PType × Expr C)) (acc : K), AllDefined env ts x →
      ts.foldl (fun acc te =>
        if te.2.defined env x = true then te.1.term k' (te.2.eval env x) + acc else top) acc
      = (ts.map fun te => te.1.term k' (te.2.eval env x)).sum + acc := by
  intro ts
  induction ts with
  | nil => intro acc _; simp
  | cons te ts ih =>
    intro acc hd
    simp only [List.foldl_cons, List.map_cons, List.sum_cons]
    rw [if_pos (hd te (by simp)), ih _ (fun t ht => hd t (by simp [ht]))]
    ring

/-- **Documented sum.** `generate_penalty(conditions, ptypes, k, h)(x)` (iteration `n`, `k' = k*h^n`) is the sum
of the per-line terms `ptype_i.term k' (condition_i x)`. -/
theorem penalty_is_sum (env : Env C K) (k' top : K) (ts : List (PType × Expr C)) (x : List K)
    (hd : AllDefined env ts x) :
    penalty env k' top ts x = (ts.map fun te => te.1.term k' (te.2.eval env x)).sum := by
  unfold penalty; rw [penalty_fold env k' top x ts 0 hd]; ring

private theorem sum_terms (env : Env C K) {k' : K} (hk : 0 < k') (x : List K) (ts : List (PType × Expr C)) :
    0 ≤ (ts.map fun te => te.1.term k' (te.2.eval env x)).sum ∧
    ((ts.map fun te => te.1.term k' (te.2.eval env x)).sum = 0 ↔
      ∀ te ∈ ts, te.1.kind.satisfied (te.2.eval env x)) := by
  have hnn : ∀ p ∈ ts.map fun te => te.1.term k' (te.2.eval env x), 0 ≤ p :=
    List.forall_mem_map.mpr fun te _ => term_nonneg te.1 hk _
  rw [sum_eq_zero_iff_of_nonneg hnn, List.forall_mem_map]
  exact ⟨List.sum_nonneg hnn, forall₂_congr fun te _ => term_eq_zero_iff te.1 hk _⟩

/-- **Zero exactly on the feasible set, never negative.** With a positive multiplier and penalty types drawn from
quadratic / linear / uniform (in)equality, each applied to a condition of its own kind (`te.1.kind`):
the penalty is `0` iff every condition is satisfied, and it is `≥ 0` everywhere. -/
theorem penalty_zero_iff (env : Env C K) {k' : K} (hk : 0 < k') (top : K) (ts : List (PType × Expr C))
    (x : List K) (hd : AllDefined env ts x) :
    (penalty env k' top ts x = 0 ↔ ∀ te ∈ ts, te.1.kind.satisfied (te.2.eval env x)) ∧
    0 ≤ penalty env k' top ts x := by
  rw [penalty_is_sum env k' top ts x hd]
  exact ⟨(sum_terms env hk x ts).2, (sum_terms env hk x ts).1⟩

/-- **Positive elsewhere.** One violated line makes the penalty strictly positive. -/
theorem penalty_pos_of_violation (env : Env C K) {k' : K} (hk : 0 < k') (top : K) (ts : List (PType × Expr C))
    (x : List K) (hd : AllDefined env ts x) (te : PType × Expr C) (hmem : te ∈ ts)
    (hv : ¬ te.1.kind.satisfied (te.2.eval env x)) : 0 < penalty env k' top ts x := by
  obtain ⟨hz, hnn⟩ := penalty_zero_iff env hk top ts x hd
  rcases lt_or_eq_of_le hnn with h | h
  · exact h
  · exact absurd (hz.mp h.symm te hmem) hv

/-- the conditions `generate_conditions` builds for isolated-form relations, with the default penalty types -/
def condsOf (rels : List (Rel C)) : List (PType × Expr C) :=
  rels.map fun r => ((condEmit r.toRel2).1.default, (condEmit r.toRel2).2)

/-- the composed constraint establishes every relation WITH its margin (the strong form of
`C13.chain_independent`, which is what the penalty of the same text measures) -/
theorem chain_enforces_margin [DecidableEq C] (env : Env C K) (isPos : C → Bool) (d : C)
    (hpos : ∀ c, isPos c = true → 0 < env.ι c) (htol : 0 ≤ env.tol) (hrel : 0 ≤ env.rel)
    (rels : List (Rel C)) (codes : List (Assign C)) (x : List K)
    (hrec : List.Forall₂ (fun r c => recognise isPos d r c = true) rels codes)
    (hlen : ∀ r ∈ rels, r.i < x.length)
    (hnodup : (rels.map (·.i)).Nodup)
    (hfree : ∀ r ∈ rels, ∀ r' ∈ rels, r'.rhs.mentions r.i = false)
    (hB : ∀ c ∈ codes, ∀ r ∈ rels, c.factor.mentions r.i = false)
    (hne : ∀ r ∈ rels, r.cmp = .ne → 0 < env.tol) :
    ∀ r ∈ rels, r.toRel2.margin env (chain env codes x) := by
  obtain ⟨ps, rfl, rfl, hps⟩ := forall₂_eq_maps
    (C13.chain_independent_margin env isPos d hpos htol hrel rels codes x hrec hlen hnodup hfree hB hne)
  intro r hr
  obtain ⟨p, hp, rfl⟩ := List.mem_map.mp hr
  exact Rel.toRel2_margin env htol hrel p.1 p.2.factor _
    (fun hc => isBool_eval_nonneg env _ _ ((recognise_spec (hps p hp).1).2.1 hc)) (hps p hp).2

/-- **Constraint drives the penalty to zero.** For an independent isolated-form system (hypotheses of
`C13.chain_independent`; `0 < tol` only for `!=` lines), the penalty that `generate_penalty(generate_conditions(text))`
builds from the SAME text (default penalty types, any positive multiplier) vanishes at the output of
`generate_constraint(generate_solvers(text))`, for every input `x`. -/
theorem constraint_drives_penalty_to_zero [DecidableEq C] (env : Env C K) (isPos : C → Bool) (d : C)
    (hpos : ∀ c, isPos c = true → 0 < env.ι c) (htol : 0 ≤ env.tol) (hrel : 0 ≤ env.rel)
    {k' : K} (hk : 0 < k') (top : K)
    (rels : List (Rel C)) (codes : List (Assign C)) (x : List K)
    (hrec : List.Forall₂ (fun r c => recognise isPos d r c = true) rels codes)
    (hlen : ∀ r ∈ rels, r.i < x.length)
    (hnodup : (rels.map (·.i)).Nodup)
    (hfree : ∀ r ∈ rels, ∀ r' ∈ rels, r'.rhs.mentions r.i = false)
    (hB : ∀ c ∈ codes, ∀ r ∈ rels, c.factor.mentions r.i = false)
    (hne : ∀ r ∈ rels, r.cmp = .ne → 0 < env.tol)
    (hd : AllDefined env (condsOf rels) (chain env codes x)) :
    penalty env k' top (condsOf rels) (chain env codes x) = 0 := by
  rw [(penalty_zero_iff env hk top _ _ hd).1]
  intro te hte
  simp only [condsOf, List.mem_map] at hte
  obtain ⟨r, hr, rfl⟩ := hte
  have hm := chain_enforces_margin env isPos d hpos htol hrel rels codes x hrec hlen hnodup hfree hB hne r hr
  have hrc : recogniseCond r.toRel2 (condEmit r.toRel2).1 (condEmit r.toRel2).2 = true := decide_eq_true rfl
  have := (condition_exact env r.toRel2 _ _ (chain env codes x) hrc).mpr hm
  rwa [← default_kind (condEmit r.toRel2).1] at this


private theorem group_pen (env : Env C K) {k' : K} (hk : 0 < k') (top : K) (groups : List (List (PType × Expr C)))
    (x : List K) (hd : ∀ g ∈ groups, AllDefined env g x) :
    ∀ p ∈ groups.map (fun g => penalty env k' top g x), 0 ≤ p :=
  List.forall_mem_map.mpr fun g hg => (penalty_zero_iff env hk top g x (hd g hg)).2

/-- **`join=and_`: zero exactly where every line holds.** The penalty `generate_penalty(groups, ptype, join=coupler.and_)`
(`kj * |sum of the group penalties|`, `kj = 1` in the code) with positive multipliers and conforming types is zero
exactly at the points where every condition of every group is satisfied. -/
theorem penjoin_and_zero_iff (env : Env C K) {k' kj : K} (hk : 0 < k') (hkj : 0 < kj) (top : K)
    (groups : List (List (PType × Expr C))) (x : List K) (hd : ∀ g ∈ groups, AllDefined env g x) :
    ∃ v, penJoin env k' top kj .and_ groups x = some v ∧
      (v = 0 ↔ ∀ g ∈ groups, ∀ te ∈ g, te.1.kind.satisfied (te.2.eval env x)) := by
  refine ⟨_, rfl, ?_⟩
  rw [add_zero, mul_eq_zero, or_iff_right hkj.ne', absR_eq_abs, abs_eq_zero, sumL_eq,
    sum_eq_zero_iff_of_nonneg (group_pen env hk top groups x hd), List.forall_mem_map]
  exact forall₂_congr fun g hg => (penalty_zero_iff env hk top g x (hd g hg)).1

/-- **`join=or_`: zero exactly where at least one group holds.** `generate_penalty(groups, ptype, join=coupler.or_)`
(`kj * |min of the group penalties|`) is zero exactly at the points where all conditions of AT LEAST ONE group are
satisfied - with one condition per group: where at least one line holds. -/
theorem penjoin_or_zero_iff (env : Env C K) {k' kj : K} (hk : 0 < k') (hkj : 0 < kj) (top : K)
    (g0 : List (PType × Expr C)) (groups : List (List (PType × Expr C))) (x : List K)
    (hd : ∀ g ∈ g0 :: groups, AllDefined env g x) :
    ∃ v, penJoin env k' top kj .or_ (g0 :: groups) x = some v ∧
      (v = 0 ↔ ∃ g ∈ g0 :: groups, ∀ te ∈ g, te.1.kind.satisfied (te.2.eval env x)) := by
  refine ⟨_, rfl, ?_⟩
  rw [add_zero, mul_eq_zero, or_iff_right hkj.ne', absR_eq_abs, abs_eq_zero]
  refine (foldl_pyMin_zero_iff _ _ (group_pen env hk top (g0 :: groups) x hd)).2.trans ?_
  show (∃ q ∈ (g0 :: groups).map (fun g => penalty env k' top g x), q = 0) ↔ _
  simp only [List.mem_map, exists_exists_and_eq_and]
  exact exists_congr fun g => and_congr_right fun hg => (penalty_zero_iff env hk top g x (hd g hg)).1

/-- the joined penalty is never negative -/
theorem penjoin_nonneg (env : Env C K) {k' kj : K} (hkj : 0 < kj) (top : K) (j : PJoin)
    (groups : List (List (PType × Expr C))) (x : List K) (v : K)
    (h : penJoin env k' top kj j groups x = some v) : 0 ≤ v := by
  have hv : ∀ a : K, 0 ≤ kj * absR a + 0 := fun a => by
    rw [add_zero, absR_eq_abs]; exact mul_nonneg hkj.le (abs_nonneg a)
  unfold penJoin at h
  split at h
  · exact Option.some.inj h ▸ hv _
  · cases h
  · exact Option.some.inj h ▸ hv _

/-- `join=or_` over no members raises (`min()` of an empty sequence) -/
theorem penjoin_or_empty (env : Env C K) (k' top kj : K) (x : List K) :
    penJoin env k' top kj .or_ [] x = none := rfl

end

/-- **The unrestricted orientation fails for strict comparators on the code as it is (F9).** `x0 < x1` with
`tol = 1`, `rel = 0` at `x = [1/2, 1]`: the line holds, the accepted inequality condition
`x[0] - (x[1] - _tol(x[1],tol,rel))` evaluates to `1/2 > 0`, i.e. the point is penalised. -/
theorem strict_band_is_penalised :
    ∃ (env : Env Nat ℚ) (r : Rel2 Nat) (k : Kind) (e : Expr Nat) (x : List ℚ),
      recogniseCond r k e = true ∧ 0 < env.tol ∧ 0 ≤ env.rel ∧ r.holds env x ∧ ¬ k.satisfied (e.eval env x) := by
  refine ⟨{ ι := fun n => (n : ℚ), tol := 1, rel := 0 }, ⟨.var 0, .lt, .var 1⟩, .ineq,
    .sub (.var 0) (.sub (.var 1) (.tol (.var 1))), [1 / 2, 1], by decide, by decide +kernel, by decide +kernel, ?_, ?_⟩
  · simp only [Rel2.holds, Cmp.holds]; decide +kernel
  · simp only [Kind.satisfied]; decide +kernel

/-- the text `x0 - 2*x1 >= 3`, `x0 = x2` : accepted conditions, a feasible and an infeasible point -/
example :
    let env : Env Nat ℚ := { ι := fun n => (n : ℚ), tol := 1 / 1000, rel := 1 / 1000 }
    let r1 : Rel2 Nat := ⟨.sub (.var 0) (.mul (.num 2) (.var 1)), .ge, .num 3⟩
    let r2 : Rel2 Nat := ⟨.var 0, .eq, .var 2⟩
    let ts := [((condEmit r1).1.default, (condEmit r1).2), ((condEmit r2).1.default, (condEmit r2).2)]
    recogniseCond r1 (condEmit r1).1 (condEmit r1).2 = true ∧
    AllDefined env ts [5, 1, 5] ∧ penalty env 100 0 ts [5, 1, 5] = 0 ∧ penalty env 100 0 ts [4, 1, 5] = 300 := by
  refine ⟨by decide, ?_, by decide +kernel, by decide +kernel⟩
  unfold AllDefined
  decide +kernel

/-- `join=and_` / `join=or_` over the two one-line groups `x0 <= 1`, `x0 = x1` at `[0, 3]` (first satisfied, second violated by 3;
`k' = 100`): `and_` gives `|0 + 900| = 900`, `or_` gives `|min(0, 900)| = 0`; at `[2, 2]` (first violated, second satisfied) likewise;
at `[2, 3]` both are positive -/
example :
    let env : Env Nat ℚ := { ι := fun n => (n : ℚ), tol := 0, rel := 0 }
    let g1 : List (PType × Expr Nat) := [(.qIneq, .sub (.var 0) (.num 1))]
    let g2 : List (PType × Expr Nat) := [(.qEq, .sub (.var 0) (.var 1))]
    penJoin env 100 0 1 .and_ [g1, g2] [0, 3] = some 900 ∧ penJoin env 100 0 1 .or_ [g1, g2] [0, 3] = some 0 ∧
    penJoin env 100 0 1 .and_ [g1, g2] [2, 2] = some 200 ∧ penJoin env 100 0 1 .or_ [g1, g2] [2, 2] = some 0 ∧
    penJoin env 100 0 1 .or_ [g1, g2] [2, 3] = some 100 ∧
    (∀ g ∈ [g1, g2], ∀ te ∈ g, te.2.defined env [0, 3] = true) := by      -- = AllDefined env g [0, 3]
  decide +kernel

end MysticVerif.C14
