/-
C11 - dimensional collapse is detected per definition, applied exactly, reported once.
Property theorems; the lemmas are in Proofs/Collapse.lean, CollapseApply.lean, CollapseMeasure.lean, CollapseCost.lean.
Model: Model/Collapse.lean (mystic/collapse.py detectors and mask filters, monitors.py readers, mask.py update_mask, the
collapse loop of abstract_solver._Solve), Model/CollapseApply.lean, CollapseMeasure.lean, CollapseCost.lean.

Clauses of DESIGN.md section 5 / C11 and the theorems that stand for them:
  collapse_at_spec             `collapse_at_spec` (every history / target / tolerances / window / mask); the documented
                               reading - window = last g records, change = max-min resp. max|x-target| - over an ordered
                               field: `collapse_at_spec_window`, `collapse_at_target_spec_window` (`lastN_window`,
                               `maxL_le_iff`, `ptp_le_iff`)
  collapse_as_spec             `collapse_as_spec`, `collapse_as_spec_window`, `asMasked_iff` (pairs in either orientation,
                               bare indices)
  collapse_weight_spec         `collapse_weight_spec`, mask formats dict / set / where: `weight_mask_formats`
  collapse_position_spec       `collapse_position_spec`, `position_mask_formats`; a 'where' mask with LIST pairs is
                               accepted and ignored by the code: `position_where_list_pairs_ignored_witness` (F24)
  own_output_as_mask_is_empty  `own_output_as_mask_is_empty_at / _as / _weight / _position`: ANY mask that contains the
                               old mask and the output
  update_mask_grows            `extend_mask_grows` (per format), `update_mask_grows` (any tree, any collapse dict),
                               `update_mask_applies` (who takes the collapse in)
  not_reported_again           `not_reported_again` for collapse_at through `_extend_mask`; for the other detectors it is
                               `own_output_as_mask_is_empty_*` with `extend_mask_grows`, not restated
  collapse_loop_terminates     `collapse_chain_bounded` (any sequence of masks), `collapse_loop_terminates` (`Loop.run`)
  applied_relation_exact, pairs (impose_as over tools.connected): exact for every iteration order in which no pair
                               joins two existing groups: `applied_pairs_equal_partial`, `applied_component_equal_partial`,
                               `applied_frame`, `applied_star_equal`, `oneComponentOrder_noBridge`.  FALSE without that
                               hypothesis for the code as it is: `applied_bridged_pair_not_tied_witness` (F26, mechanism
                               of C16/F18).  NOT proved: that every later evaluated point went through the constraint (it
                               needs the shared solver model S); the implementation monitor checks it and it FAILS
                               (F21-F23, F25).
  applied_relation_exact, measures (constraints.impose_measure = C19's `Discrete.imposeMeasure` over `Clps.connected` of
                               the pairs in the real iteration order), one round, any ordered field: collapsed weights
                               EXACTLY 0 (the removals run last), collapsed position pairs EXACTLY equal:
                               `measure_applied_weights_zero`, `measure_applied_pairs_equal`,
                               `impose_measure_applied_exact`; the other order of the two loops breaks the weight clause:
                               `impose_measure_other_order_witness`; ACROSS rounds it is false for the code as it is
                               (older rounds run last): `applied_weight_reweighted_by_older_round_witness` (F27-F29).
  collapse_cost (bounds collapse): section CostCollapse at the end of this file.
NOT modelled: `update_mask(new=True)`, masks of mixed formats.
-/
import MysticVerif.Proofs.Collapse
import MysticVerif.Proofs.CollapseApply
import MysticVerif.Proofs.CollapseMeasure
import MysticVerif.Proofs.CollapseCost
import Mathlib.Logic.Relation
import Mathlib.Algebra.Order.Field.Rat

namespace MysticVerif.C11
open MysticVerif.Clps

-- the statements below carry all instance binders of their section, also those a single one does not use
set_option linter.unusedSectionVars false

/-- **Window.** A positive `generations = g` looks at exactly the last `min g len` records; `None` and `0` at the
whole history (`x[-0:]` is `x[0:]`). -/
theorem lastN_window {α : Type} (xs : List α) :
    (∀ g : Nat, 0 < g → lastN (some (g : Int)) xs = xs.drop (xs.length - g)) ∧
    lastN none xs = xs ∧ lastN (some 0) xs = xs :=
  ⟨fun g hg => lastN_pos xs g hg, rfl, lastN_zero xs⟩

example : lastN (some 2) [1, 2, 3, 4] = [3, 4] := by decide +kernel
example : lastN (some 9) [1, 2, 3, 4] = [1, 2, 3, 4] := by decide +kernel
example : lastN (some (-1)) [1, 2, 3, 4] = [2, 3, 4] := by decide +kernel

section Field
variable {K : Type} [Field K] [LinearOrder K] [IsStrictOrderedRing K]

/-- **Tolerance test, max.** `column.max() <= tol` iff every record of the window is within the tolerance. -/
theorem maxL_le_iff (c : List K) (v t : K) (h : maxL c = some v) : v ≤ t ↔ ∀ x ∈ c, x ≤ t := by
  have := leTol_maxL t c
  rw [h] at this
  exact decide_eq_true_iff.symm.trans (this.trans (and_iff_right (by rintro rfl; cases h)))

/-- **Tolerance test, ptp.** `ptp(column) <= tol` iff any two records of the window differ by at most the tolerance. -/
theorem ptp_le_iff (c : List K) (v t : K) (h : ptp c = some v) : v ≤ t ↔ ∀ x ∈ c, ∀ y ∈ c, x - y ≤ t := by
  have := leTol_ptp t c
  rw [h] at this
  exact decide_eq_true_iff.symm.trans (this.trans (and_iff_right (by rintro rfl; cases h)))

end Field

example : ptp ([1, 3, 2] : List Int) = some 2 := by decide +kernel
example : maxL ([1, 3, 2] : List Int) = some 3 := by decide +kernel

section At
variable {R : Type} [Sub R] [Neg R] [LT R] [DecidableLT R] [LE R] [DecidableLE R] [OfNat R 0]

/-- **collapse_at, every input.** Whenever the detector returns (it raises exactly when the mask is rejected, the
window is empty or ragged, or the target cannot be broadcast), index `i` is reported iff it is a column of the
(broadcast) window, it is NOT in the mask, and its change over the window is within (one of) the tolerance(s). -/
theorem collapse_at_spec (hist : List (List R)) (tgt : Target R) (tols : List R) (g : Option Int) (mask : SetMask)
    (l : List Nat) (h : collapseAt hist tgt tols g mask = .ok l) (i : Nat) :
    i ∈ l ↔ ∃ ms r rest k, atMaskCheck mask = .ok ms ∧ lastN g hist = r :: rest ∧ bwidth r.length tgt = some k ∧
      i < k ∧ (Int.ofNat i) ∉ ms ∧ leAny tols (changeAt (r :: rest) r.length tgt i) = true := by
  obtain ⟨ms, r, rest, k, hm, hw, -, hb, rfl⟩ := (collapseAt_ok_iff ..).mp h
  simp only [List.mem_filter, List.mem_range, Bool.and_eq_true, Bool.not_eq_true', List.contains_eq_mem,
    decide_eq_false_iff_not]
  constructor
  · rintro ⟨h1, h2, h3⟩
    exact ⟨ms, r, rest, k, hm, hw, hb, h1, h3, h2⟩
  · rintro ⟨ms', r', rest', k', h1, h2, h3, h4, h5, h6⟩
    cases hm.symm.trans h1
    cases hw.symm.trans h2
    cases hb.symm.trans h3
    exact ⟨h4, h6, h5⟩

/-- **Own output as mask, collapse_at.** Any set mask that contains the old mask's indices and the detector's own
output (this is what `update_mask` builds, see `extend_mask_grows`) makes the detector report nothing on the same
history. -/
theorem own_output_as_mask_is_empty_at (hist : List (List R)) (tgt : Target R) (tols : List R) (g : Option Int)
    (mask : SetMask) (l : List Nat) (h : collapseAt hist tgt tols g mask = .ok l)
    (es' : List MElem) (hidx : ∀ e ∈ es', e.isIdx = true)
    (hold : ∀ ms, atMaskCheck mask = .ok ms → ∀ a ∈ ms, MElem.idx a ∈ es')
    (hnew : ∀ i ∈ l, MElem.idx (Int.ofNat i) ∈ es') :
    collapseAt hist tgt tols g (.set es') = .ok [] := by
  obtain ⟨ms, r, rest, k, hm, hw, hr, hb, rfl⟩ := (collapseAt_ok_iff ..).mp h
  have hck : atMaskCheck (.set es') = .ok (es'.filterMap MElem.idx?) := if_pos (List.all_eq_true.mpr hidx)
  refine (collapseAt_ok_iff ..).mpr ⟨_, r, rest, k, hck, hw, hr, hb,
    (filter_unmasked_eq_nil _ _ (fun i => ms.contains (Int.ofNat i)) _ ?_ ?_).symm⟩
  · intro i _ hi
    exact List.elem_eq_true_of_mem (List.mem_filterMap.mpr ⟨_, hold ms hm _ (List.mem_of_elem_eq_true hi), rfl⟩)
  · intro i hi
    exact List.elem_eq_true_of_mem (List.mem_filterMap.mpr ⟨_, hnew i hi, rfl⟩)

end At

section AtField
variable {K : Type} [Field K] [LinearOrder K] [IsStrictOrderedRing K]

/-- **collapse_at, documented reading, `target = None`.** With a scalar tolerance, a window of the last `g > 0`
records (rectangular, non-empty) and a mask that is `None` or a set of indices: `i` is reported iff `i` is a
parameter, `i` is not in the mask, and `max(x_i) - min(x_i) <= tolerance` over the window, i.e. any two recorded
values of `x_i` in the window differ by at most the tolerance. -/
theorem collapse_at_spec_window (hist : List (List K)) (tol : K) (g : Nat) (hg : 0 < g) (mask : SetMask)
    (l : List Nat) (h : collapseAt hist .none [tol] (some (g : Int)) mask = .ok l) (i : Nat) :
    i ∈ l ↔ ∃ ms r rest, atMaskCheck mask = .ok ms ∧ hist.drop (hist.length - g) = r :: rest ∧
      i < r.length ∧ (Int.ofNat i) ∉ ms ∧
      ∀ x ∈ colOf (r :: rest) i, ∀ y ∈ colOf (r :: rest) i, x - y ≤ tol := by
  rw [collapse_at_spec hist .none [tol] _ mask l h i, lastN_pos hist g hg]
  constructor
  · rintro ⟨ms, r, rest, k, h1, h2, h3, h4, h5, h6⟩
    cases h3
    exact ⟨ms, r, rest, h1, h2, h4, h5, ((leTol_ptp tol _).mp ((leAny_singleton tol _).symm.trans h6)).2⟩
  · rintro ⟨ms, r, rest, h1, h2, h4, h5, h6⟩
    exact ⟨ms, r, rest, r.length, h1, h2, rfl, h4, h5,
      (leAny_singleton tol _).trans ((leTol_ptp tol _).mpr ⟨colOf_ne_nil h4 rest, h6⟩)⟩

/-- **collapse_at, documented reading, scalar target.** `i` is reported iff it is a parameter, not in the mask, and
`|x_i - target| <= tolerance` at every record of the window. -/
theorem collapse_at_target_spec_window (hist : List (List K)) (t tol : K) (g : Nat) (hg : 0 < g) (mask : SetMask)
    (l : List Nat) (h : collapseAt hist (.scalar t) [tol] (some (g : Int)) mask = .ok l) (i : Nat) :
    i ∈ l ↔ ∃ ms r rest, atMaskCheck mask = .ok ms ∧ hist.drop (hist.length - g) = r :: rest ∧
      i < r.length ∧ (Int.ofNat i) ∉ ms ∧ ∀ x ∈ colOf (r :: rest) i, |x - t| ≤ tol := by
  rw [collapse_at_spec hist (.scalar t) [tol] _ mask l h i, lastN_pos hist g hg]
  have key : ∀ (r : List K) (rest : List (List K)), i < r.length →
      (leAny [tol] (changeAt (r :: rest) r.length (.scalar t) i) = true ↔ ∀ x ∈ colOf (r :: rest) i, |x - t| ≤ tol) := by
    intro r rest hi
    rw [leAny_singleton]
    refine (leTol_maxL tol _).trans ((and_iff_right ?_).trans ?_)
    · exact List.map_eq_nil_iff.not.mpr (colOf_ne_nil hi rest)
    · simp only [devCol, List.forall_mem_map, absR_eq_abs]
  constructor
  · rintro ⟨ms, r, rest, k, h1, h2, h3, h4, h5, h6⟩
    cases h3
    exact ⟨ms, r, rest, h1, h2, h4, h5, (key r rest h4).mp h6⟩
  · rintro ⟨ms, r, rest, h1, h2, h4, h5, h6⟩
    exact ⟨ms, r, rest, r.length, h1, h2, rfl, h4, h5, (key r rest h4).mpr h6⟩

end AtField

-- non-vacuity (at `Int`, where `decide` evaluates the model): a flat, a drifting and a flat column, window of 2
-- out of 3 records; the mask removes a collapsed index; own output as mask gives nothing
example : collapseAt ([[0, 1, 5], [0, 2, 5], [0, 3, 5]] : List (List Int)) .none [0] (some 2) (.set [.idx 2]) = .ok [0] := by
  decide +kernel
example : collapseAt ([[0, 1, 5], [0, 2, 5], [0, 3, 5]] : List (List Int)) (.scalar 5) [0] (some 2) .none = .ok [2] := by
  decide +kernel
example : collapseAt ([[0, 1, 5], [0, 2, 5], [0, 3, 5]] : List (List Int)) .none [0] (some 2) (.set [.idx 2, .idx 0]) = .ok [] := by
  decide +kernel
example : collapseAt ([[0, 1, 5], [0, 2, 5], [0, 9, 5]] : List (List Int)) .none [1] (some 0) .none = .ok [0, 2] := by
  decide +kernel

section As
variable {R : Type} [Sub R] [Neg R] [LT R] [DecidableLT R] [LE R] [DecidableLE R] [OfNat R 0]

/-- **Mask of collapse_as.** A pair is ignored iff the mask holds it in either orientation, or holds one of its
members as a bare index. -/
theorem asMasked_iff (es : List MElem) (i j : Nat) :
    asMasked es i j = true ↔
      MElem.seq [Int.ofNat i, Int.ofNat j] ∈ es ∨ MElem.seq [Int.ofNat j, Int.ofNat i] ∈ es ∨
      MElem.idx (Int.ofNat i) ∈ es ∨ MElem.idx (Int.ofNat j) ∈ es := by
  unfold asMasked
  rw [List.any_eq_true]
  constructor
  · rintro ⟨e, he, h⟩
    cases e with
    | idx a =>
      rcases Bool.or_eq_true_iff.mp h with h | h
      · exact .inr (.inr (.inl (eq_of_beq h ▸ he)))
      · exact .inr (.inr (.inr (eq_of_beq h ▸ he)))
    | seq l =>
      rcases Bool.or_eq_true_iff.mp h with h | h
      · exact .inl (eq_of_beq h ▸ he)
      · exact .inr (.inl (eq_of_beq h ▸ he))
  · rintro (h | h | h | h)
    · exact ⟨_, h, Bool.or_eq_true_iff.mpr (.inl (beq_self_eq_true _))⟩
    · exact ⟨_, h, Bool.or_eq_true_iff.mpr (.inr (beq_self_eq_true _))⟩
    · exact ⟨_, h, Bool.or_eq_true_iff.mpr (.inl (beq_self_eq_true _))⟩
    · exact ⟨_, h, Bool.or_eq_true_iff.mpr (.inr (beq_self_eq_true _))⟩

/-- **collapse_as, every input.** Whenever the detector returns, the pair `(i, j)` is reported iff `i < j` are
parameters, the pair is not masked, and the change of `|x_i - x_j|` over the window (its `max`, or its `ptp` when
tracking at an offset) is within the tolerance. -/
theorem collapse_as_spec (hist : List (List R)) (offset : Bool) (tol : R) (g : Option Int) (mask : SetMask)
    (l : List (Nat × Nat)) (h : collapseAs hist offset tol g mask = .ok l) (i j : Nat) :
    (i, j) ∈ l ↔ ∃ es r rest, asMaskCheck mask = .ok es ∧ lastN g hist = r :: rest ∧
      i < j ∧ j < r.length ∧ asMasked es i j = false ∧ leTol tol (pairChange (r :: rest) offset i j) = true := by
  obtain ⟨es, r, rest, hm, hw, -, -, rfl⟩ := (collapseAs_ok_iff ..).mp h
  simp only [List.mem_filter, mem_pairsOf, Bool.and_eq_true, Bool.not_eq_true']
  constructor
  · rintro ⟨⟨h1, h2⟩, h3, h4⟩
    exact ⟨es, r, rest, hm, hw, h1, h2, h4, h3⟩
  · rintro ⟨es', r', rest', h1, h2, h3, h4, h5, h6⟩
    cases hm.symm.trans h1
    cases hw.symm.trans h2
    exact ⟨⟨h3, h4⟩, h6, h5⟩

/-- **Own output as mask, collapse_as.** Any accepted set mask that contains the old mask and the reported pairs
makes the detector report nothing on the same history. -/
theorem own_output_as_mask_is_empty_as (hist : List (List R)) (offset : Bool) (tol : R) (g : Option Int)
    (mask : SetMask) (l : List (Nat × Nat)) (h : collapseAs hist offset tol g mask = .ok l)
    (es' : List MElem) (hok : ∀ e ∈ es', e.okAs = true)
    (hold : ∀ es, asMaskCheck mask = .ok es → ∀ e ∈ es, e ∈ es')
    (hnew : ∀ p ∈ l, MElem.seq [Int.ofNat p.1, Int.ofNat p.2] ∈ es') :
    collapseAs hist offset tol g (.set es') = .ok [] := by
  obtain ⟨es, r, rest, hm, hw, hr, h0, rfl⟩ := (collapseAs_ok_iff ..).mp h
  have hck : asMaskCheck (.set es') = .ok es' := if_pos (List.all_eq_true.mpr hok)
  refine (collapseAs_ok_iff ..).mpr ⟨es', r, rest, hck, hw, hr, h0,
    (filter_unmasked_eq_nil _ _ (fun p => asMasked es p.1 p.2) _ ?_ ?_).symm⟩
  · intro p _ hp
    obtain ⟨e, he, hpe⟩ := List.any_eq_true.mp hp
    exact List.any_eq_true.mpr ⟨e, hold es hm e he, hpe⟩
  · intro p hp
    exact (asMasked_iff es' p.1 p.2).mpr (.inl (hnew p hp))

end As

section AsField
variable {K : Type} [Field K] [LinearOrder K] [IsStrictOrderedRing K]

/-- **collapse_as, documented reading (`offset = False`).** With a window of the last `g > 0` records: `(i, j)` is
reported iff `i < j` are parameters, the pair is not masked (either orientation, or a bare member), and
`|x_i - x_j| <= tolerance` at every record of the window. -/
theorem collapse_as_spec_window (hist : List (List K)) (tol : K) (g : Nat) (hg : 0 < g) (mask : SetMask)
    (l : List (Nat × Nat)) (h : collapseAs hist false tol (some (g : Int)) mask = .ok l) (i j : Nat) :
    (i, j) ∈ l ↔ ∃ es r rest, asMaskCheck mask = .ok es ∧ hist.drop (hist.length - g) = r :: rest ∧
      i < j ∧ j < r.length ∧ asMasked es i j = false ∧ ∀ d ∈ distCol (r :: rest) i j, d ≤ tol := by
  rw [collapse_as_spec hist false tol _ mask l h i j, lastN_pos hist g hg]
  constructor
  · rintro ⟨es, r, rest, h1, h2, h3, h4, h5, h6⟩
    exact ⟨es, r, rest, h1, h2, h3, h4, h5, ((leTol_maxL tol _).mp h6).2⟩
  · rintro ⟨es, r, rest, h1, h2, h3, h4, h5, h6⟩
    exact ⟨es, r, rest, h1, h2, h3, h4, h5, (leTol_maxL tol _).mpr ⟨distCol_ne_nil (h3.trans h4) h4 rest, h6⟩⟩

/-- the entries of the distance column are the `|x_i - x_j|` of the records -/
theorem distCol_mem (w : List (List K)) (i j : Nat) (d : K) :
    d ∈ distCol w i j ↔ ∃ r ∈ w, ∃ a b, r[i]? = some a ∧ r[j]? = some b ∧ d = |a - b| := by
  simp only [distCol, List.mem_filterMap]
  constructor
  · rintro ⟨r, hr, h⟩
    split at h
    · next a b ha hb => exact ⟨r, hr, a, b, ha, hb, by rw [← Option.some.inj h, absR_eq_abs]⟩
    · cases h
  · rintro ⟨r, hr, a, b, ha, hb, rfl⟩
    exact ⟨r, hr, by simp only [ha, hb, absR_eq_abs]⟩

end AsField

-- non-vacuity: columns 0 and 2 tied, column 1 drifting; masks by pair (reversed orientation) and by bare index
example : collapseAs ([[0, 1, 0], [3, 2, 3], [5, 9, 5]] : List (List Int)) false 0 (some 3) .none = .ok [(0, 2)] := by decide +kernel
example : collapseAs ([[0, 1, 0], [3, 2, 3], [5, 9, 5]] : List (List Int)) false 0 (some 3) (.set [.seq [2, 0]]) = .ok [] := by
  decide +kernel
example : collapseAs ([[0, 1, 0], [3, 2, 3], [5, 9, 5]] : List (List Int)) false 0 (some 3) (.set [.idx 2]) = .ok [] := by decide +kernel
example : collapseAs ([[0, 1, 4], [3, 2, 7], [5, 9, 9]] : List (List Int)) true 0 (some 3) .none = .ok [(0, 2)] := by decide +kernel

section Measures
variable {R : Type} [Sub R] [Neg R] [LT R] [DecidableLT R] [LE R] [DecidableLE R] [OfNat R 0]

/-- **The three mask formats of collapse_weight**: set of `(measure, index)`, dict `{measure: {indices}}`,
'where' pair `(measures, indices)`. -/
theorem weight_mask_formats (a i : Nat) :
    (∀ es, wMasked (.set es) a i = true ↔ (Int.ofNat a, Int.ofNat i) ∈ es) ∧
    (∀ d, wMasked (.dict d) a i = true ↔ Int.ofNat i ∈ dictGet d (Int.ofNat a)) ∧
    (∀ es, wMasked (.wher es) a i = true ↔ (Int.ofNat a, Int.ofNat i) ∈ es) ∧
    wMasked .none a i = false := by
  simp [wMasked]

/-- **collapse_weight.** Whenever the detector returns, `(measure a, index i)` is reported iff it is a cell of the
weight table, it is not masked (in the mask's own format), and `max(weight[a][i]) <= tolerance` over the window;
the result comes back in the mask's format. -/
theorem collapse_weight_spec (hist : List (List R)) (npts : Option (List Nat)) (tol : R) (g : Option Int)
    (mask : WMask) (fmt : Fmt) (l : List (Nat × Nat)) (h : collapseWeight hist npts tol g mask = .ok (fmt, l))
    (a i : Nat) :
    (∃ nm, wMaskCheck mask = .ok nm ∧ fmt = nm.fmt) ∧
    ((a, i) ∈ l ↔ ∃ nm t w, wMaskCheck mask = .ok nm ∧ measWindow hist npts false g = .ok (t :: w) ∧
      a < t.length ∧ i < (t.headD []).length ∧ wMasked nm a i = false ∧
      leTol tol (maxL (cellCol (t :: w) a i)) = true) := by
  unfold collapseWeight at h
  split at h
  · cases h
  · next nm hm =>
    split at h
    · cases h
    · next w hw =>
      cases w with
      | nil => cases h
      | cons t w =>
        cases h
        refine ⟨⟨nm, hm, rfl⟩, ?_⟩
        simp only [List.mem_filter, mem_cellsOf, Bool.and_eq_true, Bool.not_eq_true']
        constructor
        · rintro ⟨⟨h1, h2⟩, h3, h4⟩
          exact ⟨nm, t, w, hm, hw, h1, h2, h4, h3⟩
        · rintro ⟨nm', t', w', h1, h2, h3, h4, h5, h6⟩
          cases hm.symm.trans h1
          cases hw.symm.trans h2
          exact ⟨⟨h3, h4⟩, h6, h5⟩

/-- **Own output as mask, collapse_weight** (any format): a mask that ignores whatever the old mask ignored and
whatever was reported makes the detector report nothing on the same window. -/
theorem own_output_as_mask_is_empty_weight (w : List (List (List R))) (tol : R) (nm nm' : WNorm)
    (l : List (Nat × Nat)) (f : Fmt) (h : weightCore w tol nm = .ok (f, l))
    (hold : ∀ a i, wMasked nm a i = true → wMasked nm' a i = true)
    (hnew : ∀ c ∈ l, wMasked nm' c.1 c.2 = true) :
    weightCore w tol nm' = .ok (nm'.fmt, []) := by
  cases w with
  | nil => cases h
  | cons t w =>
    cases h
    rw [weightCore, filter_unmasked_eq_nil _ (fun c : Nat × Nat => leTol tol (maxL (cellCol (t :: w) c.1 c.2)))
      (fun c => wMasked nm c.1 c.2) (fun c => wMasked nm' c.1 c.2) (fun c _ => hold c.1 c.2) hnew]

/-- **The three mask formats of collapse_position**: set of `(measure, pair)`, dict `{measure: {pairs}}`, 'where'
pair `(measures, pairs)` given as tuples - every format ignores a pair in EITHER orientation. -/
theorem position_mask_formats (a i j : Nat) :
    (∀ es, pMasked (.set es) a i j = true ↔
        (Int.ofNat a, [Int.ofNat i, Int.ofNat j]) ∈ es ∨ (Int.ofNat a, [Int.ofNat j, Int.ofNat i]) ∈ es) ∧
    (∀ d, pMasked (.dict d) a i j = true ↔
        (Int.ofNat i, Int.ofNat j) ∈ dictGet d (Int.ofNat a) ∨ (Int.ofNat j, Int.ofNat i) ∈ dictGet d (Int.ofNat a)) ∧
    (∀ ms ps nm, ms.length = ps.length → pMaskCheck (.wher ms ps true) = .ok nm →
        (pMasked nm a i j = true ↔
          (Int.ofNat a, [Int.ofNat i, Int.ofNat j]) ∈ ms.zip ps ∨ (Int.ofNat a, [Int.ofNat j, Int.ofNat i]) ∈ ms.zip ps)) ∧
    pMasked .none a i j = false := by
  refine ⟨?_, ?_, ?_, rfl⟩
  · intro es
    have hrev : (Int.ofNat a, [Int.ofNat i, Int.ofNat j]) ∈ es.map (fun e => (e.1, e.2.reverse)) ↔
        (Int.ofNat a, [Int.ofNat j, Int.ofNat i]) ∈ es :=
      List.mem_map_of_injective (f := fun e : Int × List Int => (e.1, e.2.reverse))
        (fun x y h => Prod.ext (Prod.mk.inj h).1 (List.reverse_inj.mp (Prod.mk.inj h).2))
        (a := (Int.ofNat a, [Int.ofNat j, Int.ofNat i]))
    simp only [pMasked, Bool.or_eq_true, List.contains_eq_mem, decide_eq_true_eq, hrev]
  · intro d
    simp only [pMasked, Bool.or_eq_true, List.contains_eq_mem, decide_eq_true_eq]
  · intro ms ps nm hlen hck
    cases ps with
    | nil => cases hck
    | cons p rest =>
      rw [pMaskCheck] at hck
      split at hck
      · cases hck
        -- the mask is `(ms, ps)` followed by `(ms, reversed ps)`
        simp only [pMasked, List.contains_eq_mem, decide_eq_true_eq]
        rw [List.zip_append (by rw [List.length_map]; exact hlen), List.mem_append]
        exact or_congr
          (mem_zip_map_inj (fun q => (true, q)) (fun x y h => (Prod.mk.inj h).2) ms _ _ _)
          (mem_zip_map_inj (fun q => (true, q.reverse)) (fun x y h => List.reverse_inj.mp (Prod.mk.inj h).2) ms _ _
            [Int.ofNat j, Int.ofNat i])
      · cases hck

/-- **collapse_position.** Whenever the detector returns, `(measure a, pair (i, j))` is reported iff `i < j` are
positions of measure `a`, the pair is not masked (in the mask's own format), and `max |pos[a][i] - pos[a][j]| <=
tolerance` over the window; the result comes back in the mask's format. -/
theorem collapse_position_spec (hist : List (List R)) (npts : Option (List Nat)) (tol : R) (g : Option Int)
    (mask : PMask) (fmt : Fmt) (l : List (Nat × Nat × Nat)) (h : collapsePosition hist npts tol g mask = .ok (fmt, l))
    (a i j : Nat) :
    (∃ nm, pMaskCheck mask = .ok nm ∧ fmt = nm.fmt) ∧
    ((a, i, j) ∈ l ↔ ∃ nm t w, pMaskCheck mask = .ok nm ∧ measWindow hist npts true g = .ok (t :: w) ∧
      a < t.length ∧ i < j ∧ j < (t.headD []).length ∧ pMasked nm a i j = false ∧
      leTol tol (maxL (cellDist (t :: w) a i j)) = true) := by
  unfold collapsePosition at h
  split at h
  · cases h
  · next nm hm =>
    split at h
    · cases h
    · next w hw =>
      cases w with
      | nil => cases h
      | cons t w =>
        rw [positionCore] at h
        split at h
        · cases h
        · cases h
          refine ⟨⟨nm, hm, rfl⟩, ?_⟩
          simp only [List.mem_filter, mem_pcellsOf, Bool.and_eq_true, Bool.not_eq_true']
          constructor
          · rintro ⟨⟨h1, h2, h3⟩, h4, h5⟩
            exact ⟨nm, t, w, hm, hw, h1, h2, h3, h5, h4⟩
          · rintro ⟨nm', t', w', h1, h2, h3, h4, h5, h6, h7⟩
            cases hm.symm.trans h1
            cases hw.symm.trans h2
            exact ⟨⟨h3, h4, h5⟩, h7, h6⟩

/-- **Own output as mask, collapse_position** (any format). -/
theorem own_output_as_mask_is_empty_position (w : List (List (List R))) (tol : R) (nm nm' : PNorm)
    (l : List (Nat × Nat × Nat)) (f : Fmt) (h : positionCore w tol nm = .ok (f, l))
    (hold : ∀ a i j, pMasked nm a i j = true → pMasked nm' a i j = true)
    (hnew : ∀ c ∈ l, pMasked nm' c.1 c.2.1 c.2.2 = true) :
    positionCore w tol nm' = .ok (nm'.fmt, []) := by
  cases w with
  | nil => cases h
  | cons t w =>
    rw [positionCore] at h ⊢
    split at h
    · cases h
    · next h0 =>
      cases h
      rw [if_neg h0, filter_unmasked_eq_nil _
        (fun c : Nat × Nat × Nat => leTol tol (maxL (cellDist (t :: w) c.1 c.2.1 c.2.2)))
        (fun c => pMasked nm c.1 c.2.1 c.2.2) (fun c => pMasked nm' c.1 c.2.1 c.2.2)
        (fun c _ => hold c.1 c.2.1 c.2.2) hnew]

end Measures

-- non-vacuity: one measure with 2 points, parameters [w0 w1 p0 p1]; weight 0 stays 0, the two positions coincide
example : collapseWeight ([[0, 1, 7, 7], [0, 1, 7, 7]] : List (List Int)) (some [2]) 0 (some 2) .none = .ok (.dict, [(0, 0)]) := by
  decide +kernel
example : collapseWeight ([[0, 1, 7, 7], [0, 1, 7, 7]] : List (List Int)) (some [2]) 0 (some 2) (.wher [0] [0]) = .ok (.wher, []) := by
  decide +kernel
example : collapsePosition ([[0, 1, 7, 7], [0, 1, 7, 7]] : List (List Int)) (some [2]) 0 (some 2) (.set []) = .ok (.set, [(0, 0, 1)]) := by
  decide +kernel
example : collapsePosition ([[0, 1, 7, 7], [0, 1, 7, 7]] : List (List Int)) (some [2]) 0 (some 2) (.dict [some (0, [(1, 0)])])
    = .ok (.dict, []) := by decide +kernel

/-- **Known finding (model side).** A 'where' mask whose pairs are LISTS (`[[0], [[0, 1]]]`) passes the validation
of `collapse_position` but is ignored: list pairs compare unequal to the tuples the detector produces, and only
their reversed copies (made by `_inverted`) are tuples.  The same mask with tuple pairs works. -/
theorem position_where_list_pairs_ignored_witness :
    collapsePosition ([[0, 1, 7, 7], [0, 1, 7, 7]] : List (List Int)) (some [2]) 0 (some 2) (.wher [0] [[0, 1]] false)
      = .ok (.wher, [(0, 0, 1)]) ∧
    collapsePosition ([[0, 1, 7, 7], [0, 1, 7, 7]] : List (List Int)) (some [2]) 0 (some 2) (.wher [0] [[0, 1]] true)
      = .ok (.wher, []) ∧
    collapsePosition ([[0, 1, 7, 7], [0, 1, 7, 7]] : List (List Int)) (some [2]) 0 (some 2) (.wher [0] [[1, 0]] false)
      = .ok (.wher, []) :=
  ⟨by decide +kernel, by decide +kernel, by decide +kernel⟩

section Masks
variable {E : Type} [DecidableEq E]

/-- a 'where' mask whose two sequences have the same length (what the detectors validate and produce) -/
def Aligned : MaskV E → Prop
  | .wher _ ms es => ms.length = es.length
  | _ => True

/-- **The mask grows by what was applied, per format** (`_extend_mask`): whenever the extension succeeds, nothing of
the old mask is lost and every member of the collapse is in the new mask - set, dict and 'where' formats, and the
empty / `None` masks that are simply replaced. -/
theorem extend_mask_grows (old new m : MaskV E) (h : extendV old new = .ok m) (key : Int) (e : E) :
    (old.has key e = true → m.has key e = true) ∧
    (Aligned old → new.has key e = true → m.has key e = true) := by
  rcases extendV_ok h with ⟨rfl, rfl⟩ | ⟨-, hf, rfl⟩ | ⟨a, b, rfl, rfl, rfl⟩ | ⟨a, b, rfl, rfl, rfl⟩ |
    ⟨t, ms, es, ms', es', rfl, rfl, rfl⟩
  · exact ⟨id, fun _ h => (Bool.false_ne_true h).elim⟩
  · exact ⟨fun h => (Bool.false_ne_true ((MaskV.has_of_falsy hf key e).symm.trans h)).elim, fun _ h => h⟩
  · simp only [MaskV.has, List.contains_eq_mem, decide_eq_true_eq, mem_unionL]
    exact ⟨Or.inl, fun _ => Or.inr⟩
  · rw [dict_has_iff, dict_has_iff, dict_has_iff]
    exact ⟨fun h => dictMerge_has a b key e (.inl h), fun _ h => dictMerge_has a b key e (.inr h)⟩
  · simp only [MaskV.has, List.contains_eq_mem, decide_eq_true_eq]
    refine ⟨fun h => mem_zip_append_left ms ms' es es' _ h, fun hal h => ?_⟩
    rw [List.zip_append hal]
    exact List.mem_append_right _ h

/-- a primitive after an update: same factory, same other settings, and a mask that lost nothing -/
def PrimGrows (p p' : Prim E) : Prop :=
  p'.ty = p.ty ∧ p'.kw = p.kw ∧ p'.hasMask = p.hasMask ∧ ∀ key e, p.mask.has key e = true → p'.mask.has key e = true

theorem PrimGrows.refl (p : Prim E) : PrimGrows p p := ⟨rfl, rfl, rfl, fun _ _ h => h⟩

theorem PrimGrows.trans {p q r : Prim E} (h1 : PrimGrows p q) (h2 : PrimGrows q r) : PrimGrows p r :=
  ⟨h2.1.trans h1.1, h2.2.1.trans h1.2.1, h2.2.2.1.trans h1.2.2.1, fun k e h => h2.2.2.2 k e (h1.2.2.2 k e h)⟩

/-- what `_extend_mask` does to one primitive: it only grows, and (when it has a mask keyword) takes the collapse in -/
def Applied (new : MaskV E) (p p' : Prim E) : Prop :=
  PrimGrows p p' ∧ (p.hasMask = true → Aligned p.mask → ∀ key e, new.has key e = true → p'.mask.has key e = true)

theorem extendPrim_applied (p q : Prim E) (new : MaskV E) (h : extendPrim p new = .ok q) : Applied new p q := by
  unfold extendPrim at h
  split at h
  · cases h
    exact ⟨PrimGrows.refl p, fun _ _ k e h => (Bool.false_ne_true h).elim⟩
  · split at h
    · split at h
      · next m hx =>
        cases h
        exact ⟨⟨rfl, rfl, rfl, fun k e => (extend_mask_grows _ _ _ hx k e).1⟩,
          fun _ hal k e => (extend_mask_grows _ _ _ hx k e).2 hal⟩
      · cases h
    · next hm =>
      cases h
      exact ⟨PrimGrows.refl p, fun hh => absurd hh hm⟩

/-- relation between a primitive before and after `_update_masks(.., mask, kind)` inside a tuple: it only grows, and
the primitive whose doc is `kind` takes the collapse in -/
def Upd (k : Prim E) (new : MaskV E) (p p' : Prim E) : Prop :=
  PrimGrows p p' ∧ (p = k → p.hasMask = true → Aligned p.mask → ∀ key e, new.has key e = true → p'.mask.has key e = true)

mutual
theorem updIn_upd (k : Prim E) (new : MaskV E) :
    (c c' : Cond E) → updIn k new c = .ok c' → List.Forall₂ (Upd k new) c.prims c'.prims
  | .prim p, c', h => by
    rw [updIn] at h
    split at h
    · split at h
      · next q hq =>
        cases h
        exact .cons ⟨(extendPrim_applied p q new hq).1, fun _ => (extendPrim_applied p q new hq).2⟩ .nil
      · cases h
    · next hd =>
      cases h
      exact .cons ⟨PrimGrows.refl p, fun hpk => absurd (decide_eq_true hpk) hd⟩ .nil
  | .node w cs, c', h => by
    rw [updIn] at h
    split at h
    · next cs' hcs =>
      rw [rebuild] at h
      split at h
      · cases h
      · cases h
        exact updInL_upd k new cs cs' hcs
    · cases h
theorem updInL_upd (k : Prim E) (new : MaskV E) :
    (cs cs' : List (Cond E)) → updInL k new cs = .ok cs' → List.Forall₂ (Upd k new) (Cond.primsL cs) (Cond.primsL cs')
  | [], cs', h => by
    cases h
    exact .nil
  | c :: cs, cs', h => by
    rw [updInL] at h
    split at h
    · cases h
    · next c' hc =>
      split at h
      · next cs'' hcs =>
        cases h
        exact List.rel_append (updIn_upd k new c c' hc) (updInL_upd k new cs cs'' hcs)
      · cases h
end

/-- one `_update_masks` call on a whole condition -/
private theorem updateMasks_applies (c c' : Cond E) (new : MaskV E) (k : Prim E) (h : updateMasks c new k = .ok c') :
    List.Forall₂ (fun p p' => PrimGrows p p' ∧
      ((p = k ∨ c = .prim p) → p.hasMask = true → Aligned p.mask →
        ∀ key e, new.has key e = true → p'.mask.has key e = true)) c.prims c'.prims := by
  cases c with
  | prim p =>
    rw [updateMasks] at h
    split at h
    · next q hq =>
      cases h
      exact .cons ⟨(extendPrim_applied p q new hq).1, fun _ => (extendPrim_applied p q new hq).2⟩ .nil
    · cases h
  | node w cs =>
    refine List.Forall₂.imp (fun p p' hab => ⟨hab.1, fun hor => hab.2 (hor.resolve_right fun hc => nomatch hc)⟩)
      (updIn_upd k new (.node w cs) c' ?_)
    rw [updIn]
    exact h

/-- **update_mask grows.** For EVERY condition tree and EVERY collapse dict: when `update_mask` returns, the new
condition has the same primitives in the same order, each with the same factory and the same other keyword
settings, and no primitive's mask has lost a member. -/
theorem update_mask_grows (c c' : Cond E) (cl : List (Prim E × MaskV E)) (h : updateMask c cl = .ok c') :
    List.Forall₂ PrimGrows c.prims c'.prims := by
  fun_induction updateMask c cl with
  | case1 c =>
    cases h
    exact List.forall₂_same.mpr fun p _ => PrimGrows.refl p
  | case2 c k m rest c1 hx ih =>
    exact forall₂_trans (R := PrimGrows) (fun _ _ _ h1 h2 => PrimGrows.trans h1 h2)
      ((updateMasks_applies c c1 m k hx).imp fun _ _ hab => hab.1) (ih h)
  | case3 => cases h

/-- **update_mask applies the collapse.** With one reported collapse `(k, new)` (`k` = the doc of the reporting
primitive): inside a `When/And/Or` tuple exactly the primitives with that doc take every member of the collapse
into their mask; a bare primitive takes it whatever its doc. -/
theorem update_mask_applies (c c' : Cond E) (k : Prim E) (new : MaskV E) (h : updateMask c [(k, new)] = .ok c') :
    List.Forall₂ (fun p p' => PrimGrows p p' ∧
      ((p = k ∨ c = .prim p) → p.hasMask = true → Aligned p.mask →
        ∀ key e, new.has key e = true → p'.mask.has key e = true)) c.prims c'.prims := by
  rw [updateMask] at h
  split at h
  · next c1 hc1 =>
    obtain rfl : c1 = c' := Except.ok.inj h
    exact updateMasks_applies c c1 new k hc1
  · cases h

end Masks

/-- `kwds['mask']` of a CollapseAt / CollapseAs condition as a mask value -/
def maskOf : SetMask → MaskV MElem
  | .none => .none
  | .set es => .set es
  | .other => .emptyseq

section NotAgain
variable {R : Type} [Sub R] [Neg R] [LT R] [DecidableLT R] [LE R] [DecidableLE R] [OfNat R 0]

set_option linter.unusedVariables false in
/-- **Never reported again (collapse_at).** After a non-empty report `l` has been merged into the condition's mask by
`_extend_mask`, the same detector on the same history reports nothing - for every history, target, tolerance,
window and accepted mask. -/
theorem not_reported_again (hist : List (List R)) (tgt : Target R) (tols : List R) (g : Option Int)
    (mask : SetMask) (l : List Nat) (h : collapseAt hist tgt tols g mask = .ok l) (hne : l ≠ [])
    (m' : MaskV MElem) (hx : extendV (maskOf mask) (.set (l.map (fun i => MElem.idx (Int.ofNat i)))) = .ok m') :
    ∃ es', m' = .set es' ∧ collapseAt hist tgt tols g (.set es') = .ok [] := by
  -- `hne` is not needed: an empty report leaves the mask as it is
  obtain ⟨es', rfl, hes⟩ := extendV_set_ok hx
  refine ⟨es', rfl, own_output_as_mask_is_empty_at hist tgt tols g mask l h es' ?_ ?_ ?_⟩
  · intro e he
    rcases (hes 0 e).mp he with ho | hn
    · cases mask with
      | none | other => exact (Bool.false_ne_true ho).elim
      | set es =>
        obtain ⟨ms, _, _, _, hm, -⟩ := (collapseAt_ok_iff ..).mp h
        exact (atMaskCheck_set_ok hm).1 e (List.mem_of_elem_eq_true ho)
    · obtain ⟨i, _, rfl⟩ := List.mem_map.mp hn
      rfl
  · intro ms hms a ha
    refine (hes 0 _).mpr (.inl ?_)
    cases mask with
    | none => cases hms; cases ha
    | other => cases hms
    | set es => exact List.elem_eq_true_of_mem (((atMaskCheck_set_ok hms).2 a).mp ha)
  · intro i hi
    exact (hes 0 _).mpr (.inr (List.mem_map.mpr ⟨i, hi, rfl⟩))

end NotAgain

-- non-vacuity: report [0, 2], merge into the mask {1}, report nothing
example : collapseAt ([[0, 1, 5], [0, 1, 5]] : List (List Int)) .none [0] (some 2) (.set [.idx 1]) = .ok [0, 2] := by decide +kernel
example : extendV (maskOf (.set [.idx 1])) (.set ([0, 2].map (fun i => MElem.idx (Int.ofNat i))))
    = .ok (.set [.idx 1, .idx 0, .idx 2]) := by decide +kernel
example : updateMask (.node false [.prim ⟨0, 0, true, .set [[1]]⟩, .prim ⟨4, 1, false, (.none : MaskV (List Int))⟩])
      [(⟨0, 0, true, .set [[1]]⟩, .set [[0], [2]])]
    = .ok (.node false [.prim ⟨0, 0, true, .set [[1], [0], [2]]⟩, .prim ⟨4, 1, false, .none⟩]) := by rfl

section Loop

/-- a run of the collapse loop seen through its masks: every round adds a member of the universe that was not
masked (by `collapse_*_spec` a reported member is never masked, and by `update_mask_grows` nothing is lost) -/
def Grows (n : Nat) : List (List Nat) → Prop
  | a :: b :: rest => (∃ f, f < n ∧ f ∉ a ∧ f ∈ b) ∧ (∀ x ∈ a, x ∈ b) ∧ Grows n (b :: rest)
  | _ => True

/-- **Bound on the number of collapses, any run.** A sequence of masks in which every collapse adds a fresh member of
a universe of `n` items (indices, or pairs) has at most `n` collapses (`n + 1` masks). -/
theorem collapse_chain_bounded (n : Nat) : ∀ (ms : List (List Nat)), Grows n ms → ms.length ≤ free n (ms.headD []) + 1 := by
  intro ms
  induction ms with
  | nil => exact fun _ => Nat.zero_le _
  | cons a t ih =>
    cases t with
    | nil => exact fun _ => Nat.le_add_left 1 _
    | cons b rest =>
      rintro ⟨⟨f, hf, hfa, hfb⟩, hsub, hrest⟩
      exact Nat.succ_le_succ ((ih hrest).trans (free_lt n a b hsub f hf hfa hfb))

/-- **The collapse loop terminates.** In the loop model (every round applies what is reported and not yet masked,
and stops at the first round with nothing new) the number of applied collapses is at most the number of unmasked
items, hence at most the size of the universe: `nDim` indices for CollapseAt, `nDim(nDim-1)/2` pairs for
CollapseAs - whatever the detectors report. -/
theorem collapse_loop_terminates (n : Nat) (mask : List Nat) (reps : List (List Nat)) :
    (Loop.run n mask reps).1 ≤ free n mask ∧ free n mask ≤ n := by
  refine ⟨?_, free_le n mask⟩
  fun_induction Loop.run n mask reps with
  | case1 => exact Nat.zero_le _
  | case2 => exact Nat.zero_le _
  | case3 mask rep rest f fs hfr ih =>
    have hmem : f ∈ Loop.fresh n mask rep := hfr ▸ List.mem_cons_self
    simp only [Loop.fresh, List.mem_filter, Bool.and_eq_true, decide_eq_true_eq, Bool.not_eq_true',
      List.contains_eq_mem, decide_eq_false_iff_not] at hmem
    exact Nat.succ_le_of_lt (Nat.lt_of_le_of_lt ih
      (free_lt n mask (mask ++ f :: fs) (fun x hx => List.mem_append_left _ hx) f hmem.2.1 hmem.2.2
        (List.mem_append_right _ List.mem_cons_self)))

example : Loop.run 3 [0] [[0, 1], [1, 2], [2], [0]] = (2, [0, 1, 2]) := by decide +kernel
example : Grows 3 [[], [1], [1, 0], [1, 0, 2]] := by
  exact ⟨⟨1, by decide, by decide, by decide⟩, by decide, ⟨0, by decide, by decide, by decide⟩, by decide,
    ⟨2, by decide, by decide, by decide⟩, by decide, trivial⟩

end Loop

section Apply

variable {R : Type}

/-- **Every collapsed pair ends up inside one group of `tools.connected`, whatever the iteration order.**
(The groups only grow and are never split.)  What can go wrong is only that two groups share a member. -/
theorem connected_pair_in_group (pairs : List (Nat × Nat)) :
    ∀ p ∈ pairs, ∃ g ∈ connected pairs, inGrp g p.1 = true ∧ inGrp g p.2 = true :=
  (foldl_connAdd_pair pairs []).2

/-- `impose_as` keeps the length of the parameter vector -/
theorem applied_length (pairs : List (Nat × Nat)) (x : List R) : (applyAs pairs x).length = x.length :=
  tieAll_length _ x

/-- **Applied relation, exact (clause "every point evaluated afterwards ... equal to its partner").**  For every
iteration order in which no pair joins two groups that exist when it is processed (`noBridge`, evaluated by the driver
on the real iteration order of every case), `impose_as` ties every pair exactly, and the common value is the value the
ORIGINAL vector had at the key of the pair's group (nothing is invented).  Without `noBridge` the statement is false for
the code as it is (`applied_bridged_pair_not_tied_witness`): `connected` never merges two existing groups. -/
theorem applied_pairs_equal_partial (pairs : List (Nat × Nat)) (x : List R) (hb : noBridge pairs = true)
    (hr : ∀ p ∈ pairs, p.1 < x.length ∧ p.2 < x.length) :
    ∀ p ∈ pairs, ∃ g ∈ connected pairs,
      (applyAs pairs x)[p.1]? = x[g.1]? ∧ (applyAs pairs x)[p.2]? = x[g.1]? ∧ g.1 < x.length := by
  have hd := connected_disj hb
  have hin : InR x.length (connected pairs) := connected_inR hr
  intro p hp
  obtain ⟨g, hg, h1, h2⟩ := connected_pair_in_group pairs p hp
  exact ⟨g, hg, tieAll_group _ x hd hin g hg p.1 h1, tieAll_group _ x hd hin g hg p.2 h2, hin g hg g.1 (inGrp_key g)⟩

/-- the pairs, read as an undirected graph on the parameters -/
def Tied (pairs : List (Nat × Nat)) (a b : Nat) : Prop := (a, b) ∈ pairs ∨ (b, a) ∈ pairs

/-- **All members of a connected component end up equal** (chains: two parameters each tied to a common third, not
to each other, are equal to each other afterwards), under the same hypothesis as `applied_pairs_equal_partial`. -/
theorem applied_component_equal_partial (pairs : List (Nat × Nat)) (x : List R) (hb : noBridge pairs = true)
    (hr : ∀ p ∈ pairs, p.1 < x.length ∧ p.2 < x.length) (a b : Nat)
    (hab : Relation.ReflTransGen (Tied pairs) a b) : (applyAs pairs x)[a]? = (applyAs pairs x)[b]? := by
  induction hab with
  | refl => rfl
  | tail _ hbc ih =>
    refine ih.trans ?_
    rcases hbc with h | h
    · obtain ⟨g, _, h1, h2, _⟩ := applied_pairs_equal_partial pairs x hb hr _ h
      exact h1.trans h2.symm
    · obtain ⟨g, _, h1, h2, _⟩ := applied_pairs_equal_partial pairs x hb hr _ h
      exact h2.trans h1.symm

/-- **Frame**: a parameter that is in no collapsed pair keeps its value - for EVERY iteration order. -/
theorem applied_frame (pairs : List (Nat × Nat)) (x : List R) (hr : ∀ p ∈ pairs, p.1 < x.length ∧ p.2 < x.length)
    (q : Nat) (hq : q < x.length) (hn : ∀ p ∈ pairs, q ≠ p.1 ∧ q ≠ p.2) : (applyAs pairs x)[q]? = x[q]? := by
  refine tieAll_frame _ x (connected_inR hr) q hq fun g hg hc => ?_
  obtain ⟨p, hp, h | h⟩ := connected_sub pairs hg (inGrp_of_mem hc)
  · exact (hn p hp).1 h
  · exact (hn p hp).2 h

/-- **Orders that are always handled**: a pair set that is ONE component grown pair by pair - every pair after the
first has a member among the members of the earlier pairs - never joins two existing groups. -/
theorem oneComponentOrder_noBridge (pairs : List (Nat × Nat)) (h : oneComponentOrder pairs = true) :
    noBridge pairs = true := by
  cases pairs with
  | nil => rfl
  | cons p ps =>
    show noBridgeFrom [(p.1, [p.2])] ps = true
    refine grown_noBridgeFrom ps (p.1, [p.2]) [p.1, p.2] (fun a ha => ?_) h
    rcases List.mem_pair.mp ha with rfl | rfl
    · exact inGrp_key _
    · exact inGrp_of_mem List.mem_cons_self

/-- a star (all pairs share one parameter `c`, as first OR second member) in ANY order never joins two groups -/
theorem star_noBridge (c : Nat) (pairs : List (Nat × Nat)) (hs : ∀ p ∈ pairs, p.1 = c ∨ p.2 = c) :
    noBridge pairs = true := by
  refine oneComponentOrder_noBridge pairs ?_
  cases pairs with
  | nil => rfl
  | cons p ps =>
    refine grown_of_star c ps [p.1, p.2] ?_ (fun q hq => hs q (List.mem_cons_of_mem _ hq))
    rcases hs p List.mem_cons_self with h | h <;> simp [h]

/-- **Chain collapse `{(i,k),(j,k)}` and every star: exact in every order and orientation.**  When all collapsed
pairs share one parameter (two parameters each tied to a common third - lower, middle or higher index - and not to
each other; a star with any number of arms), `impose_as` makes ALL of them equal, whatever order the set is iterated
in and whichever member comes first in a pair. -/
theorem applied_star_equal (c : Nat) (pairs : List (Nat × Nat)) (x : List R) (hs : ∀ p ∈ pairs, p.1 = c ∨ p.2 = c)
    (hr : ∀ p ∈ pairs, p.1 < x.length ∧ p.2 < x.length) :
    ∀ p ∈ pairs, ∀ q ∈ pairs, (applyAs pairs x)[p.1]? = (applyAs pairs x)[q.2]?
      ∧ (applyAs pairs x)[p.1]? = (applyAs pairs x)[p.2]? := by
  have hb := star_noBridge c pairs hs
  intro p hp q hq
  have hpe : (applyAs pairs x)[p.1]? = (applyAs pairs x)[p.2]? := by
    obtain ⟨g, _, h1, h2, _⟩ := applied_pairs_equal_partial pairs x hb hr p hp
    exact h1.trans h2.symm
  refine ⟨?_, hpe⟩
  have hpc : Relation.ReflTransGen (Tied pairs) p.1 c := by
    rcases hs p hp with h | h
    · rw [h]
    · exact h ▸ Relation.ReflTransGen.single (.inl hp)
  have hcq : Relation.ReflTransGen (Tied pairs) c q.2 := by
    rcases hs q hq with h | h
    · exact h ▸ Relation.ReflTransGen.single (.inl hq)
    · rw [h]
  exact applied_component_equal_partial pairs x hb hr _ _ (hpc.trans hcq)

/-- **F26 witness (the unrestricted clause fails on the code as it is).**  The path `0-1-2-3` iterated as
`(2,3), (0,1), (1,2)` (pairs exactly as `collapse_as` reports them, `i < j`): `connected` builds `{2: {3,1}, 0: {1}}`,
the pair `(1,2)` joins two existing groups, `x[1]` is overwritten twice and the collapsed pair `(1,2)` is NOT equal
afterwards. -/
theorem applied_bridged_pair_not_tied_witness :
    noBridge [(2, 3), (0, 1), (1, 2)] = false
      ∧ connected [(2, 3), (0, 1), (1, 2)] = [(2, [3, 1]), (0, [1])]
      ∧ applyAs [(2, 3), (0, 1), (1, 2)] ([10, 11, 12, 13] : List Int) = [10, 10, 12, 12] := by decide +kernel

-- non-vacuity: the chain {(0,2),(1,2)} (two parameters tied to a common third), both iteration orders, and a star
-- around the middle index
example : noBridge [(0, 2), (1, 2)] = true ∧ applyAs [(0, 2), (1, 2)] ([10, 11, 12, 13] : List Int) = [10, 10, 10, 13] := by
  decide +kernel
example : noBridge [(1, 2), (0, 2)] = true ∧ applyAs [(1, 2), (0, 2)] ([10, 11, 12, 13] : List Int) = [11, 11, 11, 13] := by
  decide +kernel
example : oneComponentOrder [(1, 3), (0, 1), (1, 2), (3, 4)] = true
    ∧ applyAs [(1, 3), (0, 1), (1, 2), (3, 4)] ([10, 11, 12, 13, 14] : List Int) = [11, 11, 11, 11, 11] := by decide +kernel

end Apply

/-! ## applying measure collapses (`CollapseWeight` / `CollapsePosition` -> `constraints.impose_measure`)

`Collapse()` hands the dicts of `collapse_position` (`{measure: set of pairs i<j}`) and `collapse_weight`
(`{measure: set of indices}`) to ONE `impose_measure(npts, tracking, noweight)` per round (abstract_solver.py l.849);
inside, the position collapses (`impose_collapse`: the weight of a tracked point is moved onto the key of its group)
run BEFORE the weight removals (`impose_unweighted`), constraints.py l.1812-1819.  Model: Model/CollapseMeasure.lean
(`applyMeasure` = C19's `Discrete.imposeMeasure` over the groups that `Clps.connected` builds from the pairs in the
real iteration order).  `c` is the product measure loaded from the parameter vector, `imposeOn .. c` the measure whose
flattening the cost function receives. -/
section MeasureApply
open MysticVerif.Discrete

variable {K : Type} [Field K] [LinearOrder K] [IsStrictOrderedRing K]

/-- what is assumed of the pairs of one tracked item on a factor with `n` points: no pair joins two groups that exist
when it is processed (as for `impose_as`, F26), indices in range, and no key of a group among its own members (all three
are evaluated by the driver on the real iteration order of every case) -/
def TrackOK (n : Nat) (pairs : List (Nat × Nat)) : Prop :=
  noBridge pairs = true ∧ (∀ p ∈ pairs, p.1 < n ∧ p.2 < n) ∧ keyFree (connected pairs) = true

/-- **Applied position collapse, exact (clause "... equal to its partner", measures).**  For one `impose_measure` call
with one `CollapsePosition` dict (distinct measures), every collapsed pair `(i,j)` of measure `k` has EXACTLY equal
positions in the measure the cost function receives - after all the weight removals of the same call, whatever
indices they name (root of the pair, second member, unrelated) and whatever the weights are.  Hypothesis on the pair
set as for `applied_pairs_equal_partial` (`TrackOK`; without `noBridge` the statement is false: F26 mechanism). -/
theorem measure_applied_pairs_equal (inf : K) (r : MRound) (c : PM K)
    (hnd : (r.tracking.map (·.1)).Nodup) (kv : Nat × List (Nat × Nat)) (hkv : kv ∈ r.tracking)
    (m : Measure K) (hm : c[kv.1]? = some m) (hok : TrackOK m.length kv.2) (p : Nat × Nat) (hp : p ∈ kv.2) :
    ∃ m', (imposeOn inf (trackGroups r.tracking) r.noweight c)[kv.1]? = some m' ∧ m'.length = m.length ∧
      (mpositions m')[p.1]? = (mpositions m')[p.2]? := by
  obtain ⟨hgok, hdis, hpair⟩ := connected_groups_ok m.length kv.2 hok.1 hok.2.1 hok.2.2
  obtain ⟨g, hg, h1, h2⟩ := hpair p hp
  have hnd' : ((trackGroups r.tracking).map (·.1)).Nodup := by
    rw [trackGroups, List.map_map]; exact hnd
  have hkey := fun q hq hqn => imposeOn_member_pos inf (trackGroups r.tracking) r.noweight c hnd'
    (kv.1, connected kv.2) (List.mem_map.2 ⟨kv, hkv, rfl⟩) m hm hgok hdis g hg q hq hqn
  obtain ⟨m', hm', hlen, e1⟩ := hkey p.1 h1 (hok.2.1 p hp).1
  obtain ⟨m'', hm'', -, e2⟩ := hkey p.2 h2 (hok.2.1 p hp).2
  cases hm'.symm.trans hm''
  exact ⟨m', hm', hlen, e1.trans e2.symm⟩

/-- **Applied weight collapse, exact (clause "parameter fixed at its target", measures: weight 0).**  For one
`impose_measure` call with one `CollapseWeight` dict (distinct measures), every collapsed weight index of measure `k`
has weight EXACTLY 0 in the measure the cost function receives - although the position collapses of the same call may
have moved a partner's weight onto that very index before (dead index = root of a collapsed pair): the removals run
LAST.  For every iteration order of the pair sets (no `noBridge` needed).  Hypotheses: the loaded factor has
non-negative weights of positive total, the tracked pairs of that factor are in range with no key among its own
members, and the collapse leaves at least one point of the factor alive. -/
theorem measure_applied_weights_zero (inf : K) (r : MRound) (c : PM K)
    (hnd : (r.noweight.map (·.1)).Nodup) (kv : Nat × List Nat) (hkv : kv ∈ r.noweight)
    (m : Measure K) (hm : c[kv.1]? = some m) (hnn : ∀ w ∈ mweights m, 0 ≤ w) (hpos : 0 < (mweights m).sum)
    (htr : ∀ t ∈ r.tracking, t.1 = kv.1 →
      (∀ p ∈ t.2, p.1 < m.length ∧ p.2 < m.length) ∧ keyFree (connected t.2) = true)
    (hout : ∃ i, i < m.length ∧ i ∉ kv.2) :
    ∃ m', (imposeOn inf (trackGroups r.tracking) r.noweight c)[kv.1]? = some m' ∧ m'.length = m.length ∧
      ∀ p ∈ kv.2, p < m.length → (mweights m')[p]? = some 0 := by
  refine imposeOn_noweight_zero inf (trackGroups r.tracking) r.noweight c hnd kv hkv m hm hnn hpos ?_ hout
  intro t ht hk g hg
  obtain ⟨t0, ht0, rfl⟩ := List.mem_map.1 ht
  exact connected_groups_wf m.length t0.2 (htr t0 ht0 hk).1 (htr t0 ht0 hk).2 g hg

/-- **Applied measure collapse on the parameter vector (both relations, the order the code uses).**  For every
parameter vector `x` of at least `2*sum(npts)` numbers and one round of collapses: the constraint returns the
flattening of a measure `c'` that reads back as `c'` with the same `npts`, and in `c'` every collapsed position pair
is exactly equal and every collapsed weight exactly 0 (hypotheses per measure as in the two theorems above). -/
theorem impose_measure_applied_exact (inf : K) (npts : List Nat) (r : MRound) (x : List K)
    (hlen : 2 * npts.sum ≤ x.length)
    (hndt : (r.tracking.map (·.1)).Nodup) (hndn : (r.noweight.map (·.1)).Nodup) :
    ∃ c c', unflatten (x.take (2 * npts.sum)) npts = some c ∧ applyMeasure inf npts r x = some (flatten c') ∧
      unflatten (flatten c') npts = some c' ∧
      (∀ kv ∈ r.tracking, ∀ m, c[kv.1]? = some m → TrackOK m.length kv.2 → ∀ p ∈ kv.2,
        ∃ m', c'[kv.1]? = some m' ∧ m'.length = m.length ∧ (mpositions m')[p.1]? = (mpositions m')[p.2]?) ∧
      (∀ kv ∈ r.noweight, ∀ m, c[kv.1]? = some m → (∀ w ∈ mweights m, 0 ≤ w) → 0 < (mweights m).sum →
        (∀ t ∈ r.tracking, t.1 = kv.1 →
          (∀ p ∈ t.2, p.1 < m.length ∧ p.2 < m.length) ∧ keyFree (connected t.2) = true) →
        (∃ i, i < m.length ∧ i ∉ kv.2) →
        ∃ m', c'[kv.1]? = some m' ∧ m'.length = m.length ∧ ∀ p ∈ kv.2, p < m.length → (mweights m')[p]? = some 0) := by
  obtain ⟨c, h1, h2, -, h3⟩ := applyMeasure_eq inf npts r x hlen
  exact ⟨c, _, h1, h2, h3,
    fun kv hkv m hm hok p hp => measure_applied_pairs_equal inf r c hndt kv hkv m hm hok p hp,
    fun kv hkv m hm hnn hpos htr hout => measure_applied_weights_zero inf r c hndn kv hkv m hm hnn hpos htr hout⟩

/-- **Several rounds: what is still exact.**  `Collapse()` chains the constraint of every new round OUTSIDE the existing
ones, so in the composed constraint (`applyRounds`, rounds in execution order) the OLDEST round runs last: whatever the
newer rounds were and whatever they did to the vector, the value the cost function receives is the oldest round's
`impose_measure` applied to some vector of at least `2*sum(npts)` numbers - so `impose_measure_applied_exact` holds for
the oldest round's collapses at every evaluated point (its position pairs are exactly equal; its weights exactly 0
under the hypotheses on the intermediate measure).  For the NEWER rounds the statement is false on the code as it is
(`applied_weight_reweighted_by_older_round_witness`). -/
theorem oldest_round_runs_last (inf : K) (npts : List Nat) (newer : List MRound) (oldest : MRound) (x y : List K)
    (hlen : 2 * npts.sum ≤ x.length) (h : applyRounds inf npts (newer ++ [oldest]) x = some y) :
    ∃ x', applyRounds inf npts newer x = some x' ∧ 2 * npts.sum ≤ x'.length ∧
      applyMeasure inf npts oldest x' = some y := by
  obtain ⟨x', hx', hy⟩ := Option.bind_eq_some_iff.mp ((applyRounds_snoc inf npts newer oldest x).symm.trans h)
  exact ⟨x', hx', applyRounds_length inf npts newer x x' hlen hx', hy⟩

/-- the oldest round's collapsed position pairs are exactly equal after ANY number of later rounds -/
theorem oldest_round_pairs_equal (inf : K) (npts : List Nat) (newer : List MRound) (oldest : MRound) (x y : List K)
    (hlen : 2 * npts.sum ≤ x.length) (hnd : (oldest.tracking.map (·.1)).Nodup)
    (h : applyRounds inf npts (newer ++ [oldest]) x = some y) :
    ∃ (x' : List K) (c c' : PM K), applyRounds inf npts newer x = some x' ∧
      unflatten (x'.take (2 * npts.sum)) npts = some c ∧ y = flatten c' ∧ unflatten (flatten c') npts = some c' ∧
      ∀ kv ∈ oldest.tracking, ∀ m, c[kv.1]? = some m → TrackOK m.length kv.2 → ∀ p ∈ kv.2,
        ∃ m', c'[kv.1]? = some m' ∧ m'.length = m.length ∧ (mpositions m')[p.1]? = (mpositions m')[p.2]? := by
  obtain ⟨x', hx', hl', hy⟩ := oldest_round_runs_last inf npts newer oldest x y hlen h
  obtain ⟨c, h1, h2, -, h3⟩ := applyMeasure_eq inf npts oldest x' hl'
  exact ⟨x', c, _, hx', h1, Option.some.inj (hy.symm.trans h2), h3,
    fun kv hkv m hm hok p hp => measure_applied_pairs_equal inf oldest c hnd kv hkv m hm hok p hp⟩

end MeasureApply

/-- **The order matters (kernel-checked witness).**  Measure of three points, weights `[0, 1/2, 1/2]`, positions
`[2, 2, 6]`; one round collapses the position pair `(0,1)` and the weight index `0` (the dead point is the root of the
pair, its partner carries weight).  The code (positions first, weights last) returns weight 0 at index 0 and equal
positions; with the two loops in the other order the partner's weight is moved onto the point that was just zeroed:
weight `1/2` at the collapsed index. -/
theorem impose_measure_other_order_witness :
    applyMeasure (0 : ℚ) [3] ⟨[(0, [(0, 1)])], [(0, [0])]⟩ [0, 1/2, 1/2, 2, 2, 6] = some [0, 0, 1, 0, 0, 4] ∧
    applyMeasureSwapped (0 : ℚ) [3] ⟨[(0, [(0, 1)])], [(0, [0])]⟩ [0, 1/2, 1/2, 2, 2, 6]
      = some [1/2, 0, 1/2, 2, 2, 6] := by
  decide +kernel

/-- **Rounds are composed by overwriting (known finding F27, the code as it is).**  The constraint of an EARLIER
round runs after the constraint of a later round (`chain(*new)(old)`).  Round 1 collapses the position pair `(0,1)`,
a later round collapses the weight index `0`: on the same vector the composed constraint zeroes weight 0 first and
then the older position collapse moves the partner's weight onto it - the collapsed weight is `1/2`, not 0. -/
theorem applied_weight_reweighted_by_older_round_witness :
    applyRounds (0 : ℚ) [3] [⟨[], [(0, [0])]⟩, ⟨[(0, [(0, 1)])], []⟩] [0, 1/2, 1/2, 2, 2, 6]
      = some [1/2, 0, 1/2, 2, 2, 6] := by
  decide +kernel

-- non-vacuity: the hypotheses hold for the witness' round (and for a star around the middle index in both orders);
-- a triangle iterated as (1,2),(0,2),(0,1) puts the key 1 among its own members
example : TrackOK 3 [(0, 1)] ∧ (∃ i, i < 3 ∧ i ∉ [0]) := by
  refine ⟨⟨by decide, by decide, by decide⟩, 1, by decide, by decide⟩
example : TrackOK 4 [(1, 2), (1, 3), (0, 1)] ∧ TrackOK 4 [(0, 1), (1, 3), (1, 2)] := by
  refine ⟨⟨by decide, by decide, by decide⟩, ⟨by decide, by decide, by decide⟩⟩
example : keyFree (connected [(1, 2), (0, 2), (0, 1)]) = false ∧ keyFree (connected [(0, 1), (0, 2), (1, 2)]) = true := by
  decide +kernel

/-! ## Bounds collapse: `collapse_cost` (collapse.py l.243-333), Model/CollapseCost.lean

What "meets its documented tolerance test" means for `collapse_cost` ("Bounds collapse will occur when
cost(param) - min(cost) >= limit, for all N samples within an interval"): sort the records of parameter `p` by value and
flag the records whose cost is within `limit` of the lowest recorded cost (good).  A BAD RUN is a maximal run of at
least `samples` consecutive bad records.  Per definition
  (S3) `p` is reported iff there is a good record and a bad run,
  (S1) no record of a bad run lies strictly inside a reported interval,
  (S2) every good record lies inside a reported interval,
and with a mask the result is the interval-wise intersection with the mask, `{}` when that adds nothing.
S1-S3 are evaluated on the implementation's results by the monitor of stream `cost` (run-based, independent of the
where/diff code path); the code as it is VIOLATES them in two recorded ways (kernel-checked below):
  * the last interval starts at `par[..] + d[..]`, a sample count added to a parameter value (l.318, finding F50),
  * `clip=True` drops the outer interval, good records included, when the extreme record is bad (l.310-311, F51).
Proved here for ALL inputs: the interval algebra of the mask step (`_interval_intersection` is sound and complete for
interior points over any linear order), and the own-output clause: with duplicate-free keys and chain-ordered non-empty
interval lists (what `collapse_cost` returns when the recorded values of a parameter are pairwise different - the driver
evaluates `chainOrd` on every case) the detector fed its own output as mask returns `{}`.  With tied recorded values the
output holds degenerate intervals and the clause FAILS (F52, witness below); a parameter whose new bounds do not meet
its mask is dropped instead of kept (F54, witness below).
NOT proved (correspondence + monitor only): S1-S3 for the lower and interior intervals from the where/diff scan. -/
section CostCollapse

variable {K : Type} [LinearOrder K]

/-- `_interval_intersection` (tools.py l.881-895), soundness: a point inside (closed) an interval of the result is inside
an interval of each argument - the new bounds of a masked parameter lie inside its mask and inside the fresh bounds -/
theorem cost_interval_intersection_sound (A B : Ivs K) (hA : A ≠ []) (hB : B ≠ []) (x : K)
    (h : ∃ r ∈ ivInter A B, r.1 ≤ x ∧ x ≤ r.2) :
    (∃ a ∈ A, a.1 ≤ x ∧ x ≤ a.2) ∧ (∃ c ∈ B, c.1 ≤ x ∧ x ≤ c.2) := by
  obtain ⟨r, hr, h1, h2⟩ := h
  obtain ⟨a, ha, c, hc, rfl, _⟩ := (mem_ivInter A B hA hB r).mp hr
  exact ⟨⟨a, ha, le_trans (le_max_left _ _) h1, le_trans h2 (min_le_left _ _)⟩,
         ⟨c, hc, le_trans (le_max_right _ _) h1, le_trans h2 (min_le_right _ _)⟩⟩

/-- completeness for interior points: a point strictly inside an interval of each argument is strictly inside an
interval of the result (only the end points of touching intervals are lost by the test `l < h`, l.893) -/
theorem cost_interval_intersection_complete (A B : Ivs K) (x : K)
    (ha : ∃ a ∈ A, a.1 < x ∧ x < a.2) (hc : ∃ c ∈ B, c.1 < x ∧ x < c.2) :
    ∃ r ∈ ivInter A B, r.1 < x ∧ x < r.2 := by
  obtain ⟨a, haA, a1, a2⟩ := ha
  obtain ⟨c, hcB, c1, c2⟩ := hc
  exact ⟨(max a.1 c.1, min a.2 c.2),
    (mem_ivInter A B (List.ne_nil_of_mem haA) (List.ne_nil_of_mem hcB) _).mpr
      ⟨a, haA, c, hcB, rfl, lt_trans (max_lt a1 c1) (lt_min a2 c2)⟩,
    max_lt a1 c1, lt_min a2 c2⟩

/-- "feeding a detector its own output as mask yields nothing new", `collapse_cost`: whenever the unmasked call returns
`R` with duplicate-free keys and non-empty chain-ordered interval lists, the call with (any accepted spelling of) `R`
as mask returns `{}` - for ALL histories, costs, limits, windows, clip flags. -/
theorem own_output_as_mask_is_empty_cost (ninf pinf : K) (addc : K → Nat → K) [Sub K] (hist : List (List K))
    (costs : List K) (perms : Option (List (List Nat))) (clip : Bool) (limit : K) (samples : Option Int)
    (R : BDict K) (m : CMask K)
    (h : collapseCost ninf pinf addc hist costs perms clip limit samples CMask.none = .ok R)
    (hm : checkCMask m = .ok (some R))
    (hnd : (R.map (·.1)).Nodup) (hch : ∀ kv ∈ R, chainOrd kv.2 = true ∧ kv.2 ≠ []) :
    collapseCost ninf pinf addc hist costs perms clip limit samples m = .ok [] := by
  unfold collapseCost at h ⊢
  rw [hm]
  simp only [checkCMask] at h
  cases hc : collapseCostCore ninf pinf addc hist costs perms clip limit samples with
  | error e => rw [hc] at h; cases h
  | ok res =>
    rw [hc] at h
    simp only [costMaskStep] at h
    have : res = R := by injection h
    subst this
    simp only
    rw [costMaskStep_self res hnd hch]

-- non-vacuity: an output of the detector (two intervals around a bad run) satisfies the hypotheses, and the mask step
-- with it as mask is empty
example : chainOrd [((-1000 : Int), 30), (80, 1000)] = true ∧
    costMaskStep [(some 0, [((-1000 : Int), 30), (80, 1000)])] (some [(some 0, [((-1000 : Int), 30), (80, 1000)])]) = [] := by
  decide +kernel

/-- F50, kernel-checked: records 0, 10, .., 90, the records 30..70 bad, `samples = 5`, `clip = False`
(`-1000 / 1000` stand for `-inf / inf`, `addc v k = v + k`): the reported bounds are `(-inf, 30), (35, inf)` -
the bad record 40 lies strictly inside the second interval; per definition it starts at 80 -/
theorem cost_upper_adds_count_witness :
    (colBounds (-1000 : Int) 1000 (fun v k => v + (k : Int)) false 5 [0, 10, 20, 30, 40, 50, 60, 70, 80, 90]
      [true, true, true, false, false, false, false, false, true, true]).toOption
      = some [(-1000, 30), (35, 1000)] ∧ (35 : Int) < 40 ∧ (40 : Int) < 1000 := by
  decide +kernel

/-- F51, kernel-checked: records 0, 10, .., 90 with the good records 10, 20, 60, 70 and `samples = 3`: with `clip = True`
nothing is reported (both extreme records are bad) although the records 30, 40, 50 are a bad run, which `clip = False`
does report -/
theorem cost_clip_drops_good_region_witness :
    (colBounds (-1000 : Int) 1000 (fun v k => v + (k : Int)) true 3 [0, 10, 20, 30, 40, 50, 60, 70, 80, 90]
      [false, true, true, false, false, false, true, true, false, false]).toOption = some [] ∧
    (colBounds (-1000 : Int) 1000 (fun v k => v + (k : Int)) false 3 [0, 10, 20, 30, 40, 50, 60, 70, 80, 90]
      [false, true, true, false, false, false, true, true, false, false]).toOption = some [(-1000, 30), (33, 1000)] := by
  decide +kernel

/-- F52, kernel-checked: tied recorded values (0, 1, 1, 1, 2, 3, 4 with the flags good, bad, good, bad, bad, bad, good,
`samples = 1`) give the degenerate interval `(1, 1)`; the intersection of that output with itself drops it, so the
detector fed its own output as mask reports again -/
theorem cost_own_output_degenerate_witness :
    (colBounds (-1000 : Int) 1000 (fun v k => v + (k : Int)) false 1 [0, 1, 1, 1, 2, 3, 4]
      [true, false, true, false, false, false, true]).toOption = some [(-1000, 1), (1, 1), (4, 1000)] ∧
    costMaskStep [(some 0, [((-1000 : Int), 1), (1, 1), (4, 1000)])] (some [(some 0, [((-1000 : Int), 1), (1, 1), (4, 1000)])])
      = [(some 0, [(-1000, 1), (4, 1000)])] := by
  decide +kernel

/-- F54, kernel-checked: the fresh bounds of parameter 0 do not meet its mask `(31, 34)`: the parameter is DROPPED from
the result (the mask shrinks), and with that result as mask it is reported afresh -/
theorem cost_masked_parameter_dropped_witness :
    costMaskStep [(some 0, [((-1000 : Int), 30), (35, 1000)])] (some [(some 0, [(31, 34)]), (some 1, [(0, 1)])])
      = [(some 1, [(0, 1)])] ∧
    costMaskStep [(some 0, [((-1000 : Int), 30), (35, 1000)])] (some [(some 1, [(0, 1)])])
      = [(some 0, [(-1000, 30), (35, 1000)]), (some 1, [(0, 1)])] := by
  decide +kernel

/-- The mechanism behind "a mask in the documented bare form `{k: (lo, hi)}` behaves like `{k: [(lo, hi)]}`": after
`interval_overlap` has rewritten the caller's value in place (tools.py l.928-931, `SVal.norm`), the equality test of
l.333 between a reported list of tuples and a value in either DOCUMENTED spelling looks at the interval content only. -/
theorem cost_documented_spelling_compares_by_content (r : Ivs K) (s : SVal K) (h : s.documented = true) :
    SVal.pyEq r s.norm = ivsEq r s.ivs := by
  obtain ⟨v, o, i⟩ := s
  cases v with
  | bad => simp [SVal.documented] at h
  | flat lo hi =>
    simp only [SVal.documented, Bool.not_eq_true'] at h
    subst h
    simp [SVal.norm, SVal.pyEq, SVal.ivs]
  | list l =>
    simp only [SVal.documented, Bool.and_eq_true] at h
    obtain ⟨h1, h2⟩ := h
    subst h1; subst h2
    simp [SVal.norm, SVal.pyEq, SVal.ivs]

/-- "a history in which nothing meets the cost test reports nothing, whatever the mask": when the scan finds no bounds,
the mask step returns `{}` for EVERY mask object - any keys, any intervals, any spelling of the values (every entry of
`results` is then the mask's own object, tools.py l.946-947). -/
theorem cost_nothing_found_reports_nothing (m : SDict K) : costMaskStepS ([] : BDict K) m = [] := by
  unfold costMaskStepS
  rw [if_pos]
  rw [overlap_nil_left, sdictEq, Bool.and_eq_true, List.all_eq_true]
  refine ⟨by simp only [SDict.bd, List.length_map, beq_self_eq_true], fun kv hkv => ?_⟩
  -- `kv` carries the key of an entry `e` of the mask, and for a key the scan did not report no values are compared
  obtain ⟨kv0, hkv0, rfl⟩ := List.mem_map.mp hkv
  obtain ⟨e, he, rfl⟩ := List.mem_map.mp hkv0
  split
  · rfl
  · next hnone =>
    refine absurd (List.find?_eq_none.mp hnone e he) (not_not.mpr ?_)
    split <;> exact beq_self_eq_true _

/-- F63, kernel-checked: parameter 0 is reported with the bounds `(0, 1)`; fed back as the bare tuple `(0, 1)` or as the
list `[(0, 1)]` the detector reports nothing, fed back with the interval spelled as a LIST `[0, 1]` (accepted by the
validation l.259-281, rewritten in place to `[[0, 1]]`) or as a TUPLE of intervals `((0, 1),)` it reports the same
bounds again: `[(0, 1)] == [[0, 1]]` and `[(0, 1)] == ((0, 1),)` are False in Python. -/
theorem cost_mask_other_container_reported_again_witness :
    costMaskStepS [(some 0, [((0 : Int), 1)])] [(some 0, ⟨CVal.flat 0 1, false, false⟩)] = [] ∧
    costMaskStepS [(some 0, [((0 : Int), 1)])] [(some 0, ⟨CVal.list [(0, 1)], true, true⟩)] = [] ∧
    costMaskStepS [(some 0, [((0 : Int), 1)])] [(some 0, ⟨CVal.flat 0 1, true, false⟩)] = [(some 0, [(0, 1)])] ∧
    costMaskStepS [(some 0, [((0 : Int), 1)])] [(some 0, ⟨CVal.list [(0, 1)], false, true⟩)] = [(some 0, [(0, 1)])] := by
  decide +kernel

end CostCollapse

end MysticVerif.C11
