/-
C20 - the ids of a trajectory through the parameter files, and the matching readers:
"write_support_file / write_raw_file / write_converge_file output can be read back by the matching readers to
the same trajectory" - entry by entry the id that was recorded.  Property theorems about Model/Monitor.lean
(`idsWritten`, `processIds`, `countIds`) and Model/MungeFormats.lean (`idColumn`, `perIdIter`, `readSupportParams`,
`readConvergeParams`).  Imported by Props/C20.lean.
-/
import MysticVerif.Proofs.Monitor
import MysticVerif.Model.MungeFormats

namespace MysticVerif.C20
open MysticVerif.Mon

variable {R : Type}

private theorem all_beq_replicate (a : Option Int) (l : List (Option Int)) (h : l.all (· == a) = true) :
    l = List.replicate l.length a :=
  List.eq_replicate_iff.mpr ⟨rfl, fun b hb => eq_of_beq (List.all_eq_true.mp h b hb)⟩

private theorem countIds_length : ∀ (l seen : List (Option Int)), (countIds seen l).length = l.length := by
  intro l
  induction l with
  | nil => intro _; rfl
  | cons j t ih => intro seen; simp [countIds, ih]

private theorem countIds_idOf : ∀ (l seen : List (Option Int)), (countIds seen l).map Step.idOf = l := by
  intro l
  induction l with
  | nil => intro _; rfl
  | cons j t ih => intro seen; simp [countIds, ih, Step.idOf]

private theorem countIds_id_ne_none : ∀ (l seen : List (Option Int)) (s : Step), s ∈ countIds seen l → s.id ≠ none := by
  intro l
  induction l with
  | nil => intro seen s hs; simp [countIds] at hs
  | cons j t ih =>
    intro seen s hs
    simp only [countIds, List.mem_cons] at hs
    rcases hs with rfl | hs
    · simp
    · exact ih _ s hs

private theorem countIds_iter : ∀ (l seen : List (Option Int)), (countIds seen l).map (·.i) =
    (List.range l.length).map (fun i => seen.count (l.getD i none) + (l.take i).count (l.getD i none)) := by
  intro l
  induction l with
  | nil => intro _; rfl
  | cons j t ih =>
    intro seen
    rw [countIds, List.map_cons, ih, List.length_cons, List.range_succ_eq_map, List.map_cons, List.map_map]
    congr 1
    apply List.map_congr_left
    intro i _
    simp only [Function.comp_apply, List.getD_cons_succ, List.take_succ_cons, List.count_cons]
    rw [Nat.add_right_comm, Nat.add_assoc]

private theorem countIds_perIdIter (l : List (Option Int)) : (countIds [] l).map (·.i) = perIdIter l := by
  rw [countIds_iter, perIdIter]
  exact List.map_congr_left (fun i _ => Nat.zero_add _)

private theorem countIds_replicate (a : Option Int) : ∀ (n : Nat) (seen : List (Option Int)),
    countIds seen (List.replicate n a) = (List.range n).map (fun i => ({ i := seen.count a + i, id := some a } : Step)) := by
  intro n
  induction n with
  | zero => intro _; rfl
  | succ n ih =>
    intro seen
    rw [List.replicate_succ, countIds, ih, List.range_succ_eq_map, List.map_cons, List.map_map]
    congr 1
    apply List.map_congr_left
    intro i _
    show ({ i := (a :: seen).count a + i, id := some a } : Step) = { i := seen.count a + (i + 1), id := some a }
    rw [List.count_cons_self, Nat.add_right_comm]; rfl

private theorem processIds_many (l : List (Option Int)) :
    ∃ st, processIds (.many l) l.length = some st ∧ st.map Step.idOf = l ∧ st.map (·.i) = perIdIter l ∧
      (l.all (· == none) = true → ∀ s ∈ st, s.id = none) ∧ (l.all (· == none) = false → ∀ s ∈ st, s.id ≠ none) := by
  have hlen : (countIds [] l).length = l.length := countIds_length l []
  cases hall : l.all (· == none) with
  | true =>
    refine ⟨(countIds [] l).map (fun s => { s with id := none }), ?_, ?_, ?_, fun _ s hs => ?_, fun h => (nomatch h)⟩
    · rw [processIds, hall, if_pos rfl, List.take_of_length_le (by rw [List.length_map, hlen]; exact Nat.le_refl _)]
    · rw [List.map_map, show (Step.idOf ∘ fun s : Step => ({ s with id := none } : Step)) = fun _ => none from rfl,
        List.map_const', hlen]
      exact (all_beq_replicate none l hall).symm
    · rw [List.map_map]
      exact countIds_perIdIter l
    · obtain ⟨q, _, rfl⟩ := List.mem_map.mp hs
      rfl
  | false =>
    exact ⟨countIds [] l, by rw [processIds, hall, if_neg Bool.false_ne_true, List.take_of_length_le (Nat.le_of_eq hlen)],
      countIds_idOf l [], countIds_perIdIter l, fun h => (nomatch h), fun _ s hs => countIds_id_ne_none l [] s hs⟩

/-- **ids are read back unchanged, one iteration counter per id.**  For EVERY recorded id sequence `ids` (no ids,
one id, several ids in any order, `None` between ints, equal first and last id around different ones, ...): what
`write_raw_file` puts into the file (`idsWritten`: nothing / the single id / the list, `write_raw_file`) and what
`read_raw_file(f, iter=True)` makes of it for a file of `ids.length` records (`_process_ids`) is a list
with one entry per record, whose id column is `ids` itself and whose iteration numbers count, for every entry, the
earlier entries recorded with the same id; the entries are 1-tuples exactly when no id was recorded at all.
(`write_support_file` and `write_converge_file` hand a copy with the same id list to `write_raw_file`.) -/
theorem file_ids_roundtrip (ids : List (Option Int)) :
    idColumn (processIds (idsWritten ids) ids.length) ids.length = ids ∧
    (ids ≠ [] → ∃ st, processIds (idsWritten ids) ids.length = some st ∧ st.length = ids.length ∧
        st.map Step.idOf = ids ∧ st.map (·.i) = perIdIter ids ∧
        (ids.all (· == none) = true → ∀ s ∈ st, s.id = none) ∧ (ids.all (· == none) = false → ∀ s ∈ st, s.id ≠ none)) := by
  -- prove the second conjunct; the first follows from it (`main`)
  refine (and_iff_right_of_imp fun main => ?_).mpr fun hne => ?_
  · cases hids : ids with
    | nil => rfl
    | cons a t =>
      obtain ⟨st, h1, _, h2, _⟩ := main (hids ▸ List.cons_ne_nil a t)
      rw [← hids, h1]
      exact h2
  obtain ⟨a, t, rfl⟩ := List.exists_cons_of_ne_nil hne
  -- the writer's shortcuts (nothing / the single id) are invisible to the reader
  have hw : processIds (idsWritten (a :: t)) (a :: t).length = processIds (.many (a :: t)) (a :: t).length := by
    by_cases hall : (a :: t).all (· == a) = true
    · have hrep := all_beq_replicate a (a :: t) hall
      have hb : (countIds [] (a :: t)).take (a :: t).length =
          (List.range (a :: t).length).map (fun i => ({ i := i, id := some a } : Step)) := by
        rw [hrep, countIds_replicate, List.length_replicate, List.take_of_length_le (by rw [List.length_map, List.length_range]; exact Nat.le_refl _)]
        exact List.map_congr_left (fun i _ => congrArg (fun k => ({ i := k, id := some a } : Step)) (Nat.zero_add i))
      cases a with
      | none =>
        simp only [idsWritten, hall, if_true, processIds, Nat.succ_ne_zero, List.length_cons, if_false] at hb ⊢
        rw [← List.map_take, hb, List.map_map]
        rfl
      | some v =>
        have hno : (some v :: t).all (· == none) = false := rfl
        simp only [idsWritten, hall, if_true, processIds, hno, Bool.false_eq_true, if_false]
        rw [hb]
    · simp only [idsWritten]; rw [if_neg hall]
  obtain ⟨st, h1, h2, h3, h4, h5⟩ := processIds_many (a :: t)
  exact ⟨st, hw.trans h1, (List.length_map (f := Step.idOf)).symm.trans (congrArg List.length h2), h2, h3, h4, h5⟩

/-- **the three writers, over all call sequences.**  After the calls `cs` on a new monitor (any `k`, any logging
interval) the file written by `write_raw_file`, by `write_support_file` and by `write_converge_file`, read with
`iter=True`, and `read_history(monitor, iter=True)`, all carry the id column `cs.map (·.id)`: the id given to the
`i`-th call comes back with the `i`-th entry. -/
theorem files_ids_spec [Mul R] [Div R] (k : Option R) (iv : Option Nat) (cs : List (Call R)) :
    let m := Mon.calls ({ k := k, interval := iv } : Mon R) cs
    idColumn m.writeRaw.ids cs.length = cs.map (·.id) ∧
    (∀ f, m.writeSupport = some f → idColumn f.ids cs.length = cs.map (·.id)) ∧
    (∀ f, m.writeConverge = some f → idColumn f.ids cs.length = cs.map (·.id)) ∧
    (∀ f, m.readHistory = some f → idColumn f.ids cs.length = cs.map (·.id)) := by
  intro m
  have e : m = _ := calls_eq cs _
  have hid : m.id = cs.map (·.id) := by rw [e]; rfl
  have hy : m.y.length = cs.length := by rw [e]; exact List.length_map _
  have key : idColumn (processIds (idsWritten m.id) m.y.length) cs.length = cs.map (·.id) := by
    have := (file_ids_roundtrip (cs.map (·.id))).1
    rw [hid, hy]
    rwa [List.length_map] at this
  refine ⟨key, fun f hf => ?_, fun f hf => ?_, fun f hf => ?_⟩
  · unfold Mon.writeSupport at hf
    split at hf
    · cases hf
    · cases hf; exact key
  · unfold Mon.writeConverge at hf
    split at hf
    · cases hf
    · cases hf; exact key
  · unfold Mon.readHistory at hf
    split at hf
    · cases hf
    · cases hf
      cases hmid : m.id with
      | nil =>
        have h0 : cs.length = 0 := by rw [← List.length_map (f := (·.id)), ← hid, hmid]; rfl
        rw [← hid, hmid, hy, h0]
        rfl
      | cons a t =>
        obtain ⟨st, h1, h2, _⟩ := processIds_many m.id
        have hl : m.y.length = m.id.length := by rw [hy, hid, List.length_map]
        show idColumn (processIds (.many (a :: t)) m.y.length) cs.length = _
        rw [← hmid, hl, h1]
        exact h2.trans hid

/-- `read_trajectories(monitor, iter=True)` (`_process_ids(mon.id, n)`): the id column is the monitor's id
list, the iteration numbers are the per-id counters -/
theorem monitor_ids_spec (ids : List (Option Int)) (hne : ids ≠ []) :
    (processIdsL ids ids.length).map Step.idOf = ids ∧ (processIdsL ids ids.length).map (·.i) = perIdIter ids := by
  obtain ⟨a, t, rfl⟩ := List.exists_cons_of_ne_nil hne
  obtain ⟨st, h1, h2, h3, _⟩ := processIds_many (a :: t)
  have : some (processIdsL (a :: t) (a :: t).length) = some st := by
    rw [← h1, processIds, processIdsL]
    · split <;> rfl
    · exact List.cons_ne_nil a t  -- side condition of `processIdsL`'s equation
  rw [Option.some.inj this]
  exact ⟨h2, h3⟩

/-- two interleaved solvers: the list is written, read back as `(0,0) (0,1) (1,1) (1,0)` -/
example : processIds (idsWritten [some 0, some 1, some 1, some 0]) 4 =
    some [⟨0, some (some 0)⟩, ⟨0, some (some 1)⟩, ⟨1, some (some 1)⟩, ⟨1, some (some 0)⟩] := by decide +kernel

/-- entries without id around entries with id; no ids at all; one id -/
example : idColumn (processIds (idsWritten [none, some 1, some 1, none]) 4) 4 = [none, some 1, some 1, none] ∧
    processIds (idsWritten [none, none]) 2 = some [⟨0, none⟩, ⟨1, none⟩] ∧
    processIds (idsWritten [some 3, some 3]) 2 = some [⟨0, some (some 3)⟩, ⟨1, some (some 3)⟩] := by decide +kernel

/-- why "one id" must be decided by looking at EVERY entry (`ids.count(ids[0]) == len(ids)`): writing the single
value `ids[0]` whenever the first and the last entry agree would read `[0, 1, 1, 0]` back as `[0, 0, 0, 0]` -/
example : idColumn (processIds (.single (some 0)) 4) 4 = [some 0, some 0, some 0, some 0] ∧
    idColumn (processIds (.single (some 0)) 4) 4 ≠ [some 0, some 1, some 1, some 0] := by decide +kernel

private theorem mapM_trans_wrapped (xs : List (List R)) (h : ∀ x ∈ xs, x ≠ []) :
    ((xs.map (·.map ([·]))).map PV.mat).mapM transStep = .ok (xs.map ([·])) := by
  induction xs with
  | nil => rfl
  | cons x t ih =>
    rw [List.map_cons, List.map_cons, List.mapM_cons, ih (fun q hq => h q (List.mem_cons_of_mem _ hq)), transStep,
      zipStar_singletons x (h x List.mem_cons_self)]
    rfl

private theorem readConverge_wrapped (cols : List (List R)) (h : ∀ col ∈ cols, col ≠ []) :
    readConvergeParams (cols.map (·.map ([·]))) = .ok (cols.map ([·])) := by
  have := mapM_trans_wrapped cols h
  -- `readConvergeParams` inspects the first entry of the first row before mapping
  cases cols with
  | nil => rfl
  | cons x t =>
    cases x with
    | nil => exact absurd rfl (h [] List.mem_cons_self)
    | cons a r => exact this

/-- **converge format through its reader.**  `read_converge_file` applies `raw_to_converge` to the table found in
the file; on what `write_converge_file` wrote for a trajectory of non-empty parameter vectors (of any, also
different, lengths) it returns every step as ONE tuple holding the step's parameters: `params[i][0][j] = xs[i][j]`. -/
theorem read_converge_roundtrip (xs : List (List R)) (h : ∀ x ∈ xs, x ≠ []) :
    readConvergeParams (rawToConverge xs) = .ok (xs.map ([·])) ∧
    ((xs.map ([·])).map List.flatten = xs) := by
  refine ⟨readConverge_wrapped xs h, ?_⟩
  rw [List.map_map]
  exact List.map_id'' (fun x => List.append_nil x) xs

/-- **support format through its reader.**  `read_support_file` applies `raw_to_support` to the table found in the
file; on what `write_support_file` wrote for a rectangular, non-empty trajectory (`r > 0` iterations of `c > 0`
parameters) it returns ONE block holding the transposed trajectory - `params[0][j][i] = xs[i][j]` - and transposing
that block gives the trajectory back. -/
theorem read_support_roundtrip (xs : List (List R)) (c : Nat) (hrect : Rect xs c) (hne : xs ≠ []) (hc : 0 < c) :
    readSupportParams (rawToSupport xs) = .ok [zipStar xs] ∧ zipStar (zipStar xs) = xs := by
  obtain ⟨hlen, hrows, hback⟩ := zipStar_rect_involutive hrect hne hc
  refine ⟨?_, hback⟩
  have hT : rawToSupport xs = (zipStar xs).map (·.map ([·])) := zipStar_map _ xs
  have hcols : ∀ col ∈ zipStar xs, col ≠ [] := fun col hcol =>
    List.ne_nil_of_length_pos (by rw [hrows col hcol]; exact List.length_pos_iff.mpr hne)
  rw [readSupportParams, rawToSupportPV, ← readConvergeParams, hT, readConverge_wrapped _ hcols]
  exact congrArg Except.ok (zipStar_singletons _ (List.ne_nil_of_length_pos (hlen ▸ hc)))

/-- a 2 x 3 trajectory through `write_support_file` / `read_support_file` -/
example : readSupportParams (rawToSupport [[1, 2, 3], [4, 5, 6]]) = .ok [[[1, 4], [2, 5], [3, 6]]] := by
  rfl

/-- a 2 x 3 trajectory through `write_converge_file` / `read_converge_file` -/
example : readConvergeParams (rawToConverge [[1, 2, 3], [4, 5, 6]]) = .ok [[[1, 2, 3]], [[4, 5, 6]]] :=
  (read_converge_roundtrip [[1, 2, 3], [4, 5, 6]] (by simp)).1

end MysticVerif.C20
