/-
C01 for ENSEMBLES of solvers (lattice / buckshot / sparsity): the ensemble reports the state of one of its members
(C09: `update_best_min`), so whatever C01 proves about every member's reported best holds for the ensemble's, and its
energy is the minimum over the members.  Members are arbitrary: differential evolution (1/2), Nelder-Mead, Powell -
each with its own evaluation log.
-/
import MysticVerif.Props.C01
import MysticVerif.Props.C09

namespace MysticVerif.C01
open MysticVerif.Solver MysticVerif.Ens

variable {X E : Type} [LinearOrder E]

/-- **the ensemble's reported best inherits every property of the members' reported bests** and is the least -/
theorem ensemble_best_inherits (P : X → E → Prop) (ms : List (Member X E)) (hne : ms ≠ [])
    (h : ∀ m ∈ ms, P m.bestX m.bestE) :
    ∃ r, updateBest none ms = some r ∧ P r.bestX r.bestE ∧ ∀ m ∈ ms, r.bestE ≤ m.bestE := by
  obtain ⟨r, hr, hmem, hle⟩ := C09.update_best_min ms hne
  exact ⟨r, hr, h r hmem, hle⟩

/-- the member a differential-evolution run (any trial vectors, any number of iterations) leaves behind; the first
trial list is generation 0 -/
def deMember (o : Obj X E) (pop : List X) (x0 : X) (trialss : List (List X)) (id : Nat) : Member X E :=
  let s := DE.run1 o trialss (DE.init o pop x0)
  { bestE := s.bestE, bestX := s.best, evals := s.log.length, gens := trialss.length - 1, id := id }

/-- **ensemble of differential-evolution members** (each with its own population, trial vectors and run length): a
finite reported ensemble energy is cost + penalty at the reported ensemble solution, a point some member passed to the
user's cost and that the constraints leave unchanged; and it is the minimum of the members' best energies. -/
theorem ensemble_of_de_best (o : Obj X E) (h : Hyp o) (runs : List (List X × X × List (List X))) (hne : runs ≠ []) :
    ∃ r, updateBest none (runs.zipIdx.map fun p => deMember o p.1.1 p.1.2.1 p.1.2.2 p.2) = some r ∧
      (r.bestE ≠ o.top → r.bestE = o.add (o.raw r.bestX) (o.pen r.bestX) ∧ o.K r.bestX = r.bestX ∧
        ∃ run ∈ runs, (r.bestX, o.raw r.bestX) ∈ (DE.run1 o run.2.2 (DE.init o run.1 run.2.1)).log) ∧
      ∀ run ∈ runs, r.bestE ≤ (DE.run1 o run.2.2 (DE.init o run.1 run.2.1)).bestE := by
  have hne' : (runs.zipIdx.map fun p => deMember o p.1.1 p.1.2.1 p.1.2.2 p.2) ≠ [] := by
    cases runs with
    | nil => exact absurd rfl hne
    | cons a l => simp [List.zipIdx]
  -- the ensemble reports one of its members, the least
  obtain ⟨r, hr, hmem, hle⟩ := C09.update_best_min _ hne'
  obtain ⟨p, hp, rfl⟩ := List.mem_map.mp hmem
  have hrun : p.1 ∈ runs := (List.mem_zipIdx hp).2.2 ▸ List.getElem_mem _
  refine ⟨_, hr, fun hfin => ?_, fun run hrun' => ?_⟩
  · have g := de_best_inv o h p.1.1 p.1.2.1 p.1.2.2 hfin
    exact ⟨g.1, g.2.2, p.1, hrun, g.2.1⟩
  · obtain ⟨i, hlt, hget⟩ := List.getElem_of_mem hrun'
    refine hle (deMember o run.1 run.2.1 run.2.2 i) (List.mem_map.mpr ⟨(run, i), ?_, rfl⟩)
    rw [List.mem_zipIdx_iff_getElem?]
    simp [hget, List.getElem?_eq_getElem hlt]

/-- non-vacuity: two one-dimensional DE members over `Int`; the ensemble reports the second one's best -/
example : (updateBest none [deMember exObj [7, 3] 7 [[7, 3], [1, -8]] 0, deMember exObj [5, 2] 5 [[5, 2], [0, 2]] 1]).map
    (fun r => (r.bestX, r.bestE, r.id)) = some (0, 0, 1) := by decide

end MysticVerif.C01
