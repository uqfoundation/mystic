/-
C03 wherever `Solve()` stops (closed loop, Model/ClosedLoop.lean): whatever the termination condition tree, the
limits, the trial vectors / line searches and the number of iterations the run performs, every point the user's cost
was called at is a fixed point of the constraints (so it satisfies them whenever their image does), and so is a finite
reported best of differential evolution and Powell.
-/
import MysticVerif.Props.C03
import MysticVerif.Props.Solve

namespace MysticVerif.C03
open MysticVerif.Solver MysticVerif.Closed MysticVerif.SolveProps MysticVerif.PowellS

variable {R : Type} [Add R] [Sub R] [Mul R] [Div R] [Neg R] [LinearOrder R] [BEq R] [OfNat R 0] [OfNat R 2]

/-- differential evolution (1 and 2) -/
theorem solve_de_constrained (two : Bool) (o : Obj (List R) R) (h : Hyp o) (cond : Term.Cond R)
    (pop0 : List (List R)) (x0 : List R) (trialss : List (List (List R))) (fuel : Nat) (c : Ctl) :
    let s := (solve (deAlg two o cond pop0 trialss) fuel c (DE.init o pop0 x0) 0 0).st
    (∀ p ∈ s.log, o.K p.1 = p.1) ∧ (s.bestE ≠ o.top → o.K s.best = s.best) := by
  intro s
  have hi := solve_de_inv two o h cond pop0 x0 trialss fuel c
  exact ⟨fun p hp => (hi.logOK p hp).2.1, fun hne => (hi.best hne).2.2.1⟩

/-- Nelder-Mead: evaluated points (the stored vertices are the pre-images: C01 `nm_best_not_evaluated_witness`) -/
theorem solve_nm_constrained (o : Obj (Pt R) R) (h : Hyp o) (coef : Coef R)
    (st clip0 mkVal : Pt R → Pt R) (hst : ∀ x, o.K (st x) = o.K x)
    (hclip : ∀ x, (o.useRange = true → o.inBox x = true) → clip0 x = x)
    (cond : Term.Cond R) (x0 : Pt R) (fuel : Nat) (c : Ctl) (s0 : NM R R)
    (hran : 1 ≤ (solve (nmAlg o coef st clip0 mkVal cond x0) fuel c s0 0 0).iters) :
    ∀ p ∈ (solve (nmAlg o coef st clip0 mkVal cond x0) fuel c s0 0 0).st.log, o.K p.1 = p.1 := by
  intro p hp
  exact ((solve_nm_inv o h coef st clip0 mkVal hst hclip cond x0 fuel c s0 hran).logOK p hp).2.1

/-- Powell -/
theorem solve_pw_constrained (o : Obj (Pt R) R) (h : Hyp o) (cfg : PwCfg R R)
    (ls : Nat → Pt R → Pt R → LsRec R) (cond : Term.Cond R) (record : Bool) (x0 : Pt R) (direc : List (Pt R))
    (hd : direc ≠ []) (fuel : Nat) (c : Ctl) (s0 : Pw R R)
    (hran : 1 ≤ (solve (pwAlg o cfg ls cond record x0 direc) fuel c s0 0 0).iters) :
    let s := (solve (pwAlg o cfg ls cond record x0 direc) fuel c s0 0 0).st
    (∀ p ∈ s.log, o.K p.1 = p.1) ∧ (s.fval ≠ o.top → o.K s.x = s.x) := by
  intro s
  have hi := solve_pw_inv o h cfg ls cond record x0 direc hd fuel c s0 hran
  exact ⟨fun p hp => (hi.logOK p hp).2.1, fun hne => (hi.best hne).2.2.1⟩

end MysticVerif.C03
