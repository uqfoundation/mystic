/-
Powell on the decorated objective WITH THE MODELLED BRENT LINE SEARCH (Model/Brent.lean) as its oracle: the contract
`LsMono` that the history theorems of Proofs/PowellS.lean assume of an arbitrary oracle is DISCHARGED for it
(C08.linesearch_never_worse_than_start + C08.lsRec_partition + Brent.along_zero), so for this oracle - the one the `pw`
replay command uses under `(brent true)` - the best-energy history is non-increasing and the best is
never worse than the initial guess with no hypothesis left about the line search.
-/
import MysticVerif.Props.C04
import MysticVerif.Props.C01
import MysticVerif.Props.C08
import Mathlib.Algebra.Order.Field.Basic

namespace MysticVerif.C04
open MysticVerif.Solver MysticVerif.PowellS MysticVerif.Brent

/-- non-vacuity: the hypotheses on the constants are met over ℚ (zero is the field's zero, point equality is decidable) -/
example : ∃ (k : K ℚ) (eqv : Pt ℚ → Pt ℚ → Bool), k.zero = 0 ∧ ∀ a b, eqv a b = true ↔ a = b :=
  ⟨{ abs := fun x => x, zero := 0, one := 1, two := 2, half := 1 / 2, gold := 1618034 / 1000000, verysmall := 1 / 10 ^ 21,
     growLimit := 110, mintol := 1 / 10 ^ 11, cg := 381966 / 1000000 }, fun a b => decide (a = b), rfl, by simp⟩

variable {R : Type} [Field R] [LinearOrder R] [IsStrictOrderedRing R]

/-- the oracle handed to `PowellS`: the modelled `_linesearch_powell` on the decorated cost; a search that raises (which
    aborts the real run) or a direction shorter than the point (never produced by `PowellS`) answers with the start point -/
def brentOracle (k : K R) (eqv : Pt R → Pt R → Bool) (func : Pt R → R) (tol : R) (maxiter bmax fuel : Nat) :
    Nat → Pt R → Pt R → LsRec R :=
  fun n p xi =>
    if p.length ≤ xi.length then
      Brent.lsRec k eqv func tol maxiter bmax fuel (fun p _ => { pre := [], y := p, post := [], xi := p }) n p xi
    else { pre := [], y := p, post := [], xi := p }

/-- **`LsMono` holds for the modelled Brent search** (any tolerance, iteration caps and fuel; `k.zero` the field's zero) -/
theorem brent_oracle_lsMono (o : Obj (Pt R) R) (k : K R) (hk0 : k.zero = 0) (eqv : Pt R → Pt R → Bool)
    (heqv : ∀ a b, eqv a b = true ↔ a = b) (tol : R) (maxiter bmax fuel : Nat) :
    LsMono o (brentOracle k eqv (fun z => o.energy (o.K z)) tol maxiter bmax fuel) := by
  intro n p xi
  unfold brentOracle
  split
  · rename_i hlen
    cases h : lineSearch k (fun z => o.energy (o.K z)) p xi tol maxiter bmax fuel with
    | error e =>
      have : (Brent.lsRec k eqv (fun z => o.energy (o.K z)) tol maxiter bmax fuel
          (fun p _ => { pre := [], y := p, post := [], xi := p }) n p xi).y = p := by
        unfold Brent.lsRec; rw [h]
      rw [this]
    | ok out =>
      have hm := C08.linesearch_never_worse_than_start k (fun z => o.energy (o.K z)) p xi tol maxiter bmax fuel out h
      have hp := C08.lsRec_partition k eqv heqv (fun z => o.energy (o.K z)) tol maxiter bmax fuel
        (fun p _ => { pre := [], y := p, post := [], xi := p }) n p xi out h hm.2.1
      have hz : along p xi k.zero = p :=
        Brent.along_zero k.zero (by intro a; rw [hk0]; exact zero_mul a) (by intro a; rw [hk0]; exact add_zero a) p xi hlen
      rw [hp.2.1]
      have h1 := hm.1
      have h3 := hm.2.2.1
      rw [hz] at h3
      rw [← h1]
      exact h3
  · exact le_refl _

/-- **Powell with the modelled Brent search: the best-energy history is non-increasing and ends in the reported best**,
for every decorated objective, start point, tolerance, iteration cap and number of iterations - no hypothesis on the
line search is left -/
theorem pw_history_antitone_brent (o : Obj (Pt R) R) (h : Hyp o) (c : PwCfg R R) (k : K R) (hk0 : k.zero = 0)
    (eqv : Pt R → Pt R → Bool) (heqv : ∀ a b, eqv a b = true ↔ a = b) (tol : R) (maxiter bmax fuel : Nat)
    (record : Bool) (x0 : Pt R) (direc : List (Pt R)) (hd : direc ≠ []) (n : Nat) :
    (reach o c (brentOracle k eqv (fun z => o.energy (o.K z)) tol maxiter bmax fuel) record x0 direc n).hist.Pairwise (· ≥ ·) :=
  pw_history_antitone o h c _ (brent_oracle_lsMono o k hk0 eqv heqv tol maxiter bmax fuel) record x0 direc hd n

/-- ... and the reported best is never worse than the energy of the initial guess -/
theorem pw_best_le_initial_guess_brent (o : Obj (Pt R) R) (h : Hyp o) (c : PwCfg R R) (k : K R) (hk0 : k.zero = 0)
    (eqv : Pt R → Pt R → Bool) (heqv : ∀ a b, eqv a b = true ↔ a = b) (tol : R) (maxiter bmax fuel : Nat)
    (record : Bool) (x0 : Pt R) (direc : List (Pt R)) (hd : direc ≠ []) (n : Nat) :
    (reach o c (brentOracle k eqv (fun z => o.energy (o.K z)) tol maxiter bmax fuel) record x0 direc n).fval
      ≤ (gen0 o c record x0 direc).fval :=
  C01.pw_best_le_initial_guess o h c _ (brent_oracle_lsMono o k hk0 eqv heqv tol maxiter bmax fuel) record x0 direc hd n

end MysticVerif.C04
