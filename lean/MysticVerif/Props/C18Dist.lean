/-
C18 - the point-to-point metrics of distance.py WITH their shape logic (`absolute_distance` l.41:
`dmin` promotion, `pair`, transposes / `newaxis` slices, broadcasting; reduction along `axis`): for each documented
calling form the entry of the result addressed by a pair of points is the textbook metric of THAT pair
(`chebyshev`, `hamming`, `minkowski C p` of Model/Measures.lean; euclidean / manhattan are `minkowski` with
`p = 2 / 1`, l.212, l.234).
Arrays are `NArr` = shape + index function (`row`, `vec`: Proofs/DistanceX.lean).  `fin` is `isfinite` (the overflow
fall-back of l.187 cannot fire in a field).
-/
import MysticVerif.Proofs.DistanceX

-- some statements carry instance binders they do not use
set_option linter.unusedSectionVars false

namespace MysticVerif.C18
open MysticVerif.Meas

/-- a 2-D array from its rows (`0` outside) -/
def gEx (l : List (List ℚ)) : List Nat → ℚ := fun ix => (l.getD (ix.getD 0 0) []).getD (ix.getD 1 0) 0
/-- non-vacuity: the 2 x 2 matrix of chebyshev distances of concrete points, and a broadcast error -/
example : (match chebyshevA ⟨[2, 2], gEx [[0, 0], [1, 3]]⟩ ⟨[2, 2], gEx [[1, 1], [0, 5]]⟩ false 0 (some 0) with
    | .ok R => (R.shape, R.ravel) | _ => ([], [])) = ([2, 2], [1, 5, 2, 2]) := by decide +kernel
example : (match hammingA ⟨[2, 2], gEx [[0, 0], [1, 3]]⟩ ⟨[3, 2], gEx [[1, 1], [0, 5], [1, 3]]⟩ true 0 (some 1) with
    | .errValue => true | _ => false) = true := by decide +kernel

/-- the hypotheses of the no-fall-back theorems below are satisfiable with a `fin` that is NOT constantly true, and the
overflow condition by a concrete instance: with "finite" = "below 100" over ℚ the weights (3, 4) keep the 2-norm
(sum of squares 25), the weights (3, 40) fall back to the infinity norm 40 -/
example : lnormA (⟨0, 0, id, fun _ t => t⟩ : Consts ℚ) (fun t => decide (t < 100)) [3, 4] 2 = 25 ∧
    lnormA (⟨0, 0, id, fun _ t => t⟩ : Consts ℚ) (fun t => decide (t < 100)) [3, 40] 2 = 40 := by
  constructor <;> decide +kernel

variable {K : Type} [Field K] [LinearOrder K] [IsStrictOrderedRing K]

/-- **pair=False, axis=0 (the documented common usage), two 2-D arrays of `n` resp. `m` points with `d ≥ 1`
coordinates, any `dmin ≤ 2`**: the result is the `n × m` matrix of the metric between point `i` of `x` and point `j`
of `x'`. -/
theorem metrics_matrix_def (C : Consts K) (fin : K → Bool) (hfin : ∀ x, fin x = true) (gx gy : List Nat → K)
    (n m d dmin p : Nat) (hdm : dmin ≤ 2) (hd : 0 < d) (hp : p ≠ 0) :
    (∃ R, chebyshevA ⟨[n, d], gx⟩ ⟨[m, d], gy⟩ false dmin (some 0) = DRes.ok R ∧ R.shape = [n, m] ∧
      ∀ i j, i < n → j < m → R.get [i, j] = chebyshev (row gx d i) (row gy d j)) ∧
    (∃ R, hammingA ⟨[n, d], gx⟩ ⟨[m, d], gy⟩ false dmin (some 0) = DRes.ok R ∧ R.shape = [n, m] ∧
      ∀ i j, i < n → j < m → R.get [i, j] = hamming (row gx d i) (row gy d j)) ∧
    (∃ R, minkowskiA C fin ⟨[n, d], gx⟩ ⟨[m, d], gy⟩ false dmin p (some 0) = DRes.ok R ∧ R.shape = [n, m] ∧
      ∀ i j, i < n → j < m → R.get [i, j] = minkowski C p (row gx d i) (row gy d j)) := by
  obtain ⟨D, hD, hsh, hget⟩ :=
    absDist_outer ⟨[n, d], gx⟩ ⟨[m, d], gy⟩ dmin gx gy n m d (max_eq_left hdm) rfl rfl
  have hlane : ∀ i j, i < n → j < m → lane D 0 [i, j] = absdiff (row gx d i) (row gy d j) := fun i j hi hj =>
    lane_eq_absdiff D 0 [i, j] d _ _ (by rw [hsh]; rfl) fun t ht => hget t i j ht hi hj
  obtain ⟨⟨R₁, e₁, s₁, g₁⟩, ⟨R₂, e₂, s₂, g₂⟩, ⟨R₃, e₃, s₃, g₃⟩⟩ :=
    metrics_along C fin hfin hp hD hsh 0 (Nat.zero_lt_succ 2) hd
  exact ⟨⟨R₁, e₁, s₁, fun i j hi hj => g₁ _ _ _ (hlane i j hi hj)⟩,
    ⟨R₂, e₂, s₂, fun i j hi hj => g₂ _ _ _ (hlane i j hi hj)⟩,
    ⟨R₃, e₃, s₃, fun i j hi hj => g₃ _ _ _ (hlane i j hi hj)⟩⟩

/-- **pair=True, axis=1, two 2-D arrays of `n` points each**: entry `i` is the metric between point `i` of `x` and
point `i` of `x'`. -/
theorem metrics_pairwise_def (C : Consts K) (fin : K → Bool) (hfin : ∀ x, fin x = true) (gx gy : List Nat → K)
    (n d dmin p : Nat) (hdm : dmin ≤ 2) (hd : 0 < d) (hp : p ≠ 0) :
    (∃ R, chebyshevA ⟨[n, d], gx⟩ ⟨[n, d], gy⟩ true dmin (some 1) = DRes.ok R ∧ R.shape = [n] ∧
      ∀ i, i < n → R.get [i] = chebyshev (row gx d i) (row gy d i)) ∧
    (∃ R, hammingA ⟨[n, d], gx⟩ ⟨[n, d], gy⟩ true dmin (some 1) = DRes.ok R ∧ R.shape = [n] ∧
      ∀ i, i < n → R.get [i] = hamming (row gx d i) (row gy d i)) ∧
    (∃ R, minkowskiA C fin ⟨[n, d], gx⟩ ⟨[n, d], gy⟩ true dmin p (some 1) = DRes.ok R ∧ R.shape = [n] ∧
      ∀ i, i < n → R.get [i] = minkowski C p (row gx d i) (row gy d i)) := by
  obtain ⟨D, hD, hsh, hget⟩ := absDist_rows gx gy n n d dmin hdm (bdim_self n)
  have hlane : ∀ i, i < n → lane D 1 [i] = absdiff (row gx d i) (row gy d i) := fun i hi =>
    lane_eq_absdiff D 1 [i] d _ _ (by rw [hsh]; rfl) fun t ht => (hget i t hi ht).trans (by rw [bcastIdx_of_lt n i hi])
  obtain ⟨⟨R₁, e₁, s₁, g₁⟩, ⟨R₂, e₂, s₂, g₂⟩, ⟨R₃, e₃, s₃, g₃⟩⟩ :=
    metrics_along C fin hfin hp hD hsh 1 (Nat.lt_succ_self 1) hd
  exact ⟨⟨R₁, e₁, s₁, fun i hi => g₁ _ _ _ (hlane i hi)⟩,
    ⟨R₂, e₂, s₂, fun i hi => g₂ _ _ _ (hlane i hi)⟩,
    ⟨R₃, e₃, s₃, fun i hi => g₃ _ _ _ (hlane i hi)⟩⟩

/-- **pair=True, axis=1, ONE point on the right (shape `(1, d)`)**: numpy broadcasting compares it with every point
of `x`. -/
theorem metrics_pairwise_broadcast_def (C : Consts K) (fin : K → Bool) (hfin : ∀ x, fin x = true)
    (gx gy : List Nat → K) (n d dmin p : Nat) (hdm : dmin ≤ 2) (hd : 0 < d) (hp : p ≠ 0) :
    (∃ R, chebyshevA ⟨[n, d], gx⟩ ⟨[1, d], gy⟩ true dmin (some 1) = DRes.ok R ∧ R.shape = [n] ∧
      ∀ i, i < n → R.get [i] = chebyshev (row gx d i) (row gy d 0)) ∧
    (∃ R, hammingA ⟨[n, d], gx⟩ ⟨[1, d], gy⟩ true dmin (some 1) = DRes.ok R ∧ R.shape = [n] ∧
      ∀ i, i < n → R.get [i] = hamming (row gx d i) (row gy d 0)) ∧
    (∃ R, minkowskiA C fin ⟨[n, d], gx⟩ ⟨[1, d], gy⟩ true dmin p (some 1) = DRes.ok R ∧ R.shape = [n] ∧
      ∀ i, i < n → R.get [i] = minkowski C p (row gx d i) (row gy d 0)) := by
  obtain ⟨D, hD, hsh, hget⟩ := absDist_rows gx gy n 1 d dmin hdm (bdim_one_right n)
  have hlane : ∀ i, i < n → lane D 1 [i] = absdiff (row gx d i) (row gy d 0) := fun i hi =>
    lane_eq_absdiff D 1 [i] d _ _ (by rw [hsh]; rfl) fun t ht => hget i t hi ht
  obtain ⟨⟨R₁, e₁, s₁, g₁⟩, ⟨R₂, e₂, s₂, g₂⟩, ⟨R₃, e₃, s₃, g₃⟩⟩ :=
    metrics_along C fin hfin hp hD hsh 1 (Nat.lt_succ_self 1) hd
  exact ⟨⟨R₁, e₁, s₁, fun i hi => g₁ _ _ _ (hlane i hi)⟩,
    ⟨R₂, e₂, s₂, fun i hi => g₂ _ _ _ (hlane i hi)⟩,
    ⟨R₃, e₃, s₃, fun i hi => g₃ _ _ _ (hlane i hi)⟩⟩

/-- **dimension promotion, `dmin=2` on two 1-D arrays** (docstring l.57): each array is ONE point; with `axis=0` the
result is the `1 × 1` matrix holding their distance. -/
theorem metrics_dmin2_def (C : Consts K) (fin : K → Bool) (hfin : ∀ x, fin x = true) (gx gy : List Nat → K)
    (d p : Nat) (hd : 0 < d) (hp : p ≠ 0) :
    (∃ R, chebyshevA ⟨[d], gx⟩ ⟨[d], gy⟩ false 2 (some 0) = DRes.ok R ∧ R.shape = [1, 1] ∧
      R.get [0, 0] = chebyshev (vec gx d) (vec gy d)) ∧
    (∃ R, hammingA ⟨[d], gx⟩ ⟨[d], gy⟩ false 2 (some 0) = DRes.ok R ∧ R.shape = [1, 1] ∧
      R.get [0, 0] = hamming (vec gx d) (vec gy d)) ∧
    (∃ R, minkowskiA C fin ⟨[d], gx⟩ ⟨[d], gy⟩ false 2 p (some 0) = DRes.ok R ∧ R.shape = [1, 1] ∧
      R.get [0, 0] = minkowski C p (vec gx d) (vec gy d)) := by
  obtain ⟨D, hD, hsh, hget⟩ :=
    absDist_outer ⟨[d], gx⟩ ⟨[d], gy⟩ 2 (fun ix => gx ix.tail) (fun ix => gy ix.tail) 1 1 d rfl rfl rfl
  have hlane : lane D 0 [0, 0] = absdiff (vec gx d) (vec gy d) :=
    lane_eq_absdiff D 0 [0, 0] d _ _ (by rw [hsh]; rfl) fun t ht => hget t 0 0 ht Nat.one_pos Nat.one_pos
  obtain ⟨⟨R₁, e₁, s₁, g₁⟩, ⟨R₂, e₂, s₂, g₂⟩, ⟨R₃, e₃, s₃, g₃⟩⟩ :=
    metrics_along C fin hfin hp hD hsh 0 (Nat.zero_lt_succ 2) hd
  exact ⟨⟨R₁, e₁, s₁, g₁ _ _ _ hlane⟩,
    ⟨R₂, e₂, s₂, g₂ _ _ _ hlane⟩,
    ⟨R₃, e₃, s₃, g₃ _ _ _ hlane⟩⟩

/-- **mixed shapes: `n` points against a single point given as a 1-D array** (promoted to shape `(1, d)`, l.64-65):
with `axis=0` the result is the `n × 1` column of distances to that point. -/
theorem metrics_mixed_def (C : Consts K) (fin : K → Bool) (hfin : ∀ x, fin x = true) (gx gy : List Nat → K)
    (n d dmin p : Nat) (hdm : dmin ≤ 2) (hd : 0 < d) (hp : p ≠ 0) :
    (∃ R, chebyshevA ⟨[n, d], gx⟩ ⟨[d], gy⟩ false dmin (some 0) = DRes.ok R ∧ R.shape = [n, 1] ∧
      ∀ i, i < n → R.get [i, 0] = chebyshev (row gx d i) (vec gy d)) ∧
    (∃ R, hammingA ⟨[n, d], gx⟩ ⟨[d], gy⟩ false dmin (some 0) = DRes.ok R ∧ R.shape = [n, 1] ∧
      ∀ i, i < n → R.get [i, 0] = hamming (row gx d i) (vec gy d)) ∧
    (∃ R, minkowskiA C fin ⟨[n, d], gx⟩ ⟨[d], gy⟩ false dmin p (some 0) = DRes.ok R ∧ R.shape = [n, 1] ∧
      ∀ i, i < n → R.get [i, 0] = minkowski C p (row gx d i) (vec gy d)) := by
  obtain ⟨D, hD, hsh, hget⟩ :=
    absDist_outer ⟨[n, d], gx⟩ ⟨[d], gy⟩ dmin gx (fun ix => gy ix.tail) n 1 d (max_eq_left hdm) rfl rfl
  have hlane : ∀ i, i < n → lane D 0 [i, 0] = absdiff (row gx d i) (vec gy d) := fun i hi =>
    lane_eq_absdiff D 0 [i, 0] d _ _ (by rw [hsh]; rfl) fun t ht => hget t i 0 ht hi Nat.one_pos
  obtain ⟨⟨R₁, e₁, s₁, g₁⟩, ⟨R₂, e₂, s₂, g₂⟩, ⟨R₃, e₃, s₃, g₃⟩⟩ :=
    metrics_along C fin hfin hp hD hsh 0 (Nat.zero_lt_succ 2) hd
  exact ⟨⟨R₁, e₁, s₁, fun i hi => g₁ _ _ _ (hlane i hi)⟩,
    ⟨R₂, e₂, s₂, fun i hi => g₂ _ _ _ (hlane i hi)⟩,
    ⟨R₃, e₃, s₃, fun i hi => g₃ _ _ _ (hlane i hi)⟩⟩

/-- **two points given as 1-D arrays, pair=True, axis=None (any `dmin ≤ 1`)**: the result is the scalar metric of the
two points - the docstrings' `d(x, x')`. -/
theorem metrics_points_def (C : Consts K) (fin : K → Bool) (hfin : ∀ x, fin x = true) (gx gy : List Nat → K)
    (d dmin p : Nat) (hdm : dmin ≤ 1) (hd : 0 < d) (hp : p ≠ 0) :
    (∃ R, chebyshevA ⟨[d], gx⟩ ⟨[d], gy⟩ true dmin none = DRes.ok R ∧ R.shape = [] ∧
      R.get [] = chebyshev (vec gx d) (vec gy d)) ∧
    (∃ R, hammingA ⟨[d], gx⟩ ⟨[d], gy⟩ true dmin none = DRes.ok R ∧ R.shape = [] ∧
      R.get [] = hamming (vec gx d) (vec gy d)) ∧
    (∃ R, minkowskiA C fin ⟨[d], gx⟩ ⟨[d], gy⟩ true dmin p none = DRes.ok R ∧ R.shape = [] ∧
      R.get [] = minkowski C p (vec gx d) (vec gy d)) := by
  obtain ⟨D, hD, hsh, hget⟩ := absDist_points gx gy d dmin hdm
  have hrav : D.ravel = absdiff (vec gx d) (vec gy d) := by
    rw [vec, vec, absdiff_maps, NArr.ravel, hsh, allIdx_one, List.map_map]
    exact List.map_congr_left fun t ht => hget t (List.mem_range.mp ht)
  have hne : emptyLane D none = false := by
    rw [emptyLane, NArr.ravel, hsh, allIdx_one, List.isEmpty_map, List.isEmpty_map, List.isEmpty_eq_false_iff]
    exact fun h => hd.ne' (List.range_eq_nil.mp h)
  obtain ⟨hc, hh, hm⟩ := metricsA_eq C fin hfin hp hD (axis := none) rfl hne
  exact ⟨⟨_, hc, rfl, congrArg chebOf hrav⟩, ⟨_, hh, rfl, congrArg countNZ hrav⟩,
    ⟨_, hm, rfl, congrArg (fun l : List K => C.root p (lsum (l.map (powN · p)))) hrav⟩⟩

/-- **minkowski, `p = 0`** (l.186): `1./p` raises `ZeroDivisionError` (hamming is the `p = 0` "norm"); shown for the
`pair=False` / `axis=0` form. -/
theorem minkowski_p0_raises (C : Consts K) (fin : K → Bool) (gx gy : List Nat → K) (n m d dmin : Nat) (hdm : dmin ≤ 2) :
    minkowskiA C fin ⟨[n, d], gx⟩ ⟨[m, d], gy⟩ false dmin 0 (some 0) = DRes.errZeroDiv := by
  obtain ⟨D, hD, hsh, _⟩ :=
    absDist_outer ⟨[n, d], gx⟩ ⟨[m, d], gy⟩ dmin gx gy n m d (max_eq_left hdm) rfl rfl
  unfold minkowskiA
  rw [hD]
  simp only [show resolveAxis D.ndim (some 0) = _ from resolveAxis_nat D _ hsh 0 (Nat.zero_lt_succ 2)]
  rfl

/-! ### which floating-point conditions give up the p-norm

Nothing is assumed about `fin` here (`Float.isFinite` in the driver).  The
fall-back of distance.py l.187-188 / l.35-36 is taken exactly on the model's `overflowed` / `lnormOverflowed`
condition, which mentions non-finite powers and sums only: a power that UNDERFLOWS (vanishes, becomes denormal) is a
finite number, so it never triggers the fall-back. -/

/-- no power and no sum is non-finite => the `FloatingPointError` condition of minkowski is false (whatever `fin` is) -/
theorem overflowed_false_of_finite (fin : K → Bool) (d t s : NArr K)
    (ht : ∀ a ∈ t.ravel, fin a = true) (hs : ∀ a ∈ s.ravel, fin a = true) : overflowed fin d t s = false :=
  overflowed_of_finite fin d t s ht hs

/-- **clause "the point-to-point metrics equal their textbook definitions", underflow side**: whenever every p-th power
of a coordinate difference and every lane sum is finite - in particular when powers underflow - minkowski (euclidean,
manhattan) returns the p-th root of the sum of the p-th powers; the infinity norm is NOT substituted. -/
theorem minkowski_finite_no_fallback (C : Consts K) (fin : K → Bool) (x xp : NArr K) (pair : Bool) (dmin p : Nat)
    (hp : p ≠ 0) (axis : Option Int) (D : NArr K) (k : Option Nat)
    (hD : absoluteDistance x xp pair dmin = some D) (hax : resolveAxis D.ndim axis = some k)
    (ht : ∀ a ∈ (D.map (powN · p)).ravel, fin a = true)
    (hs : ∀ a ∈ (reduceWith lsum (D.map (powN · p)) k).ravel, fin a = true) :
    minkowskiA C fin x xp pair dmin p axis = DRes.ok ((reduceWith lsum (D.map (powN · p)) k).map (C.root p)) :=
  minkowskiA_of_finite C fin hp hD hax ht hs

/-- the fall-back is taken exactly on the overflow condition, and then the WHOLE result is the infinity norm
(`d.max(axis=axis)`): also the entries of point pairs whose own powers are finite (finding F66) -/
theorem minkowski_overflow_fallback (C : Consts K) (fin : K → Bool) (x xp : NArr K) (pair : Bool) (dmin p : Nat)
    (hp : p ≠ 0) (axis : Option Int) (D : NArr K) (k : Option Nat)
    (hD : absoluteDistance x xp pair dmin = some D) (hax : resolveAxis D.ndim axis = some k)
    (ho : overflowed fin D (D.map (powN · p)) (reduceWith lsum (D.map (powN · p)) k) = true) :
    minkowskiA C fin x xp pair dmin p axis = chebyshevA x xp pair dmin axis := by
  unfold minkowskiA chebyshevA
  rw [hD]
  simp only [hax, if_neg hp, ho, if_true]

/-- `Lnorm` likewise: finite powers and a finite sum => the p-norm `lnorm` (`lnorm_pow`, `lnorm_one` in Props/C18.lean) -/
theorem lnorm_finite_no_fallback (C : Consts K) (fin : K → Bool) (ws : List K) (p : Nat)
    (ht : ∀ w ∈ ws, fin (powN w p) = true) (hs : fin (lsum (ws.map fun x => absR (powN x p))) = true) :
    lnormA C fin ws p = lnorm C ws p := by
  unfold lnormA
  split
  · rename_i hp; rw [hp]
  · have h : lnormOverflowed fin ws p = false := by
      unfold lnormOverflowed
      rw [any_fin_notfin_eq_false fin _ _ fun b hb => by obtain ⟨w, hw, rfl⟩ := List.mem_map.mp hb; exact ht w hw, hs]
      simp
    rw [h]; rfl

/-- and on the overflow condition `Lnorm` is the infinity norm `max |w|` (`lnorm_inf` in Props/C18.lean) -/
theorem lnorm_overflow_fallback (C : Consts K) (fin : K → Bool) (ws : List K) (p : Nat) (hp : p ≠ 0)
    (ho : lnormOverflowed fin ws p = true) : lnormA C fin ws p = lnormInf ws := by
  unfold lnormA
  simp [hp, ho]

end MysticVerif.C18
