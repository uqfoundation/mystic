/-
C10 - termination conditions mean what they say, alone and in combination.
General lemmas: Proofs/Termination.lean.
Model: Model/Termination.lean (a literal transcription of mystic/termination.py; line numbers are those of that file).

Clauses of DESIGN.md section 5 / C10 and the theorems that stand for them:
  And / Or / When: and_iff, or_iff, when_iff (member keys must not collide: `NoCollision`; the collision itself is
    `sibling_collision_witness`), evalB_eq_den (any depth), build_den_partial (through the constructors `__new__`)
  info names only satisfied members: info_only_satisfied
  info truthy iff satisfied: info_truthy_iff_eval (no empty When/And, no colliding keys; `empty_and_witness`)
  rebuilt from type and state: rebuild_same (primitives)
  each primitive's documented test: vtr / cog / ncog / crt / solimp / nct / vtrcog / popspread / gradnorm /
    evallimits / interrupt / timelimits _spec
Props/C10/Grad.lean, Collapse.lean, Keys.lean: GradientNormTolerance for every norm, Collapse*, dict keys and state().
Finding ids: D1, D2 (known_findings.d/C10.json), F12 (DESIGN.md, two parts).
Not covered (model + correspondence only): the `'self'` and `'not'` call modes; `and_iff/or_iff` under the weaker
hypothesis "colliding keys are the same object" (e.g. `And(a, a)`); `build_den` for the harmless unpackings
(`When(And(a, b))`, `And(And(a, b))`).
-/
import MysticVerif.Proofs.Termination
import MysticVerif.Props.C10.Grad
import MysticVerif.Props.C10.Collapse
import MysticVerif.Props.C10.Keys
import Mathlib.Algebra.Order.Field.Rat

namespace MysticVerif.C10
open MysticVerif.Term

section Compound
variable {R : Type} [Add R] [Sub R] [Mul R] [Div R] [Neg R] [LT R] [DecidableLT R] [LE R] [DecidableLE R]
  [BEq R] [OfNat R 0] [OfNat R 2]

/-- members whose dict keys do not collide (`stop` is keyed by the member objects; tuples compare
element-wise whatever their class, see `sibling_collision_witness`) -/
def NoCollision (cs : List (Cond R)) : Prop := cs.Pairwise (fun a b => Cond.keyEq a b = false)

/-- **And.** `And(c1..cn)(solver)` is satisfied iff ALL members are - the members are arbitrary
condition objects, so this is the statement at any nesting depth. -/
theorem and_iff (v : View R) (cs : List (Cond R)) (h : NoCollision cs) :
    (Cond.node .and cs).evalB v = true ↔ ∀ c ∈ cs, c.evalB v = true :=
  Cond.evalB_node_iff v .and cs h  -- `Kind.and.Agg` evaluates to the `∀`

/-- **Or.** `Or(c1..cn)(solver)` is satisfied iff AT LEAST ONE member is. -/
theorem or_iff (v : View R) (cs : List (Cond R)) (h : NoCollision cs) :
    (Cond.node .or cs).evalB v = true ↔ ∃ c ∈ cs, c.evalB v = true :=
  Cond.evalB_node_iff v .or cs h

/-- **When.** `When(c)(solver)` is satisfied iff `c` is. -/
theorem when_iff (v : View R) (c : Cond R) :
    (Cond.node .when [c]).evalB v = true ↔ c.evalB v = true :=
  (Cond.evalB_node_iff v .when [c] (List.pairwise_singleton _ c)).trans List.forall_mem_singleton

/-- **Any nesting depth.** A condition object none of whose compounds has colliding member keys evaluates to
the all / any / same reading of its tree. -/
theorem evalB_eq_den (v : View R) : (c : Cond R) → c.Distinct → c.evalB v = c.den v := by
  intro c
  induction c using Cond.induction with
  | prim _ _ _ => exact fun _ => rfl
  | node k cs ih =>
    intro h
    rw [Cond.distinct_node] at h
    rw [Bool.eq_iff_iff, Cond.evalB_node_iff v k cs h.1, Cond.den_node_iff]
    exact Kind.agg_congr fun c hc => by rw [ih c hc (h.2 c hc)]

theorem evalBs_eq_den (v : View R) : (cs : List (Cond R)) → Cond.DistinctL cs →
    cs.map (Cond.evalB v) = cs.map (Cond.den v) :=
  fun cs h => List.map_congr_left fun c hc => evalB_eq_den v c ((Cond.DistinctL_iff cs).mp h c hc)

/-- what it means for an info atom to name a satisfied primitive of the tree -/
def NamesSatisfied (v : View R) (leaves : List (Nat × Prim R)) (a : Atom) : Prop :=
  ∃ x ∈ leaves, x.2.eval v = true ∧ (a = .doc x.1 ∨ (a = .warn ∧ x.2.out v = .warn))

/-- **Info names only satisfied members** - unconditionally (whatever the nesting, collisions, empty compounds):
every doc in `condition(solver, info=True)` is the doc of a primitive of the tree that is itself satisfied
(the only other string is the nPop<2 warning of a CandidateRelativeTolerance that returned it). -/
theorem info_only_satisfied (v : View R) : (c : Cond R) → ∀ a ∈ c.info v, NamesSatisfied v c.leaves a := by
  intro c
  induction c using Cond.induction with
  | prim o d p =>
    intro a ha
    refine ⟨(d, p), List.mem_singleton_self _, ?_⟩
    rw [Cond.info] at ha
    rw [Prim.eval]
    cases hp : p.out v <;> rw [hp] at ha
    · cases ha
    · exact ⟨rfl, Or.inl (List.mem_singleton.mp ha)⟩
    · exact ⟨rfl, Or.inr ⟨List.mem_singleton.mp ha, rfl⟩⟩
  | node k cs ih =>
    intro a ha
    obtain ⟨c, hc, hac⟩ := Cond.mem_info_node ha
    obtain ⟨x, hx, hx'⟩ := ih c hc a hac
    exact ⟨x, Cond.mem_leavesL.mpr ⟨c, hc, hx⟩, hx'⟩

/-- **Info is truthy iff the condition is satisfied**, for trees without empty When/And and without colliding
keys (for `And()` it fails: `empty_and_witness`). -/
theorem info_truthy_iff_eval (v : View R) : (c : Cond R) → c.Distinct → c.NoEmptyAll →
    (c.info v ≠ [] ↔ c.evalB v = true) := by
  intro c
  induction c using Cond.induction with
  | prim o d p =>
    intro _ _
    rw [Cond.info, Cond.evalB, Prim.eval]
    cases p.out v <;> simp [POut.truthy]
  | node k cs ih =>
    intro hd hn
    rw [Cond.distinct_node] at hd
    rw [Cond.NoEmptyAll, Cond.NoEmptyAllL_iff] at hn
    rw [Cond.info_node_ne_nil v k cs hd.1, Cond.evalB_node_iff v k cs hd.1, and_iff_right hn.1]
    exact Kind.agg_congr fun c hc => ih c hc (hd.2 c hc) (hn.2 c hc)

theorem infos_truthy_iff_eval (v : View R) : (cs : List (Cond R)) → Cond.DistinctL cs → Cond.NoEmptyAllL cs →
    ∀ c ∈ cs, (c.info v ≠ [] ↔ c.evalB v = true) :=
  fun cs hd hn c hc =>
    info_truthy_iff_eval v c ((Cond.DistinctL_iff cs).mp hd c hc) ((Cond.NoEmptyAllL_iff cs).mp hn c hc)

end Compound

/-! ## expressions as written: `When(e)`, `And(*es)`, `Or(*es)` through the constructors -/

section Build
variable {R : Type}

variable [Add R] [Sub R] [Mul R] [Div R] [Neg R] [LT R] [DecidableLT R] [LE R] [DecidableLE R]
  [BEq R] [OfNat R 0] [OfNat R 2]

private theorem build_many (k : Kind) (e1 e2 : Expr R) (es : List (Expr R)) :
    (match Expr.builds (e1 :: e2 :: es) with
     | [a] => wrapSingle k a
     | as => Cond.node k as) = Cond.node k (Expr.builds (e1 :: e2 :: es)) := by
  simp [Expr.builds]

/-- a plain `And(*es)` / `Or(*es)` is built as the tuple of its built members -/
private theorem build_plain : (es : List (Expr R)) → (∀ e, es = [e] → e.isPrim = true) →
    (Expr.and es).build = .node .and (Expr.builds es) ∧ (Expr.or es).build = .node .or (Expr.builds es)
  | [], _ => ⟨rfl, rfl⟩
  | [.prim _ _ _], _ => ⟨rfl, rfl⟩
  | [.when _], h | [.and _], h | [.or _], h => nomatch h _ rfl
  | e1 :: e2 :: es, _ => ⟨build_many .and e1 e2 es, build_many .or e1 e2 es⟩

mutual
private theorem build_hom (v : View R) : (e : Expr R) → e.Plain → (e.build).den v = e.den v
  | .prim _ _ _, _ => rfl
  | .when (.prim _ _ _), _ => Bool.and_true _
  | .when (.when _), h | .when (.and _), h | .when (.or _), h => nomatch h
  | .and es, h => by
    rw [(build_plain es h.1).1]
    exact (builds_hom v es h.2).1
  | .or es, h => by
    rw [(build_plain es h.1).2]
    exact (builds_hom v es h.2).2
private theorem builds_hom (v : View R) : (es : List (Expr R)) → Expr.PlainL es →
    Cond.denAll v (Expr.builds es) = Expr.denAll v es ∧ Cond.denAny v (Expr.builds es) = Expr.denAny v es
  | [], _ => ⟨rfl, rfl⟩
  | e :: es, h =>
    ⟨congrArg₂ (· && ·) (build_hom v e h.1) (builds_hom v es h.2).1,
      congrArg₂ (· || ·) (build_hom v e h.1) (builds_hom v es h.2).2⟩
end

/-- **Expressions as written.**  `(e.build).evalB v = e.den v` (And = all, Or = any, When = same, to any depth)
whenever every single-argument compound of `e` wraps a primitive and no compound of the constructed object has
colliding member keys.  Without these hypotheses it is false on the code as it is: `when_or_unpacked_witness`,
`sibling_collision_witness`. -/
theorem build_den_partial (v : View R) (e : Expr R) (hp : e.Plain) (hd : (e.build).Distinct) :
    (e.build).evalB v = e.den v := by
  rw [evalB_eq_den v _ hd, build_hom v e hp]

end Build

/-! ## rebuilding from the reported state -/

section Rebuild
variable {R : Type}

/-- the parts of a primitive's closure that its doc does not report: the factory's own constant (`eta` of
NormalizedChangeOverGeneration, the module constant `_epsilon` of GradientNormTolerance) and the timer readings at construction (TimeLimits) -/
def SameInternals (p : Prim R) (eta s0 s1 s2 : R) : Prop :=
  match p with
  | .ncog _ _ e => e = eta
  | .gradnormP _ _ e => e = eta
  | .timelimits _ _ a b c => a = s0 ∧ b = s1 ∧ c = s2
  | _ => True

/-- **Rebuilt from type and state.** `type(c)(**state(c)[doc])` - the factory found by name, called with the
keyword settings reported in the doc - is the SAME primitive (hence behaves identically on every solver), the
factory constant and the construction-time clock readings being equal. -/
theorem rebuild_same (p : Prim R) (eta s0 s1 s2 : R) (h : SameInternals p eta s0 s1 s2) :
    Prim.make p.kind p.state eta s0 s1 s2 = some p := by
  cases p with
  | ncog _ _ e | gradnormP _ _ e =>
    cases h
    rfl
  | timelimits _ _ a b c =>
    obtain ⟨rfl, rfl, rfl⟩ := h
    rfl
  | _ => rfl

end Rebuild

/-! ## the primitive conditions: coded test ↔ documented inequality

`K` is an arbitrary linearly ordered field; Python indexing `hist[i]` is `pyGet? hist i`
(`pyGet?_zero`: `hist[-0]` is the FIRST entry; `pyGet?_neg`: `hist[-g] = hist[len-g]` for `0 < g ≤ len`;
`pyGet?_last`: `hist[-1]` is the last entry). -/

/-- l.210-212 / l.232-234 -/
private theorem guard_iff (n : Nat) (g : Int) (hg : 0 ≤ g) (b : Bool) :
    (if n = 0 then false else if (n : Int) ≤ g then false else b) = true ↔ g < n ∧ b = true := by
  by_cases h : (n : Int) ≤ g
  · rw [if_pos h, ite_self]
    exact iff_of_false Bool.false_ne_true (fun h' => absurd h'.1 (not_lt.mpr h))
  · have h0 : n ≠ 0 := fun h0 => h (by rw [h0]; exact hg)
    rw [if_neg h, if_neg h0]
    exact (and_iff_right (not_le.mp h)).symm

-- fixed statements carry every instance binder of their section
set_option linter.unusedSectionVars false

section Prims
variable {K : Type} [Field K] [LinearOrder K] [IsStrictOrderedRing K]

/-- **VTR**: satisfied iff the history is non-empty and `|cost[-1] - target| ≤ tolerance`. -/
theorem vtr_spec (v : View K) (tol tgt : K) :
    (Prim.vtr tol tgt).eval v = true ↔ ∃ last, v.hist.getLast? = some last ∧ |last - tgt| ≤ tol := by
  rw [Prim.eval_eq_test v _ rfl]
  -- `Prim.test` of a `vtr` is the `match` of `getLast_test`, by unfolding
  exact getLast_test fun last => by rw [decide_eq_true_eq, absR_eq_abs]

/-- **ChangeOverGeneration** (`0 ≤ tolerance`, window `g ≥ 0`): satisfied iff the window fits (`g < len`) and
`cost[-g] - cost[-1] ≤ tolerance` (`cost[-0]` is `cost[0]`).  For a negative tolerance the `==` shortcut breaks
this: `cog_negative_tolerance_witness`. -/
theorem cog_spec (v : View K) (tol : K) (g : Int) (hg : 0 ≤ g) (ht : 0 ≤ tol) :
    (Prim.cog tol (some g)).eval v = true ↔
      g < v.hist.length ∧ ∃ a b, pyGet? v.hist (-g) = some a ∧ pyGet? v.hist (-1) = some b ∧ a - b ≤ tol := by
  rw [Prim.eval_eq_test v _ rfl]
  exact (guard_iff _ g hg _).trans (and_congr_right fun _ => changeTest_window ht _ _)

/-- `generations=None` is a window of 0 (reads the first entry) -/
theorem cog_none (v : View K) (tol : K) : (Prim.cog tol none).eval v = (Prim.cog tol (some 0)).eval v :=
  rfl

/-- **NormalizedChangeOverGeneration** (`0 ≤ tolerance`, `0 ≤ eta`, window `g ≥ 0`): satisfied iff the window fits
and `2 (cost[-g] - cost[-1]) ≤ tolerance (|cost[-g]| + |cost[-1]|) + eta`, i.e. the documented normalized change
`(cost[-g]-cost[-1]) / (0.5 (|cost[-g]|+|cost[-1]|)) ≤ tolerance` up to the guard `eta = 1e-20`. -/
theorem ncog_spec (v : View K) (tol eta : K) (g : Int) (hg : 0 ≤ g) (ht : 0 ≤ tol) (he : 0 ≤ eta) :
    (Prim.ncog tol (some g) eta).eval v = true ↔
      g < v.hist.length ∧ ∃ a b, pyGet? v.hist (-g) = some a ∧ pyGet? v.hist (-1) = some b ∧
        2 * (a - b) ≤ tol * (|a| + |b|) + eta := by
  rw [Prim.eval_eq_test v _ rfl]
  exact (guard_iff _ g hg _).trans (and_congr_right fun _ => nchangeTest_window ht he _ _)

/-- **NormalizedCostTarget without `fval`, window `g > 0`**: satisfied iff the window fits and there was no
improvement over it, `cost[-g] - cost[-1] ≤ 0`. -/
theorem nct_spec_window (v : View K) (tol : K) (g : Int) (hg : 0 < g) :
    (Prim.nct none tol (some g)).eval v = true ↔
      g < v.hist.length ∧ ∃ a b, pyGet? v.hist (-g) = some a ∧ pyGet? v.hist (-1) = some b ∧ a - b ≤ 0 := by
  rw [Prim.eval_nct_none_iff, changeTest_window le_rfl]
  refine ⟨fun h => h.2 hg.ne', fun h => ⟨fun h0 => ?_, fun _ => h⟩⟩
  have hl := h.1
  rw [h0] at hl
  exact absurd (lt_trans hg hl) (lt_irrefl 0)

/-- **NormalizedCostTarget without `fval` and without window** (`generations` 0 or None): satisfied as soon as
there is a history. -/
theorem nct_spec_nowindow (v : View K) (tol : K) :
    ((Prim.nct none tol (some 0)).eval v = true ↔ v.hist ≠ []) ∧
    ((Prim.nct none tol none).eval v = true ↔ v.hist ≠ []) :=
  ⟨(Prim.eval_nct_none_iff v tol _).trans (and_iff_left fun h => absurd rfl h),
    (Prim.eval_nct_none_iff v tol _).trans (and_iff_left fun h => absurd rfl h)⟩

/-- **NormalizedCostTarget with `fval`** (`0 ≤ tolerance`): satisfied iff `|cost[-1] - fval| ≤ tolerance |fval|`. -/
theorem nct_spec (v : View K) (fval tol : K) (g : Option Int) (ht : 0 ≤ tol) :
    (Prim.nct (some fval) tol g).eval v = true ↔ ∃ last, v.hist.getLast? = some last ∧ |last - fval| ≤ tol * |fval| := by
  rw [Prim.eval_eq_test v _ rfl]
  exact getLast_test fun last => by rw [decide_eq_true_eq, absR_eq_abs, absR_mul_of_nonneg ht]

/-- **VTRChangeOverGeneration** (`0 ≤ gtol`, window `g ≥ 0`): satisfied iff the history is non-empty and
(the window fits and `cost[-g] - cost[-1] ≤ gtol`) or `|cost[-1] - target| ≤ ftol`. -/
theorem vtrcog_spec (v : View K) (ftol gtol tgt : K) (g : Int) (hg : 0 ≤ g) (ht : 0 ≤ gtol) :
    (Prim.vtrcog ftol gtol (some g) tgt).eval v = true ↔
      ∃ last, v.hist.getLast? = some last ∧
        ((g < v.hist.length ∧ ∃ a b, pyGet? v.hist (-g) = some a ∧ pyGet? v.hist (-1) = some b ∧ a - b ≤ gtol)
          ∨ |last - tgt| ≤ ftol) := by
  rw [Prim.eval_eq_test v _ rfl]
  exact getLast_test fun last => by
    rw [Bool.or_eq_true, Bool.and_eq_true, decide_eq_true_eq, decide_eq_true_eq, absR_eq_abs, changeTest_window ht]
    rfl

/-- **TimeLimits**: satisfied iff the elapsed time of the selected timer is at least `|seconds|`. -/
theorem timelimits_spec (v : View K) (seconds s0 s1 s2 : K) :
    ((Prim.timelimits seconds none s0 s1 s2).eval v = true ↔ |seconds| ≤ v.tTime - s0) ∧
    ((Prim.timelimits seconds (some true) s0 s1 s2).eval v = true ↔ |seconds| ≤ v.tPerf - s1) ∧
    ((Prim.timelimits seconds (some false) s0 s1 s2).eval v = true ↔ |seconds| ≤ v.tProc - s2) := by
  simp only [Prim.eval_eq_test v _ (rfl : (Prim.timelimits _ _ _ _ _).warns v = false), Prim.test, decide_eq_true_eq,
    absR_eq_abs, and_self]

/-- **CandidateRelativeTolerance** with at least two candidates (and a non-degenerate population): satisfied iff
every coordinate of every other candidate is within `xtol` of the first and every other energy within `ftol`. -/
theorem crt_spec (v : View K) (xtol ftol : K) (x0 : List K) (rest : List (List K)) (f0 : K) (fs : List K)
    (hp : v.pop = x0 :: rest) (he : v.popE = f0 :: fs) (hfs : fs ≠ []) (hd : crtDiffs v.pop ≠ []) :
    (Prim.crt xtol ftol).eval v = true ↔
      (∀ row ∈ rest, ∀ p ∈ row.zip x0, |p.1 - p.2| ≤ xtol) ∧ (∀ fi ∈ fs, |f0 - fi| ≤ ftol) := by
  have hw : ¬ v.popE.length < 2 := by
    rw [he, List.length_cons, Nat.not_lt]
    exact Nat.succ_le_succ (List.length_pos_iff.mpr hfs)
  rw [Prim.eval_crt v _ _ hw, Bool.and_eq_true, leOpt_pyMax, leOpt_pyMax]
  -- both maxima are over non-empty lists
  rw [and_iff_right hd, hp, he, forall_mem_crtDiffs, crtFDiffs, List.forall_mem_map,
    and_iff_right (mt List.map_eq_nil_iff.mp hfs)]
  simp only [absR_eq_abs]

/-- with fewer than two candidates CandidateRelativeTolerance returns its (truthy) warning: nothing to compare -/
theorem crt_spec_warn (v : View K) (xtol ftol : K) (h : v.popE.length < 2) :
    (Prim.crt xtol ftol).eval v = true ∧ (Prim.crt xtol ftol).out v = .warn := by
  simp [Prim.eval, Prim.out, Prim.warns, h, POut.truthy]

/-- **SolutionImprovement**, one trial vector: satisfied iff `sum |best_i - trial_i| ≤ tolerance`;
a trial population: iff that holds for every trial vector. -/
theorem solimp_spec (v : View K) (tol : K) :
    (v.trial2d = false → ∀ row rest, v.trial = row :: rest →
      ((Prim.solimp tol).eval v = true ↔ (List.zipWith (fun b t => |b - t|) v.best row).sum ≤ tol)) ∧
    (v.trial2d = true → v.trial ≠ [] →
      ((Prim.solimp tol).eval v = true ↔ ∀ row ∈ v.trial, (List.zipWith (fun b t => |b - t|) v.best row).sum ≤ tol)) := by
  rw [Prim.eval_eq_test v _ rfl]
  simp only [Prim.test]
  constructor
  · intro h2 row rest ht
    simp only [h2, ht, Bool.false_eq_true, if_false, addReduce_eq_sum, absR_eq_abs, decide_eq_true_eq]
  · intro h2 hne
    simp only [h2, if_true, leOpt_pyMax, solimpSums, addReduce_eq_sum, absR_eq_abs, ne_eq,
      List.map_eq_nil_iff, hne, not_false_eq_true, true_and, List.forall_mem_map]

/-- **PopulationSpread** (`0 ≤ tolerance`): satisfied iff every coordinate of every candidate deviates from the
first candidate's by at most `tolerance` times its magnitude (the "normalized absolute deviation"). -/
theorem popspread_spec (v : View K) (tol : K) (x0 : List K) (rest : List (List K)) (hp : v.pop = x0 :: rest)
    (ht : 0 ≤ tol) :
    (Prim.popspread tol).eval v = true ↔ ∀ row ∈ v.pop, ∀ p ∈ row.zip x0, |p.1 - p.2| ≤ tol * |p.2| := by
  rw [Prim.eval_popspread, hp, popspreadAll]
  simp only [List.all_eq_true, id, forall_mem_zipWith, decide_eq_true_eq, absR_mul_of_nonneg ht, absR_eq_abs]

/-- **GradientNormTolerance** (`norm = inf`, non-empty gradient): satisfied iff `max |g_i| ≤ tolerance`. -/
theorem gradnorm_spec (v : View K) (tol : K) (hg : v.grad ≠ []) :
    (Prim.gradnorm tol).eval v = true ↔ ∀ g ∈ v.grad, |g| ≤ tol := by
  rw [Prim.eval_gradnorm, leOpt_npMax_abs v.grad tol hg]

end Prims

section Counters
variable {R : Type} [Add R] [Sub R] [Mul R] [Div R] [Neg R] [LT R] [DecidableLT R] [LE R] [DecidableLE R]
  [BEq R] [OfNat R 0] [OfNat R 2]

/-- **EvaluationLimits**: satisfied iff `fcalls ≥ evaluations` or `iterations ≥ generations`, a limit of `None`
never being reached. -/
theorem evallimits_spec (v : View R) (gens evals : Option Int) :
    (Prim.evallimits (R := R) gens evals).eval v = true ↔
      (∃ m, evals = some m ∧ m ≤ v.fcalls) ∨ (∃ m, gens = some m ∧ m ≤ v.gens) := by
  rw [Prim.eval_eq_test v _ rfl]
  show (geLim v.fcalls evals || geLim v.gens gens) = true ↔ _
  rw [Bool.or_eq_true, geLim_iff, geLim_iff]

/-- **SolverInterrupt**: satisfied iff `_EARLYEXIT` is set. -/
theorem interrupt_spec (v : View R) : (Prim.interrupt (R := R)).eval v = true ↔ v.earlyExit = true := by
  rw [Prim.eval_eq_test v _ rfl]
  rfl

end Counters

/-! ### the ways the full claim fails on the code as it is (closed terms, evaluated by the kernel)

History `[5, 1, 1]`; `a = VTR(0, 1)` is satisfied, `b = VTR(0, 5)` is not. -/

section Witnesses

def wv : View Int :=
  { hist := [5, 1, 1], pop := [], popE := [], best := [], trial := [], trial2d := false, grad := [],
    gens := 3, fcalls := 7, earlyExit := false, tTime := 0, tPerf := 0, tProc := 0 }
def wa : Expr Int := .prim 0 0 (.vtr 0 1)
def wb : Expr Int := .prim 1 1 (.vtr 0 5)

/-- the two primitives really have different verdicts (non-vacuity of the witnesses below) -/
example : wa.den wv = true ∧ wb.den wv = false := by decide +kernel

/-- **D1 (known finding): a single compound argument is unpacked.** `When(Or(a, b))` becomes the tuple `(a, b)` of
class `When`, which aggregates with `all`: it is NOT satisfied although `Or(a, b)` is.  Likewise `And(Or(a, b))`
evaluates as `And(a, b)` and `Or(And(a, b))` as `Or(a, b)`.  (`__new__`, l.76-81 / l.122-126 / l.146-150) -/
theorem when_or_unpacked_witness :
    ((Expr.when (.or [wa, wb])).build.evalB wv = false ∧ (Expr.when (.or [wa, wb])).den wv = true)
    ∧ ((Expr.and [.or [wa, wb]]).build.evalB wv = false ∧ (Expr.and [.or [wa, wb]]).den wv = true)
    ∧ ((Expr.or [.and [wa, wb]]).build.evalB wv = true ∧ (Expr.or [.and [wa, wb]]).den wv = false) := by
  decide +kernel

/-- **D2 (known finding): sibling tuples with equal members collide as dict keys.** In `And(And(a, b), Or(a, b))`
the entry of `And(a, b)` in `stop` is overwritten by the value of `Or(a, b)` (tuple equality and hash ignore the
class), so the condition is satisfied although its member `And(a, b)` is not. (l.96) -/
theorem sibling_collision_witness :
    (Expr.and [.and [wa, wb], .or [wa, wb]]).build.evalB wv = true
    ∧ (Expr.and [wa, wb]).build.evalB wv = false
    ∧ (Expr.and [.and [wa, wb], .or [wa, wb]]).den wv = false := by
  decide +kernel

/-- **F12, first part (known finding): `And()` is satisfied but its info is empty (falsy)**, also one level down, and
`condition(solver, 'self')` is the empty tuple. (l.97-103) -/
theorem empty_and_witness :
    (Expr.and []).build.evalB wv = true ∧ (Expr.and []).build.info wv = []
    ∧ (Expr.and []).build.selfRes wv = []
    ∧ (Expr.and [.and [], wa]).build.evalB wv = true ∧ (Expr.and [.and [], wa]).build.info wv = [] := by
  decide +kernel

/-- **F12, second part (known finding): negative tolerance and the `==` shortcut.** On the plateau `[2, 2]`,
`ChangeOverGeneration(tolerance=-1, generations=1)` is satisfied although `cost[-1] - cost[-1] <= -1` is false. (l.214) -/
theorem cog_negative_tolerance_witness :
    let v : View Int := { wv with hist := [2, 2] }
    (Prim.cog (-1) (some 1)).eval v = true ∧ ¬ ((2 : Int) - 2 ≤ -1) := by
  decide +kernel

end Witnesses

/-! ### non-vacuity: the hypotheses of the theorems are met by concrete, non-trivial instances -/

section NonVacuity

/-- `And(a, Or(a, b))` (shared primitive `a`, depth 2): no colliding keys, no empty compound, plain - and the
theorems' conclusions are not trivial on it (`a` satisfied, `b` not). -/
def wt : Expr Int := .and [wa, .or [wa, wb]]
example : wt.Plain :=
  ⟨(fun _ h => nomatch h), trivial, ⟨(fun _ h => nomatch h), trivial, trivial, trivial⟩, trivial⟩
private theorem nc_example : NoCollision [wa.build, (Expr.or [wa, wb]).build] :=
  List.pairwise_pair.mpr rfl
private theorem nc_example2 : NoCollision [wa.build, wb.build] :=
  List.pairwise_pair.mpr rfl
example : NoCollision [wa.build, (Expr.or [wa, wb]).build] := nc_example
example : (wt.build).Distinct :=
  ⟨nc_example, trivial, ⟨nc_example2, trivial, trivial, trivial⟩, trivial⟩
example : (wt.build).NoEmptyAll :=
  ⟨fun _ => List.cons_ne_nil _ _, trivial, ⟨(fun h => nomatch h), trivial, trivial, trivial⟩, trivial⟩
example : wt.build.evalB wv = true ∧ wt.build.info wv = [.doc 0] ∧ (Expr.and [wb, wa]).build.evalB wv = false
    ∧ (Expr.or [wb, wa]).build.info wv = [.doc 0] := by decide +kernel
/-- windows on the history `[5, 1, 1]`: `g = 0` reads the FIRST entry (5 - 1 > 1), `g = 2` the plateau, `g = 3 = len`
does not fit -/
example : (Prim.cog (1 : Int) (some 0)).eval wv = false ∧ (Prim.cog (1 : Int) (some 2)).eval wv = true
    ∧ (Prim.cog (1 : Int) (some 3)).eval wv = false ∧ (Prim.cog (1 : Int) none).eval wv = false
    ∧ (Prim.nct none (0 : Int) (some 2)).eval wv = true ∧ (Prim.nct none (0 : Int) (some 1)).eval wv = true := by decide +kernel
/-- the field hypotheses (`0 ≤ tol`, `0 ≤ g`) over `ℚ`: the window `g = 2` of `[5, 1, 1]` is satisfied through
`cog_spec` itself -/
example : ∃ (v : View ℚ) (tol : ℚ) (g : Int), 0 ≤ g ∧ 0 ≤ tol ∧ (Prim.cog tol (some g)).eval v = true :=
  ⟨{ hist := [5, 1, 1], pop := [], popE := [], best := [], trial := [], trial2d := false, grad := [],
     gens := 3, fcalls := 7, earlyExit := false, tTime := 0, tPerf := 0, tProc := 0 }, 1, 2,
   by decide, by norm_num,
   (cog_spec _ 1 2 (by decide) (by norm_num)).mpr ⟨by decide, 1, 1, rfl, rfl, by norm_num⟩⟩
example : SameInternals (Prim.ncog (1 : Int) (some 2) 7) 7 0 0 0 ∧ SameInternals (Prim.vtr (1 : Int) 2) 7 0 0 0 :=
  ⟨rfl, trivial⟩

end NonVacuity

end MysticVerif.C10
