/-
C16 - constraint transforms land in their target set and leave conforming input alone.
Property theorems and the helper lemmas stated next to them; the others live in Proofs/Transforms*.lean.

The theorems are split over the files of `Props/C16/` (all in namespace `MysticVerif.C16`; the harness lists every
`theorem` of this file and of `Props/C16/*.lean`):
  Core    - the masked element map, index selection, clipping, impose_bounds (one / several intervals), discrete
            (member, fix-conform, idempotent), integers / rounded (nearest integer, grid), suppressed, impose_at (scalar),
            partial, sorting / monotonic (whole vector; frame under an index), with_mean, normalized, unique, and the
            closed-term witnesses of the places where the code breaks a clause
  Insert  - impose_at with a LIST target (pinned, last-write-wins, frame, idempotent, the shape error), masked /
            insert_missing (KeyError guard, value at its key, the rest is the input in order), synchronized
  Ties    - discrete: NEAREST sample, the lower one on a tie; integers / rounded / precision: half to EVEN
  Stats   - with_spread / with_variance / with_std: exact target, mean kept, degenerate inputs, idempotent
  Select  - sorting / monotonic under an index selection (the selected subsequence), bounded(clip=True, nearest=False)
            lands on an interval end, bounded(clip=False) lands inside for every draw oracle
  Track   - impose_as with an offset: a round of the offset loop adds the offset ONCE to every entry that any number of
            pairs name as their tracker (`set(trac)`), frame of a round, one round when no tracker is a partner; several
            partners of one tracker (partners / pairs repeated): pair clause for every pair, frame, conforming input left
            alone, idempotent; the docstring's examples and the closed-term witnesses of the offset defects
  Unique  - unique / impose_unique for ANY sequence of allowed values (repeated members, any order): the contract of the
            replacement pool (`list(set(full) - set(x))`), length / pairwise distinct / allowed under it, first occurrences
            stay, conforming input left alone, twice = once; witnesses: a pool with repeats, `len(full)` counting repeats
-/
import MysticVerif.Props.C16.Core
import MysticVerif.Props.C16.Insert
import MysticVerif.Props.C16.Ties
import MysticVerif.Props.C16.Stats
import MysticVerif.Props.C16.Select
import MysticVerif.Props.C16.Track
import MysticVerif.Props.C16.Unique
