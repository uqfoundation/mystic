/- `_pack` / `_unpack` round trip (model: `MysticVerif.Model.Discrete`), core Lean only -/
import MysticVerif.Model.Discrete

namespace MysticVerif.Discrete

variable {α : Type}

theorem length_flatMap_const {β : Type} (l : List β) (f : β → List α) (n : Nat)
    (hf : ∀ t ∈ l, (f t).length = n) : (l.flatMap f).length = l.length * n := by
  induction l with
  | nil => exact (Nat.zero_mul n).symm
  | cons t l ih =>
    rw [List.flatMap_cons, List.length_append, ih fun t h => hf t (List.mem_cons_of_mem _ h),
      hf t List.mem_cons_self, List.length_cons, Nat.succ_mul, Nat.add_comm]

theorem getElem?_flatMap_const {β : Type} (l : List β) (f : β → List α) (n : Nat)
    (hf : ∀ t ∈ l, (f t).length = n) (q r : Nat) (hr : r < n) :
    (l.flatMap f)[q * n + r]? = l[q]?.bind fun t => (f t)[r]? := by
  induction l generalizing q with
  | nil => rfl
  | cons t l ih =>
    have ht := hf t List.mem_cons_self
    rw [List.flatMap_cons]
    cases q with
    | zero =>
      rw [Nat.zero_mul, Nat.zero_add, List.getElem?_append_left (ht ▸ hr)]
      rfl
    | succ q =>
      have e : (q + 1) * n + r = q * n + r + (f t).length := by rw [ht, Nat.succ_mul, Nat.add_right_comm]
      rw [e, List.getElem?_append_right (Nat.le_add_left _ _), Nat.add_sub_cancel,
        ih (fun t h => hf t (List.mem_cons_of_mem _ h))]
      rfl

theorem filterMap_range_getElem? (l : List α) (m : Nat) :
    (List.range m).filterMap (fun k => l[k]?) = l.take m := by
  induction m generalizing l with
  | zero => rfl
  | succ m ih =>
    cases l with
    | nil => rw [List.take_nil]; exact List.filterMap_eq_nil_iff.mpr fun _ _ => rfl
    | cons a l =>
      rw [List.range_succ_eq_map, List.filterMap_cons_some (f := fun k => (a :: l)[k]?) (b := a) rfl,
        List.filterMap_map, List.take_succ_cons]
      exact congrArg (a :: ·) (ih l)

theorem pack_length (s : List (List α)) :
    (pack s).length = (s.map List.length).foldl (· * ·) 1 := by
  induction s with
  | nil => rfl
  | cons s0 rest ih =>
    simp only [pack, List.map_cons, List.foldl_cons]
    -- the first factor comes out of the left fold: `foldl (*) n0 ns = n0 * foldl (*) 1 ns`
    rw [length_flatMap_const _ _ s0.length fun _ _ => List.length_map _, ih, Nat.one_mul,
      ← Nat.mul_one s0.length, List.foldl_assoc, Nat.mul_one, Nat.mul_comm]

/-- `product_measure.npts` is the number of packed positions -/
theorem positions_length (c : PM α) : (positions c).length = npts c := by
  unfold positions npts pts pos
  rw [pack_length, List.map_map]
  congr 2
  funext m
  simp [mpositions]

theorem pack_mem_length (s : List (List α)) : ∀ t ∈ pack s, t.length = s.length := by
  induction s with
  | nil =>
    intro t ht
    simp only [pack, List.mem_singleton] at ht
    simp [ht]
  | cons s0 rest ih =>
    intro t ht
    simp only [pack, List.mem_flatMap, List.mem_map] at ht
    obtain ⟨u, hu, x, _, rfl⟩ := ht
    simp [ih u hu]

theorem pack_ne_nil (s : List (List α)) (hne : ∀ r ∈ s, r ≠ []) : pack s ≠ [] := by
  induction s with
  | nil => simp [pack]
  | cons s0 rest ih =>
    have h1 : pack rest ≠ [] := ih fun r hr => hne r (List.mem_cons_of_mem _ hr)
    have h0 : s0 ≠ [] := hne s0 List.mem_cons_self
    intro h
    have hl := congrArg List.length h
    rw [pack, length_flatMap_const _ _ s0.length fun _ _ => List.length_map _, List.length_nil] at hl
    exact Nat.ne_of_gt (Nat.mul_pos (List.length_pos_iff.mpr h1) (List.length_pos_iff.mpr h0)) hl

/-- pack order, first factor fastest; out of range exactly when `(pack rest)[q]` is -/
theorem pack_getElem? (s0 : List α) (rest : List (List α)) (q r : Nat) (hr : r < s0.length) :
    (pack (s0 :: rest))[q * s0.length + r]?
      = (pack rest)[q]?.bind (fun t => s0[r]?.map (· :: t)) := by
  rw [pack, getElem?_flatMap_const _ _ s0.length (fun _ _ => List.length_map _) q r hr]
  simp only [List.getElem?_map]

/-- the same in div/mod form -/
theorem pack_getElem?_divmod (s0 : List α) (rest : List (List α)) (k : Nat) (h0 : 0 < s0.length) :
    (pack (s0 :: rest))[k]?
      = (pack rest)[k / s0.length]?.bind (fun t => s0[k % s0.length]?.map (· :: t)) := by
  have h := pack_getElem? s0 rest (k / s0.length) (k % s0.length) (Nat.mod_lt _ h0)
  rwa [Nat.div_add_mod'] at h

theorem col_append (i : Nat) (P Q : List (List α)) : col i (P ++ Q) = col i P ++ col i Q := by
  simp [col]

/-- column 0 of `P.flatMap fun t => s0.map (· :: t)` (`= pack (s0 :: rest)` for `P = pack rest`) is `s0` repeated
    `|P|` times -/
theorem col_zero_flatMap (s0 : List α) (P : List (List α)) :
    col 0 (P.flatMap fun t => s0.map (· :: t)) = P.flatMap fun _ => s0 := by
  induction P with
  | nil => rfl
  | cons t P ih =>
    rw [List.flatMap_cons, List.flatMap_cons, col_append, ih]
    exact congrArg (· ++ _) (List.filterMap_map.trans List.filterMap_some)

/-- and its column `i+1` is column `i` of `P`, each entry repeated `|s0|` times -/
theorem col_succ_flatMap (s0 : List α) (i : Nat) (P : List (List α)) :
    col (i + 1) (P.flatMap fun t => s0.map (· :: t))
      = (col i P).flatMap (List.replicate s0.length) := by
  induction P with
  | nil => rfl
  | cons t P ih =>
    rw [List.flatMap_cons, col_append, ih]
    have h1 : col (i + 1) (s0.map (· :: t)) = s0.filterMap (fun _ => t[i]?) := List.filterMap_map
    rw [h1]
    cases h : t[i]? with
    | none =>
      rw [show col i (t :: P) = col i P from List.filterMap_cons_none h, List.filterMap_eq_nil_iff.mpr fun _ _ => rfl]
      rfl
    | some a =>
      rw [show col i (t :: P) = a :: col i P from List.filterMap_cons_some h, List.flatMap_cons,
        List.filterMap_eq_map', List.map_const']

/-- `l[:stop:1] = l[:stop]` -/
theorem strided_one (l : List α) (stop : Nat) : strided l stop 1 = l.take stop := by
  unfold strided
  simp only [Nat.add_sub_cancel, Nat.div_one, Nat.mul_one]
  rw [filterMap_range_getElem?, ← List.take_eq_take_min]

/-- `⌈n0 * m / (n0 * L)⌉ = ⌈m / L⌉`, in the form `(x + d - 1) / d` in which `strided` counts its entries -/
theorem ceil_scale (n0 m L : Nat) (h0 : 0 < n0) :
    (n0 * m + n0 * L - 1) / (n0 * L) = (m + L - 1) / L := by
  cases L with
  | zero => rw [Nat.mul_zero, Nat.div_zero, Nat.div_zero]
  | succ L =>
    have h : n0 * m + n0 * (L + 1) - 1 = n0 * (m + L) + (n0 - 1) := by
      rw [Nat.mul_succ, ← Nat.add_assoc, ← Nat.mul_add, Nat.add_sub_assoc h0]
    rw [h, ← Nat.div_div_eq_div_mul, Nat.mul_add_div h0, Nat.div_eq_of_lt (Nat.sub_lt h0 Nat.one_pos),
      Nat.add_zero]
    rfl

theorem strided_flatMap_replicate (l : List α) (n0 S L : Nat) (h0 : 0 < n0) :
    strided (l.flatMap (List.replicate n0)) (n0 * S) (n0 * L) = strided l S L := by
  unfold strided
  rw [length_flatMap_const l _ n0 fun _ _ => List.length_replicate, Nat.mul_comm l.length,
    Nat.mul_min_mul_left, ceil_scale _ _ _ h0]
  congr 1
  funext k
  -- index `k * (n0 * L)` is copy 0 of entry `k * L`
  have h := getElem?_flatMap_const l (List.replicate n0) n0 (fun _ _ => List.length_replicate) (k * L) 0 h0
  rw [Nat.add_zero, Nat.mul_assoc, Nat.mul_comm L] at h
  rw [h]
  cases l[k * L]? with
  | none => rfl
  | some a => exact List.getElem?_replicate_of_lt h0

/-- peeling the first factor off the recursion -/
theorem unpackGo_flatMap (s0 : List α) (h0 : 0 < s0.length) (P : List (List α))
    (i L : Nat) (ns : List Nat) :
    unpackGo (P.flatMap fun t => s0.map (· :: t)) (i + 1) (s0.length * L) ns = unpackGo P i L ns := by
  induction ns generalizing i L with
  | nil => rfl
  | cons n ns ih =>
    simp only [unpackGo]
    rw [col_succ_flatMap, Nat.mul_assoc, strided_flatMap_replicate _ _ _ _ h0, ih]

theorem unpackCore_eq_unpackGo (P : List (List α)) (npts : List Nat) :
    unpackCore P npts = unpackGo P 0 1 npts := by
  cases npts with
  | nil => rfl
  | cons n0 ns => simp [unpackCore, unpackGo, strided_one]

theorem unpackGo_pack (s : List (List α)) (hne : ∀ r ∈ s, r ≠ []) :
    unpackGo (pack s) 0 1 (s.map List.length) = s := by
  induction s with
  | nil => rfl
  | cons s0 rest ih =>
    have hrest : ∀ r ∈ rest, r ≠ [] := fun r hr => hne r (List.mem_cons_of_mem _ hr)
    have h0 : 0 < s0.length := List.length_pos_iff.mpr (hne s0 List.mem_cons_self)
    simp only [pack, List.map_cons, unpackGo]
    congr 1
    · rw [strided_one, col_zero_flatMap, Nat.one_mul]
      obtain ⟨t, Q, hQ⟩ := List.exists_cons_of_ne_nil (pack_ne_nil rest hrest)
      rw [hQ, List.flatMap_cons, List.take_left']
      rfl
    · -- the stride `|s0|` as `|s0| * 1`, the shape `unpackGo_flatMap` peels
      rw [Nat.one_mul, ← Nat.mul_one s0.length, Nat.zero_add]
      rw [unpackGo_flatMap s0 h0]
      exact ih hrest

/-- `_unpack(_pack(s), [len(r) for r in s]) == s` for non-empty factors (total core, no guards) -/
theorem unpackCore_pack_of_ne_nil (s : List (List α)) (hne : ∀ r ∈ s, r ≠ []) :
    unpackCore (pack s) (s.map List.length) = s := by
  rw [unpackCore_eq_unpackGo, unpackGo_pack s hne]

theorem unpackCore_pack (s : List (List α)) (_hs : s ≠ []) (hne : ∀ r ∈ s, r ≠ []) :
    unpackCore (pack s) (s.map List.length) = s :=
  unpackCore_pack_of_ne_nil s hne

theorem colOk_of_length (P : List (List α)) (len i : Nat) (hP : ∀ t ∈ P, t.length = len)
    (hi : i < len) : colOk i P = true := by
  simp only [colOk, List.all_eq_true, decide_eq_true_eq]
  intro t ht
  rw [hP t ht]; exact hi

theorem unpackGuard_none (P : List (List α)) (len : Nat) (hP : ∀ t ∈ P, t.length = len)
    (next last : Nat) (ns : List Nat) (hlen : next + ns.length ≤ len) (hlast : 0 < last)
    (hpos : ∀ n ∈ ns, 0 < n) : unpackGuard P next last ns = none := by
  induction ns generalizing next last with
  | nil => rfl
  | cons n ns ih =>
    rw [List.length_cons] at hlen
    have hc : colOk next P = true :=
      colOk_of_length P len next hP (Nat.lt_of_lt_of_le (Nat.lt_add_of_pos_right (Nat.succ_pos _)) hlen)
    rw [unpackGuard, if_neg (by rw [hc]; decide), if_neg (Nat.ne_of_gt hlast)]
    apply ih
    · rw [Nat.add_right_comm]; exact hlen
    · exact Nat.mul_pos hlast (hpos n List.mem_cons_self)
    · exact fun m hm => hpos m (List.mem_cons_of_mem _ hm)

/-- `_unpack(_pack(s), [len(r) for r in s])` raises nothing and returns `s`
    (at least one factor, every factor non-empty). -/
theorem unpack_pack (s : List (List α)) (hs : s ≠ []) (hne : ∀ r ∈ s, r ≠ []) :
    unpack (pack s) (s.map List.length) = .ok s := by
  have hcore := unpackCore_pack_of_ne_nil s hne
  cases s with
  | nil => exact absurd rfl hs
  | cons s0 rest =>
    have hP := pack_mem_length (s0 :: rest)
    have hc : colOk 0 (pack (s0 :: rest)) = true :=
      colOk_of_length _ _ 0 hP (by simp)
    have hg : unpackGuard (pack (s0 :: rest)) 1 s0.length (rest.map List.length) = none := by
      apply unpackGuard_none _ _ hP
      · rw [List.length_map, List.length_cons, Nat.add_comm]; exact Nat.le_refl _
      · exact List.length_pos_iff.mpr (hne s0 List.mem_cons_self)
      · intro n hn
        obtain ⟨r, hr, rfl⟩ := List.mem_map.mp hn
        exact List.length_pos_iff.mpr (hne r (List.mem_cons_of_mem _ hr))
    rw [List.map_cons] at hcore ⊢
    simp only [unpack, hc, hg, hcore]
    rfl

/-- `c.positions = c.positions` round trip at the level of lists -/
theorem unpack_positions (c : PM α) (hc : c ≠ []) (hne : ∀ m ∈ c, m ≠ []) :
    unpack (positions c) (pts c) = .ok (pos c) := by
  have hlen : pts c = (pos c).map List.length := by
    simp [pts, pos, mpositions, List.map_map, Function.comp_def]
  rw [hlen]
  apply unpack_pack
  · simpa [pos] using hc
  · intro r hr
    obtain ⟨m, hm, rfl⟩ := List.mem_map.mp hr
    simpa [mpositions] using hne m hm

example : unpackCore (pack [[1, 2, 3], [4, 5], [6, 7]]) [3, 2, 2] = [[1, 2, 3], [4, 5], [6, 7]] := by
  decide +kernel

example : unpack (pack [[1, 2, 3], [4, 5], [6, 7]]) [3, 2, 2] = .ok [[1, 2, 3], [4, 5], [6, 7]] := by
  rfl

example : pack [[1, 2, 3], [4, 5]] = [[1, 4], [2, 4], [3, 4], [1, 5], [2, 5], [3, 5]] := by
  decide +kernel

example : (pack [[1, 2, 3], [4, 5], [6, 7]]).length = 12 := by decide +kernel

end MysticVerif.Discrete
