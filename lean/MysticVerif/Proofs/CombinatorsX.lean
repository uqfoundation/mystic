/- loop lemmas for Props/C17/Ext; the translation `toOpt / ofOpt / liftP` to Model/Combinators.lean and the agreement
theorems both ways, for Props/C17.lean (core Lean only) -/
import MysticVerif.Model.CombinatorsX
import MysticVerif.Proofs.Combinators

namespace MysticVerif.CombX
open MysticVerif.Comb (lastAllEq cycHit dropOld dropOldAll Stats LenInv)

variable {X D : Type}

theorem applyO_ret {o : Out X} {src last : X} {ye : X × Bool} (h : applyO o src last = some ye)
    (h2 : ye.2 = false) : o = .ret ye.1 := by
  cases o with
  | ret y => cases h; rfl
  | zdiv | tverr => cases h; cases h2
  | raise => cases h

theorem applyO_fixed [BEq X] [LawfulBEq X] {o : Out X} {src last v : X} {ye : X × Bool} {e : Bool}
    (h : applyO o src last = some ye) (hs : (ye.1 == v && !(e || ye.2)) = true) : o = .ret v ∧ ye.1 = v := by
  simp only [Bool.and_eq_true, Bool.not_eq_true', Bool.or_eq_false_iff, beq_iff_eq] at hs
  exact ⟨hs.1 ▸ applyO_ret h hs.2.2, hs.1⟩

theorem notMovedO_true [BEq X] [LawfulBEq X] {o : Out X} {x : X} (h : notMovedO o x = some true) :
    ∃ z, o = .ret z ∧ z ≠ x := by
  cases o with
  | ret z => exact ⟨z, rfl, fun hz => by subst hz; simp [notMovedO] at h⟩
  | _ => cases h

/-- `l = x[-1] :: older`, newest first; the entry `l[m]` was appended at global step `s - m`
(the input `x[0]` is step 0); the newest `links` adjacent pairs are genuine member applications. -/
def Linked (c : Nat → X → Out X) (s : Nat) (l : List X) (links : Nat) : Prop :=
  ∀ m, m < links → ∀ a b, l[m]? = some b → l[m + 1]? = some a → c (s - 1 - m) a = .ret b

theorem Linked.zero (c : Nat → X → Out X) (s : Nat) (l : List X) : Linked c s l 0 := by
  intro m hm; exact absurd hm (Nat.not_lt_zero m)

theorem Linked.push {c : Nat → X → Out X} {s : Nat} {top : X} {h : List X} {links : Nat} {ye : X × Bool}
    (hl : Linked c s (top :: h) links) (hy : applyM (c s top) top = some ye) :
    Linked c (s + 1) (ye.1 :: top :: h) (if ye.2 = true then 0 else links + 1) := by
  by_cases he : ye.2 = true
  · rw [if_pos he]; exact Linked.zero _ _ _
  · rw [if_neg he]
    intro m hm a b hb ha
    cases m with
    | zero =>
      cases hb; cases ha
      exact applyO_ret hy (Bool.eq_false_iff.mpr he)
    | succ m =>
      rw [Nat.add_sub_cancel, Nat.sub_add_eq, Nat.sub_right_comm]
      exact hl m (Nat.lt_of_succ_lt_succ hm) a b hb ha

theorem Linked.take {c : Nat → X → Out X} {s : Nat} {l : List X} {links : Nat} (k : Nat)
    (hl : Linked c s l links) : Linked c s (l.take k) links := by
  intro m hm a b hb ha
  rw [List.getElem?_take] at hb ha
  split at hb
  · split at ha
    · exact hl m hm a b hb ha
    · simp at ha
  · simp at hb

theorem Linked.dropOld_tail {c : Nat → X → Out X} {n s j : Nat} {y : X} {l : List X} {links : Nat}
    (hl : Linked c s (y :: l) links) : Linked c s (y :: dropOld n j l) links := by
  unfold dropOld
  split
  · have := Linked.take (k := (l.length - n) + 1) hl
    simpa [List.take_succ_cons] using this
  · exact hl

theorem Linked.window [BEq X] [LawfulBEq X] {c : Nat → X → Out X} {n t : Nat} {y : X} {l : List X} {links : Nat}
    (hl : Linked c (t + 1) (y :: l) links) (hw : lastAllEq (n - 1) l y = true) (hlen : n ≤ l.length) :
    ∀ m, m < links → m < n → ∃ a, c (t - m) a = .ret y ∧ (m + 1 < n → a = y) := by
  intro m hm hmn
  have hwin : ∀ k (hk : k < l.length), k < n - 1 → l[k] = y := fun k hk hkn =>
    (Comb.lastAllEq_iff _ _ _).mp hw k hkn _ (List.getElem?_eq_getElem hk)
  have hml : m < l.length := Nat.lt_of_lt_of_le hmn hlen
  refine ⟨l[m], ?_, fun h => hwin m hml (Nat.lt_sub_of_add_lt h)⟩
  have hb : (y :: l)[m]? = some y := by
    cases m with
    | zero => rfl
    | succ k =>
      have hk : k < l.length := Nat.lt_of_succ_lt hml
      rw [List.getElem?_cons_succ, List.getElem?_eq_getElem hk, hwin k hk (Nat.lt_sub_of_add_lt hmn)]
  exact hl m hm _ _ hb (by rw [List.getElem?_cons_succ, List.getElem?_eq_getElem hml])

theorem andFirst_inv {c : Nat → X → Out X} (k i : Nat) (h : List X) (top : X) (e : Bool) (links : Nat)
    (r : List X × X × Bool × Nat) :
    Linked c i (top :: h) links → h.length = i → andFirst c k i h top e links = .ok r →
    Linked c (i + k) (r.2.1 :: r.1) r.2.2.2 ∧ r.1.length = i + k := by
  fun_induction andFirst c k i h top e links with
  | case1 => intro hl hlen hr; cases hr; exact ⟨hl, hlen⟩
  | case2 => intro _ _ hr; cases hr
  | case3 k i =>
    rename_i hye ih
    intro hl hlen hr
    have := ih (Linked.push hl hye) (congrArg (· + 1) hlen) hr
    rwa [Nat.add_right_comm, Nat.add_assoc] at this

theorem andCycle_success [BEq X] [LawfulBEq X] {c : Nat → X → Out X} {rand : D → X → X}
    {n cap : Nat} (hn : 0 < n) {y : X} {t links' : Nat} {st' : Stats}
    (fuel j : Nat) (h : List X) (top : X) (links : Nat) (draws : List D) (st : Stats) :
    n ≤ j → LenInv n j (top :: h).length → Linked c j (top :: h) links →
    andCycle c rand n cap fuel j h top links draws st = (.success y t links', st') →
    n ≤ t + 1 ∧ ∀ m, m < links' → m < n → ∃ a, c (t - m) a = .ret y ∧ (m + 1 < n → a = y) := by
  -- cases: 1 fuel out, 2 cap, 3 raised, 4 success, 5 no draw left, 6 replaced, 7 plain step
  fun_induction andCycle c rand n cap fuel j h top links draws st with
  | case1 | case2 | case3 | case5 => intro _ _ _ hr; cases hr
  | case4 =>
    rename_i hye _ _ hs
    intro hj hlen hlink hr
    -- (`cases hr` cannot substitute into the `let`s of this case)
    injection hr with hr _
    injection hr with hy ht hl
    subst hy ht hl
    rw [Bool.and_eq_true] at hs
    exact ⟨Nat.le_succ_of_le hj, (Linked.push hlink hye).window hs.2 (Nat.le_of_succ_le hlen.1)⟩
  | case6 =>
    -- `r`: the replacement drawn; `links2`: `if r == ye.1 then links1 else 0`
    rename_i ye hye _ _ _ _ _ _ r links2 ih
    intro hj hlen hlink hr
    -- a replacement that changes the value cuts every link; one that does not is no replacement
    refine ih (Nat.le_succ_of_le hj) (LenInv.step hn hlen) ?_ hr
    by_cases heq : (r == ye.1) = true
    · rw [show links2 = _ from if_pos heq, eq_of_beq heq]; exact (Linked.push hlink hye).dropOld_tail
    · rw [show links2 = _ from if_neg heq]; exact Linked.zero _ _ _
  | case7 =>
    rename_i hye _ _ _ _ ih
    intro hj hlen hlink hr
    exact ih (Nat.le_succ_of_le hj) (LenInv.step hn hlen) (Linked.push hlink hye).dropOld_tail hr

/-- on success each of the newest `min links n` calls returned `y`, on `y` itself except the oldest of the `n`
(input unknown) -/
theorem and_success_calls [BEq X] [LawfulBEq X] {c : Nat → X → Out X} {rand : D → X → X}
    {n cap : Nat} {x : X} {draws : List D} {y : X} {t links : Nat} {st : Stats} (hn : 0 < n)
    (hr : and_ c rand n cap x draws = (.success y t links, st)) :
    n ≤ t + 1 ∧ ∀ m, m < links → m < n → ∃ a, c (t - m) a = .ret y ∧ (m + 1 < n → a = y) := by
  unfold and_ at hr
  rw [if_neg (Nat.ne_of_gt hn)] at hr
  cases hfp : andFirst c n 0 [] x false 0 with
  | error k => rw [hfp] at hr; cases hr
  | ok fp =>
    rw [hfp] at hr
    dsimp only at hr
    obtain ⟨hlink, hlen⟩ := andFirst_inv n 0 [] x false 0 fp (Linked.zero _ _ _) rfl hfp
    rw [Nat.zero_add] at hlink hlen
    by_cases hs : (!fp.2.2.1 && lastAllEq (n - 1) fp.1 fp.2.1) = true
    · rw [if_pos hs] at hr
      cases hr
      rw [Bool.and_eq_true] at hs
      rw [← Nat.sub_add_cancel hn] at hlink
      exact ⟨Nat.le_of_eq (Nat.sub_add_cancel hn).symm, hlink.window hs.2 (Nat.le_of_eq hlen.symm)⟩
    · rw [if_neg hs] at hr
      refine andCycle_success hn _ n _ _ _ draws _ (Nat.le_refl _) ?_ hlink hr
      rw [List.length_cons, hlen]; exact LenInv.init hn

/-- every member is called among the last `n` calls; the oldest of them goes to member `(t + 1) % n` -/
theorem exists_sub_mod_eq {n t i : Nat} (hi : i < n) (ht : n ≤ t + 1) :
    ∃ m, m < n ∧ (t - m) % n = i ∧ (m + 1 = n → i = (t + 1) % n) := by
  have hit : i ≤ t := Nat.le_of_lt_succ (Nat.lt_of_lt_of_le hi ht)
  refine ⟨(t - i) % n, Nat.mod_lt _ (Nat.zero_lt_of_lt hi), ?_⟩
  -- `t - i = n * q + m`, so `t - m = i + n * q`
  have e : t - (t - i) % n = i + n * ((t - i) / n) :=
    Nat.sub_eq_of_eq_add (by rw [Nat.add_assoc, Nat.div_add_mod, Nat.add_sub_of_le hit])
  have hmi : (t - (t - i) % n) % n = i := by rw [e, Nat.add_mul_mod_self_left, Nat.mod_eq_of_lt hi]
  refine ⟨hmi, fun hm => ?_⟩
  have hmt : (t - i) % n ≤ t := Nat.le_trans (Nat.mod_le _ _) (Nat.sub_le _ _)
  rw [← hmi, ← Nat.sub_add_cancel hmt, Nat.add_assoc, hm, Nat.add_mod_right, Nat.sub_add_cancel hmt]

theorem stats_step {st st' r : Stats} {fuel : Nat} (h : r.calls ≤ st'.calls + fuel ∧ r.draws ≤ st'.draws + fuel)
    (hc : st'.calls ≤ st.calls + 1) (hd : st'.draws ≤ st.draws + 1) :
    r.calls ≤ st.calls + (fuel + 1) ∧ r.draws ≤ st.draws + (fuel + 1) := by
  have key : ∀ {a b c : Nat}, a ≤ b + fuel → b ≤ c + 1 → a ≤ c + (fuel + 1) := fun h1 h2 =>
    Nat.le_trans h1 (by rw [Nat.add_comm fuel 1, ← Nat.add_assoc]; exact Nat.add_le_add_right h2 fuel)
  exact ⟨key h.1 hc, key h.2 hd⟩

theorem stats_stop {α : Type} (r : α) {st st' : Stats} (fuel : Nat)
    (hc : st'.calls ≤ st.calls + 1) (hd : st'.draws ≤ st.draws + 1) :
    (r, st').2.calls ≤ st.calls + (fuel + 1) ∧ (r, st').2.draws ≤ st.draws + (fuel + 1) :=
  stats_step ⟨Nat.le_add_right _ _, Nat.le_add_right _ _⟩ hc hd

theorem stats_first {α : Type} (r : α) {k n : Nat} (cap : Nat) (h : k ≤ n) :
    (r, ({ calls := k } : Stats)).2.calls ≤ max n cap ∧ (r, ({ calls := k } : Stats)).2.draws ≤ cap - n :=
  ⟨Nat.le_trans h (Nat.le_max_left _ _), Nat.zero_le _⟩

theorem stats_cycle {r : Stats} {n cap : Nat} (h : r.calls ≤ n + (cap - n) ∧ r.draws ≤ 0 + (cap - n)) :
    r.calls ≤ max n cap ∧ r.draws ≤ cap - n := by
  rw [Nat.add_comm, Nat.sub_add_eq_max, Nat.max_comm, Nat.zero_add] at h
  exact h

theorem andCycle_stats [BEq X] (c : Nat → X → Out X) (rand : D → X → X) (n cap : Nat)
    (fuel j : Nat) (h : List X) (top : X) (links : Nat) (draws : List D) (st : Stats) :
    (andCycle c rand n cap fuel j h top links draws st).2.calls ≤ st.calls + fuel ∧
    (andCycle c rand n cap fuel j h top links draws st).2.draws ≤ st.draws + fuel := by
  fun_induction andCycle c rand n cap fuel j h top links draws st with
  | case1 => exact ⟨Nat.le_refl _, Nat.le_refl _⟩
  | case2 => exact stats_stop _ _ (Nat.le_succ _) (Nat.le_succ _)
  | case3 | case4 | case5 => exact stats_stop _ _ (Nat.le_refl _) (Nat.le_succ _)
  | case6 => rename_i ih; exact stats_step ih (Nat.le_refl _) (Nat.le_refl _)
  | case7 => rename_i ih; exact stats_step ih (Nat.le_refl _) (Nat.le_succ _)

theorem andFirst_error {c : Nat → X → Out X} (k i : Nat) (h : List X) (top : X) (e : Bool) (links m : Nat) :
    andFirst c k i h top e links = .error m → m ≤ i + k := by
  fun_induction andFirst c k i h top e links with
  | case1 => intro hr; cases hr
  | case2 k i => intro hr; cases hr; exact Nat.add_le_add_left (Nat.succ_pos k) i
  | case3 k i => rename_i ih; intro hr; exact Nat.succ_add_eq_add_succ i k ▸ ih hr

theorem and_stats [BEq X] (c : Nat → X → Out X) (rand : D → X → X) (n cap : Nat) (x : X) (draws : List D) :
    (and_ c rand n cap x draws).2.calls ≤ max n cap ∧ (and_ c rand n cap x draws).2.draws ≤ cap - n := by
  unfold and_
  by_cases hn : n = 0
  · rw [if_pos hn]; exact stats_first _ _ (Nat.zero_le _)
  rw [if_neg hn]
  cases hfp : andFirst c n 0 [] x false 0 with
  | error k =>
    have := andFirst_error n 0 [] x false 0 k hfp
    rw [Nat.zero_add] at this
    exact stats_first _ _ this
  | ok fp =>
    dsimp only
    by_cases hs : (!fp.2.2.1 && lastAllEq (n - 1) fp.1 fp.2.1) = true
    · rw [if_pos hs]; exact stats_first _ _ (Nat.le_refl _)
    · rw [if_neg hs]; exact stats_cycle (andCycle_stats c rand n cap (cap - n) n _ _ _ draws { calls := n })

theorem orFirst_success [BEq X] [LawfulBEq X] (c : Nat → X → Out X) (x0 : X) {y : X} {calls' : Nat}
    (k i : Nat) (h : List X) (e : Bool) (calls : Nat) :
    orFirst c x0 k i h e calls = .succ y calls' → ∃ i', i ≤ i' ∧ i' < i + k ∧ c i' y = .ret y := by
  fun_induction orFirst c x0 k i h e calls with
  | case1 | case2 => intro hr; cases hr
  | case3 k i =>
    rename_i hye _ hs
    intro hr
    injection hr with hy _
    obtain ⟨ho, hv⟩ := applyO_fixed hye hs
    exact ⟨i, Nat.le_refl _, Nat.lt_add_of_pos_right (Nat.succ_pos k), hy ▸ hv ▸ ho⟩
  | case4 k i =>
    rename_i ih
    intro hr
    obtain ⟨i', h1, h2, h3⟩ := ih hr
    exact ⟨i', Nat.le_of_succ_le h1, by rwa [Nat.add_right_comm, Nat.add_assoc] at h2, h3⟩

/- `fun_induction orCycle` leaves its nested matches unreduced: the two lemmas on `orCycle` walk the definition -/
theorem orCycle_success [BEq X] [LawfulBEq X] (c : Nat → X → Out X) (pick : D → Nat) (n cap : Nat)
    {y : X} {t links : Nat} {st' : Stats} :
    ∀ (fuel j : Nat) (h : List X) (draws : List D) (st : Stats),
      orCycle c pick n cap fuel j h draws st = (.success y t links, st') → c t y = .ret y := by
  intro fuel
  induction fuel with
  | zero => intro j h draws st hr; cases h <;> cases hr
  | succ fuel ih =>
    intro j h draws st hr
    cases h with
    | nil => cases hr
    | cons top tl =>
    unfold orCycle at hr
    dsimp only at hr
    by_cases hc : cap ≤ j
    · rw [if_pos hc] at hr; cases hr
    rw [if_neg hc] at hr
    cases hsrc : (top :: tl)[n - 1]? with
    | none => rw [hsrc] at hr; cases hr
    | some src =>
    rw [hsrc] at hr
    dsimp only at hr
    cases hye : applyO (c j src) src top with
    | none => rw [hye] at hr; cases hr
    | some ye =>
    rw [hye] at hr
    dsimp only at hr
    by_cases hs : (ye.1 == src && !ye.2) = true
    · rw [if_pos hs] at hr
      cases hr
      obtain ⟨ho, hv⟩ := applyO_fixed (e := false) hye hs
      exact hv ▸ ho
    rw [if_neg hs] at hr
    cases draws with
    | nil => cases hr
    | cons d ds =>
      dsimp only at hr
      cases hpick : (ye.1 :: top :: tl)[pick d - 1]? with
      | none => rw [hpick] at hr; cases hr
      | some r => rw [hpick] at hr; exact ih _ _ _ _ hr

theorem orCycle_stats [BEq X] (c : Nat → X → Out X) (pick : D → Nat) (n cap : Nat) :
    ∀ (fuel j : Nat) (h : List X) (draws : List D) (st : Stats),
      (orCycle c pick n cap fuel j h draws st).2.calls ≤ st.calls + fuel ∧
      (orCycle c pick n cap fuel j h draws st).2.draws ≤ st.draws + fuel := by
  intro fuel
  induction fuel with
  | zero => intros; exact ⟨Nat.le_refl _, Nat.le_refl _⟩
  | succ fuel ih =>
    intro j h draws st
    cases h with
    | nil => exact stats_stop _ _ (Nat.le_succ _) (Nat.le_succ _)
    | cons top tl =>
    unfold orCycle
    dsimp only
    by_cases hc : cap ≤ j
    · rw [if_pos hc]; exact stats_stop _ _ (Nat.le_succ _) (Nat.le_succ _)
    rw [if_neg hc]
    cases (top :: tl)[n - 1]? with
    | none => exact stats_stop _ _ (Nat.le_succ _) (Nat.le_succ _)
    | some src =>
    dsimp only
    cases applyO (c j src) src top with
    | none => exact stats_stop _ _ (Nat.le_refl _) (Nat.le_succ _)
    | some ye =>
    dsimp only
    by_cases hs : (ye.1 == src && !ye.2) = true
    · rw [if_pos hs]; exact stats_stop _ _ (Nat.le_refl _) (Nat.le_succ _)
    rw [if_neg hs]
    cases draws with
    | nil => exact stats_stop _ _ (Nat.le_refl _) (Nat.le_succ _)
    | cons d ds =>
      dsimp only
      cases (ye.1 :: top :: tl)[pick d - 1]? with
      | none => exact stats_stop _ _ (Nat.le_refl _) (Nat.le_succ _)
      | some r => exact stats_step (ih _ _ _ _) (Nat.le_refl _) (Nat.le_refl _)

/-- calls made by the first pass -/
def OrFP.ncalls : OrFP X → Nat
  | .succ _ m => m
  | .raised m => m
  | .cont _ m => m

theorem orFirst_calls [BEq X] (c : Nat → X → Out X) (x0 : X) (k i : Nat) (h : List X) (e : Bool) (calls : Nat) :
    (orFirst c x0 k i h e calls).ncalls ≤ calls + k ∧
    (∀ h' m, orFirst c x0 k i h e calls = .cont h' m → m = calls + k) := by
  fun_induction orFirst c x0 k i h e calls with
  | case1 => exact ⟨Nat.le_refl _, fun h' m hm => by cases hm; rfl⟩
  | case2 k _ _ _ calls | case3 k _ _ _ calls =>
    exact ⟨Nat.add_le_add_left (Nat.succ_pos k) calls, fun h' m hm => by cases hm⟩
  | case4 k _ _ _ calls => rename_i ih; rwa [← Nat.succ_add_eq_add_succ calls k]

theorem notLoop_success [BEq X] [LawfulBEq X] (c : Nat → X → Out X) (rand : D → X → X)
    {y : X} {t links : Nat} {st' : Stats} (fuel j : Nat) (x : X) (draws : List D) (st : Stats) :
    notLoop c rand fuel j x draws st = (.success y t links, st') → ∃ z, c t y = .ret z ∧ z ≠ y := by
  fun_induction notLoop c rand fuel j x draws st with
  | case1 | case2 | case4 => intro hr; cases hr
  | case3 =>
    rename_i hm
    intro hr
    injection hr with hr _
    injection hr with hy ht _
    exact hy ▸ ht ▸ notMovedO_true hm
  | case5 => rename_i ih; exact ih

theorem notLoop_stats [BEq X] (c : Nat → X → Out X) (rand : D → X → X)
    (fuel j : Nat) (x : X) (draws : List D) (st : Stats) :
    (notLoop c rand fuel j x draws st).2.calls ≤ st.calls + fuel ∧
    (notLoop c rand fuel j x draws st).2.draws ≤ st.draws + fuel := by
  fun_induction notLoop c rand fuel j x draws st with
  | case1 => exact ⟨Nat.le_refl _, Nat.le_refl _⟩
  | case2 | case3 | case4 => exact stats_stop _ _ (Nat.le_refl _) (Nat.le_succ _)
  | case5 => rename_i ih; exact stats_step ih (Nat.le_refl _) (Nat.le_refl _)

/-! ### agreement with `Model/Combinators.lean` (deterministic members that return or raise `ZeroDivisionError`) -/

/-- a member outcome as `Model/Combinators.lean` sees it: everything swallowed is `none` -/
def toOpt : Out X → Option X
  | .ret y => some y
  | _ => none

def liftRes : Comb.Res X → ResX X
  | .success y t l => .success y t l
  | .fail y => .fail y
  | .stuck => .stuck

def liftP (r : Comb.Res X × Stats) : ResX X × Stats := (liftRes r.1, r.2)

/-- forget the step index -/
def ResX.noT : ResX X → ResX X
  | .success y _ l => .success y 0 l
  | r => r

theorem applyM_agree (f : X → Out X) (x : X) (h : f x ≠ .raise) :
    applyM (f x) x = some (Comb.applyM (fun x => toOpt (f x)) x) := by
  unfold applyM applyO Comb.applyM
  cases hf : f x <;> simp_all [toOpt]

theorem applyO_agree (f : X → Out X) (src last : X) (h : f src ≠ .raise) (h2 : f src ≠ .tverr) :
    applyO (f src) src last = some (Comb.applyM (fun x => toOpt (f x)) src) := by
  unfold applyO Comb.applyM
  cases hf : f src <;> simp_all [toOpt]

theorem andFirst_agree (mem : Nat → X → Out X) (hnr : ∀ i x, mem i x ≠ .raise) (n : Nat) :
    ∀ (k i : Nat) (h : List X) (top : X) (e : Bool) (links : Nat),
      andFirst (detc mem n) k i h top e links
        = .ok (Comb.andFirst (fun i x => toOpt (mem i x)) n k i h top e links) := by
  intro k
  induction k with
  | zero => intros; rfl
  | succ k ih =>
    intro i h top e links
    unfold andFirst Comb.andFirst
    simp only [detc, applyM_agree (mem (i % n)) top (hnr (i % n) top)]
    exact ih _ _ _ _ _

theorem andCycle_agree [BEq X] (mem : Nat → X → Out X) (hnr : ∀ i x, mem i x ≠ .raise) (rand : D → X → X)
    (n cap : Nat) :
    ∀ (fuel j : Nat) (h : List X) (top : X) (links : Nat) (draws : List D) (st : Stats),
      andCycle (detc mem n) rand n cap fuel j h top links draws st
        = liftP (Comb.andCycle (fun i x => toOpt (mem i x)) rand n cap fuel j h top links draws st) := by
  intro fuel
  induction fuel with
  | zero => intros; rfl
  | succ fuel ih =>
    intro j h top links draws st
    unfold andCycle Comb.andCycle
    by_cases hc : cap ≤ j
    · rw [if_pos hc, if_pos hc]; rfl
    · rw [if_neg hc, if_neg hc]
      simp only [detc, applyM_agree (mem (j % n)) top (hnr (j % n) top)]
      generalize Comb.applyM (fun x => toOpt (mem (j % n) x)) top = ye
      by_cases h1 : (!ye.2 && lastAllEq (n - 1) (top :: h) ye.1) = true
      · rw [if_pos h1, if_pos h1]; rfl
      · rw [if_neg h1, if_neg h1]
        by_cases h2 : cycHit n (top :: h) ye.1 = true
        · rw [if_pos h2, if_pos h2]
          cases draws with
          | nil => rfl
          | cons d ds => exact ih _ _ _ _ _ _
        · rw [if_neg h2, if_neg h2]; exact ih _ _ _ _ _ _

/-- **agreement (and_)**: on deterministic members that never let an exception propagate, `Model/CombinatorsX.lean` is
`Model/Combinators.lean` (a swallowed `TypeError`/`ValueError` is handled exactly like a `ZeroDivisionError`) -/
theorem and_agree [BEq X] (mem : Nat → X → Out X) (hnr : ∀ i x, mem i x ≠ .raise) (rand : D → X → X)
    (n cap : Nat) (x : X) (draws : List D) :
    and_ (detc mem n) rand n cap x draws = liftP (Comb.and_ (fun i x => toOpt (mem i x)) rand n cap x draws) := by
  unfold and_ Comb.and_
  by_cases hn : n = 0
  · rw [if_pos hn, if_pos hn]; rfl
  · rw [if_neg hn, if_neg hn]
    simp only [andFirst_agree mem hnr n]
    generalize Comb.andFirst (fun i x => toOpt (mem i x)) n n 0 [] x false 0 = fp
    by_cases h1 : (!fp.2.2.1 && lastAllEq (n - 1) fp.1 fp.2.1) = true
    · rw [if_pos h1, if_pos h1]; rfl
    · rw [if_neg h1, if_neg h1]; exact andCycle_agree mem hnr rand n cap _ _ _ _ _ _ _

def liftFP : Option X × List X × Nat → OrFP X
  | (some y, _, c) => .succ y c
  | (none, h, c) => .cont h c

theorem orFirst_agree [BEq X] (mem : Nat → X → Out X) (hnr : ∀ i x, mem i x ≠ .raise ∧ mem i x ≠ .tverr)
    (n : Nat) (x0 : X) :
    ∀ (k i : Nat) (h : List X) (e : Bool) (calls : Nat), i + k ≤ n →
      orFirst (detc mem n) x0 k i h e calls
        = liftFP (Comb.orFirst (fun i x => toOpt (mem i x)) x0 k i h e calls) := by
  intro k
  induction k with
  | zero => intros; rfl
  | succ k ih =>
    intro i h e calls hik
    unfold orFirst Comb.orFirst
    have him : i % n = i :=
      Nat.mod_eq_of_lt (Nat.lt_of_lt_of_le (Nat.lt_add_of_pos_right (Nat.succ_pos k)) hik)
    simp only [detc, him, applyO_agree (mem i) x0 (h.headD x0) (hnr i x0).1 (hnr i x0).2]
    generalize Comb.applyM (fun x => toOpt (mem i x)) x0 = ye
    by_cases h1 : (ye.1 == x0 && !(e || ye.2)) = true
    · rw [if_pos h1, if_pos h1]; rfl
    · rw [if_neg h1, if_neg h1]; exact ih (i + 1) _ _ _ (by rw [Nat.add_right_comm]; exact hik)

theorem orCycle_agree [BEq X] (mem : Nat → X → Out X) (hnr : ∀ i x, mem i x ≠ .raise ∧ mem i x ≠ .tverr)
    (pick : D → Nat) (n cap : Nat) :
    ∀ (fuel j : Nat) (h : List X) (draws : List D) (st : Stats),
      orCycle (detc mem n) pick n cap fuel j h draws st
        = liftP (Comb.orCycle (fun i x => toOpt (mem i x)) pick n cap fuel j h draws st) := by
  intro fuel
  induction fuel with
  | zero => intro j h draws st; cases h <;> rfl
  | succ fuel ih =>
    intro j h draws st
    cases h with
    | nil => rfl
    | cons top tl =>
      unfold orCycle Comb.orCycle
      dsimp only
      by_cases hc : cap ≤ j
      · rw [if_pos hc, if_pos hc]; rfl
      · rw [if_neg hc, if_neg hc]
        cases hsrc : (top :: tl)[n - 1]? with
        | none => rfl
        | some src =>
          simp only [detc, applyO_agree (mem (j % n)) src top (hnr (j % n) src).1 (hnr (j % n) src).2]
          generalize Comb.applyM (fun x => toOpt (mem (j % n) x)) src = ye
          by_cases h1 : (ye.1 == src && !ye.2) = true
          · rw [if_pos h1, if_pos h1]; rfl
          · rw [if_neg h1, if_neg h1]
            cases draws with
            | nil => rfl
            | cons d ds =>
              dsimp only
              cases hr : (ye.1 :: top :: tl)[pick d - 1]? with
              | none => rfl
              | some r => exact ih _ _ _ _

/-- **agreement (or_)**: deterministic members that return or raise `ZeroDivisionError` only -/
theorem or_agree [BEq X] (mem : Nat → X → Out X) (hnr : ∀ i x, mem i x ≠ .raise ∧ mem i x ≠ .tverr)
    (pick : D → Nat) (n cap : Nat) (x : X) (draws : List D) :
    or_ (detc mem n) pick n cap x draws = liftP (Comb.or_ (fun i x => toOpt (mem i x)) pick n cap x draws) := by
  unfold or_ Comb.or_
  rw [orFirst_agree mem hnr n x n 0 [x] false 0 (Nat.le_of_eq (Nat.zero_add n))]
  generalize Comb.orFirst (fun i x => toOpt (mem i x)) x n 0 [x] false 0 = r
  obtain ⟨o, h, calls⟩ := r
  cases o with
  | some y => rfl
  | none => exact orCycle_agree mem hnr pick n cap _ _ _ _ _

theorem notMovedO_agree [BEq X] (f : X → Out X) (x : X) (h : f x ≠ .raise) :
    notMovedO (f x) x = some (!Comb.notMoved (fun x => toOpt (f x)) x) := by
  unfold notMovedO Comb.notMoved
  cases hf : f x <;> simp_all [toOpt]

theorem notLoop_agree [BEq X] (mem : X → Out X) (hnr : ∀ x, mem x ≠ .raise) (rand : D → X → X) :
    ∀ (fuel j : Nat) (x : X) (draws : List D) (st : Stats),
      ((notLoop (fun _ => mem) rand fuel j x draws st).1.noT, (notLoop (fun _ => mem) rand fuel j x draws st).2)
        = liftP (Comb.notLoop (fun x => toOpt (mem x)) rand fuel x draws st) := by
  intro fuel
  induction fuel with
  | zero => intros; rfl
  | succ fuel ih =>
    intro j x draws st
    unfold notLoop Comb.notLoop
    rw [notMovedO_agree mem x (hnr x)]
    cases Comb.notMoved (fun x => toOpt (mem x)) x with
    | false => rfl
    | true =>
      cases draws with
      | nil => rfl
      | cons d ds => exact ih _ _ _ _

/-- **agreement (not_)**, up to the step index that `CombX.not_` reports with a success -/
theorem not_agree [BEq X] (mem : X → Out X) (hnr : ∀ x, mem x ≠ .raise) (rand : D → X → X)
    (maxiter : Nat) (x : X) (draws : List D) :
    ((not_ (fun _ => mem) rand maxiter x draws).1.noT, (not_ (fun _ => mem) rand maxiter x draws).2)
      = liftP (Comb.not_ (fun x => toOpt (mem x)) rand maxiter x draws) :=
  notLoop_agree mem hnr rand maxiter 0 x draws {}

/-! ### the converse: every run of `Model/Combinators.lean` is the run of `CombX` at `mem i x = ofOpt (c i x)` -/

/-- a member outcome of `Model/Combinators.lean` as an `Out`: `none` is the `ZeroDivisionError` -/
def ofOpt : Option X → Out X
  | some y => .ret y
  | none => .zdiv

theorem toOpt_ofOpt (o : Option X) : toOpt (ofOpt o) = o := by cases o <;> rfl

theorem ofOpt_eq_ret {o : Option X} {y : X} : ofOpt o = .ret y ↔ o = some y := by
  cases o <;> simp [ofOpt]

theorem ofOpt_swallowed (o : Option X) : ofOpt o ≠ .raise ∧ ofOpt o ≠ .tverr := by
  cases o <;> simp [ofOpt]

theorem and_ofOpt [BEq X] (c : Nat → X → Option X) (rand : D → X → X) (n cap : Nat) (x : X) (draws : List D) :
    and_ (detc (fun i x => ofOpt (c i x)) n) rand n cap x draws = liftP (Comb.and_ c rand n cap x draws) := by
  simpa only [toOpt_ofOpt] using
    and_agree (fun i x => ofOpt (c i x)) (fun i x => (ofOpt_swallowed (c i x)).1) rand n cap x draws

theorem and_ofOpt_success [BEq X] {c : Nat → X → Option X} {rand : D → X → X} {n cap : Nat} {x : X} {draws : List D}
    {y : X} {t links : Nat} {st : Stats} (h : Comb.and_ c rand n cap x draws = (.success y t links, st)) :
    and_ (detc (fun i x => ofOpt (c i x)) n) rand n cap x draws = (.success y t links, st) := by
  rw [and_ofOpt, h]; rfl

theorem or_ofOpt [BEq X] (c : Nat → X → Option X) (pick : D → Nat) (n cap : Nat) (x : X) (draws : List D) :
    or_ (detc (fun i x => ofOpt (c i x)) n) pick n cap x draws = liftP (Comb.or_ c pick n cap x draws) := by
  simpa only [toOpt_ofOpt] using
    or_agree (fun i x => ofOpt (c i x)) (fun i x => ofOpt_swallowed (c i x)) pick n cap x draws

theorem or_ofOpt_success [BEq X] {c : Nat → X → Option X} {pick : D → Nat} {n cap : Nat} {x : X} {draws : List D}
    {y : X} {t links : Nat} {st : Stats} (h : Comb.or_ c pick n cap x draws = (.success y t links, st)) :
    or_ (detc (fun i x => ofOpt (c i x)) n) pick n cap x draws = (.success y t links, st) := by
  rw [or_ofOpt, h]; rfl

theorem not_ofOpt [BEq X] (c : X → Option X) (rand : D → X → X) (maxiter : Nat) (x : X) (draws : List D) :
    ((not_ (fun _ x => ofOpt (c x)) rand maxiter x draws).1.noT, (not_ (fun _ x => ofOpt (c x)) rand maxiter x draws).2)
      = liftP (Comb.not_ c rand maxiter x draws) := by
  simpa only [toOpt_ofOpt] using
    not_agree (fun x => ofOpt (c x)) (fun x => (ofOpt_swallowed (c x)).1) rand maxiter x draws

theorem not_ofOpt_success [BEq X] {c : X → Option X} {rand : D → X → X} {maxiter : Nat} {x : X} {draws : List D}
    {y : X} {t links : Nat} {st : Stats} (h : Comb.not_ c rand maxiter x draws = (.success y t links, st)) :
    ∃ t', not_ (fun _ x => ofOpt (c x)) rand maxiter x draws = (.success y t' links, st) := by
  have e := not_ofOpt c rand maxiter x draws
  rw [h] at e
  generalize not_ (fun _ x => ofOpt (c x)) rand maxiter x draws = r at e
  obtain ⟨r, st'⟩ := r
  cases r <;> simp only [ResX.noT, liftP, liftRes, Prod.mk.injEq, ResX.success.injEq, reduceCtorEq, false_and] at e
  obtain ⟨⟨rfl, _, rfl⟩, rfl⟩ := e
  exact ⟨_, rfl⟩

/-- clamping to `[lo, hi]` twice is clamping once (the members of the C17 witnesses) -/
theorem clamp_idem {lo hi : Int} (h : lo ≤ hi) (x : Int) :
    max lo (min hi (max lo (min hi x))) = max lo (min hi x) := by
  rw [Int.min_eq_right (Int.max_le.mpr ⟨h, Int.min_le_left _ _⟩), Int.max_eq_right (Int.le_max_left _ _)]

end MysticVerif.CombX
