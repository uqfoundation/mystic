/- the Brent line search (Model/Brent.lean): evaluation log, counters, termination, and - over a linear order, with the
arithmetic left uninterpreted - what `bracket` and Brent's loop guarantee about the values they saw -/
import MysticVerif.Model.Brent
import Mathlib.Tactic.SplitIfs
import Mathlib.Order.Basic
import Mathlib.Order.Lattice

namespace MysticVerif.Brent
open MysticVerif.Solver

variable {R : Type}

/-- every entry of the part `l` of a log is `(alpha, f alpha)` -/
def Faithful (f : R → R) (l : Log R) : Prop := ∀ e ∈ l, e.2 = f e.1

theorem Faithful.append {f : R → R} {l m : Log R} (h : Faithful f l) (h' : Faithful f m) : Faithful f (l ++ m) := by
  intro e he
  rcases List.mem_append.mp he with he | he
  · exact h e he
  · exact h' e he

theorem Faithful.nil (f : R → R) : Faithful f [] := List.forall_mem_nil _

theorem Faithful.cons {f : R → R} {l : Log R} (a : R) (h : Faithful f l) : Faithful f ((a, f a) :: l) :=
  List.forall_mem_cons.mpr ⟨rfl, h⟩

/-- the state after the evaluations `l` with the triple `a, b, c` of (abscissa, value) pairs -/
def Bk.move (s : Bk R) (l : Log R) (a b c : R × R) : Bk R :=
  { xa := a.1, xb := b.1, xc := c.1, fa := a.2, fb := b.2, fc := c.2, funcalls := s.funcalls + l.length, log := s.log ++ l }

/-- the log holds exactly the evaluations made so far: at most `2 * i` after the first three -/
def Counted (f : R → R) (i : Nat) (s : Bk R) : Prop :=
  Faithful f s.log ∧ s.funcalls = s.log.length ∧ 3 ≤ s.funcalls ∧ s.funcalls ≤ 3 + 2 * i

section pass
variable [LT R]

/-- the shapes a pass of the bracket loop can take, whatever the trial abscissa `w` and the new end `y` evaluate to -/
inductive Pass (f : R → R) (s : Bk R) : Step (Bk R) → Prop
  | inner (w : R) (h : f w < s.fc) : Pass f s (.stop (s.move [(w, f w)] (s.xb, s.fb) (w, f w) (s.xc, s.fc)))
  | outer (w : R) (h : s.fb < f w) : Pass f s (.stop (s.move [(w, f w)] (s.xa, s.fa) (s.xb, s.fb) (w, f w)))
  | shift (y : R) : Pass f s (.next (s.move [(y, f y)] (s.xb, s.fb) (s.xc, s.fc) (y, f y)))
  | rejected (w y : R) (h : ¬ f w < s.fc) :
      Pass f s (.next (s.move [(w, f w), (y, f y)] (s.xb, s.fb) (s.xc, s.fc) (y, f y)))
  | jump (w y : R) (h : f w < s.fc) : Pass f s (.next (s.move [(w, f w), (y, f y)] (s.xc, s.fc) (w, f w) (y, f y)))

theorem Pass.counted {f : R → R} {s : Bk R} {st : Step (Bk R)} {i : Nat} (hc : Counted f i s) (h : Pass f s st) :
    match st with
    | .stop s' | .next s' => Counted f (i + 1) s'
    | .raise _ => False := by
  obtain ⟨hF, hL, h3, hU⟩ := hc
  have move : ∀ (l : Log R) (a b c : R × R), Faithful f l → l.length ≤ 2 → Counted f (i + 1) (s.move l a b c) :=
    fun l a b c hl h2 => ⟨hF.append hl, (congrArg (· + l.length) hL).trans List.length_append.symm,
      Nat.le_trans h3 (Nat.le_add_right _ _), (Nat.add_le_add hU h2 : s.funcalls + l.length ≤ 3 + 2 * i + 2)⟩
  cases h with
  | inner | outer | shift => exact move _ _ _ _ (.cons _ (.nil f)) (Nat.le_succ 1)
  | rejected | jump => exact move _ _ _ _ (.cons _ (.cons _ (.nil f))) (Nat.le_refl 2)

end pass

section bracket
variable [Add R] [Sub R] [Mul R] [Div R] [LT R] [DecidableLT R] [LE R] [DecidableLE R]

theorem bracketBody_pass (k : K R) (f : R → R) (s : Bk R) : Pass f s (bracketBody k f s) := by
  unfold bracketBody
  -- one `iteInduction` per `if` of the body, in source order (`split_ifs` on the whole body is much slower to check)
  exact iteInduction
    -- `(w-xc)*(xb-w) > 0`: `fw < fc` | `fw > fb` | neither
    (fun _ => iteInduction (fun h => .inner _ h) fun h => iteInduction (fun h' => .outer _ h') fun _ => .rejected _ _ h)
    -- `(w-wlim)*(wlim-xc) >= 0` | `(w-wlim)*(xc-w) > 0`: `fw < fc` or not | else
    (fun _ => iteInduction (fun _ => .shift _) fun _ =>
      iteInduction (fun _ => iteInduction (fun h => .jump _ _ h) fun _ => .shift _) fun _ => .shift _)

/-- proof rule: `P i` of the state entering pass `i`, `Q` of every state returned -/
theorem bracketLoop_rule (k : K R) (f : R → R) (maxiter : Nat) (P : Nat → Bk R → Prop) (Q : Bk R → Prop)
    (hstop : ∀ i s r, P i s → s.fc < s.fb → i ≤ maxiter → Pass f s (.stop r) → Q r)
    (hnext : ∀ i s s', P i s → s.fc < s.fb → i ≤ maxiter → Pass f s (.next s') → P (i + 1) s')
    (hexit : ∀ i s, P i s → ¬ s.fc < s.fb → Q s)
    (fuel iter : Nat) (s r : Bk R) (hP : P iter s) (h : bracketLoop k f maxiter fuel iter s = .ok r) : Q r := by
  fun_induction bracketLoop k f maxiter fuel iter s with
  | case1 => cases h
  | case2 => cases h
  | case3 fuel iter s hg hm s' heq =>
    cases h; exact hstop iter s r hP hg (Nat.le_of_not_lt hm) (heq ▸ bracketBody_pass k f s)
  | case4 fuel iter s hg hm s' heq ih =>
    exact ih (hnext iter s s' hP hg (Nat.le_of_not_lt hm) (heq ▸ bracketBody_pass k f s)) h
  | case5 => cases h
  | case6 fuel iter s hg => cases h; exact hexit iter _ hP hg

/-- every evaluation of `bracket` is logged once and counted -/
theorem bracket_log (k : K R) (f : R → R) (xa xb : R) (maxiter fuel : Nat) (r : Bk R)
    (h : bracket k f xa xb maxiter fuel = .ok r) :
    Faithful f r.log ∧ r.funcalls = r.log.length ∧ 3 ≤ r.funcalls ∧ r.funcalls ≤ 3 + 2 * (maxiter + 1) := by
  have last : ∀ i s, i ≤ maxiter + 1 → Counted f i s → Counted f (maxiter + 1) s := fun i s h0 ⟨h1, h2, h3, h4⟩ =>
    ⟨h1, h2, h3, Nat.le_trans h4 (Nat.add_le_add_left (Nat.mul_le_mul_left 2 h0) 3)⟩
  exact bracketLoop_rule k f maxiter (fun i s => i ≤ maxiter + 1 ∧ Counted f i s) (Counted f (maxiter + 1))
    (fun i s r hP _ hm hp => last _ _ (Nat.succ_le_succ hm) (hp.counted hP.2))
    (fun i s s' hP _ hm hp => ⟨Nat.succ_le_succ hm, hp.counted hP.2⟩) (fun i s hP _ => last i s hP.1 hP.2) fuel 0 _ r
    ⟨Nat.zero_le _, .cons _ (.cons _ (.cons _ (.nil f))), rfl, Nat.le_refl 3, Nat.le_refl 3⟩ h

/-- `maxiter + 2` units of fuel are never exhausted: pass number `maxiter + 2` raises "Too many iterations" -/
theorem bracketLoop_ne_fuel (k : K R) (f : R → R) (maxiter fuel iter : Nat) (s : Bk R) (lg : Log R)
    (hf : maxiter + 2 ≤ fuel + iter) (hi : iter ≤ maxiter + 1) :
    bracketLoop k f maxiter fuel iter s ≠ .error (.fuel, lg) := by
  fun_induction bracketLoop k f maxiter fuel iter s with
  | case1 => omega
  | case2 => exact nofun
  | case3 => exact nofun
  | case4 fuel iter s hg hm s' heq ih => exact ih (by omega) (by omega)
  | case5 fuel iter s hg hm e heq => exact nomatch heq ▸ bracketBody_pass k f s
  | case6 => exact nofun

theorem getBracketInfo_log (k : K R) (f : R → R) (brack : Brack R) (bmax fuel : Nat) (bk : Bk R)
    (h : getBracketInfo k f brack bmax fuel = .ok bk) : Faithful f bk.log ∧ bk.funcalls = bk.log.length := by
  unfold getBracketInfo at h
  split at h
  · exact (bracket_log k f _ _ bmax fuel bk h).imp_right And.left
  · exact (bracket_log k f _ _ bmax fuel bk h).imp_right And.left
  · rename_i a b c
    simp only at h
    generalize (if c < a then c else a) = xa, (if c < a then a else c) = xc at h
    split_ifs at h
    cases h
    exact ⟨.cons _ (.cons _ (.cons _ (.nil f))), rfl⟩
  · cases h

end bracket

section update
variable [LT R] [DecidableLT R] [LE R] [DecidableLE R] [BEq R]

/- a projection moves inside the `if`s of `update`: all branches agree on the bookkeeping -/

theorem update_log (s : Bs R) (u fu d r : R) : (update s u fu d r).log = s.log ++ [(u, fu)] := by
  simp only [update, apply_ite Bs.log, ite_self]

theorem update_iter (s : Bs R) (u fu d r : R) : (update s u fu d r).iter = s.iter + 1 := by
  simp only [update, apply_ite Bs.iter, ite_self]

theorem update_funcalls (s : Bs R) (u fu d r : R) : (update s u fu d r).funcalls = s.funcalls + 1 := by
  simp only [update, apply_ite Bs.funcalls, ite_self]

/-- `if (fu > fx)`: the best point stays -/
theorem update_keep (s : Bs R) (u fu d r : R) (h : s.fx < fu) :
    (update s u fu d r).x = s.x ∧ (update s u fu d r).fx = s.fx := by
  simp only [update, if_pos h, apply_ite Bs.x, apply_ite Bs.fx, ite_self, and_self]

/-- `else`: the new point becomes the best one (also on a TIE `fu == fx`) -/
theorem update_move (s : Bs R) (u fu d r : R) (h : ¬ s.fx < fu) :
    (update s u fu d r).x = u ∧ (update s u fu d r).fx = fu := by
  unfold update; rw [if_neg h]; exact ⟨rfl, rfl⟩

end update

section brent
variable [Add R] [Sub R] [Mul R] [Div R] [Neg R] [LT R] [DecidableLT R] [LE R] [DecidableLE R] [BEq R]

theorem brentIter_cases (k : K R) (f : R → R) (tol : R) (s : Bs R) :
    match brentIter k f tol s with
    | .stop s' => s' = s
    | .next s' => ∃ u d r, s' = update s u (f u) d r
    | .raise _ => True := by
  unfold brentIter
  simp only      -- inline the `let`s
  split_ifs
  · rfl
  · cases chooseStep k (tol * k.abs s.x + k.mintol) (k.two * (tol * k.abs s.x + k.mintol)) (k.half * (s.a + s.b)) s with
    | none => trivial
    | some dr => exact ⟨_, _, _, rfl⟩

/-- proof rule: at most `n` updates, each at an evaluated abscissa -/
theorem brentLoop_rule (k : K R) (f : R → R) (tol : R) (P : Nat → Bs R → Prop)
    (hstep : ∀ j s u d r, P j s → P (j + 1) (update s u (f u) d r))
    (n j : Nat) (s r : Bs R) (hP : P j s) (h : brentLoop k f tol n s = .ok r) : ∃ i, i ≤ j + n ∧ P i r := by
  fun_induction brentLoop k f tol n s generalizing j with
  | case1 s => cases h; exact ⟨j, Nat.le_refl _, hP⟩
  | case2 n s s' heq =>
    have hc := brentIter_cases k f tol s
    rw [heq] at hc
    cases h; exact ⟨j, Nat.le_add_right _ _, hc ▸ hP⟩
  | case3 n s s' heq ih =>
    have hc := brentIter_cases k f tol s
    rw [heq] at hc
    obtain ⟨u, d, rr, rfl⟩ := hc
    obtain ⟨i, hi, hPi⟩ := ih (j + 1) (hstep j s u d rr hP) h
    exact ⟨i, Nat.add_right_comm j 1 n ▸ hi, hPi⟩
  | case4 => cases h

theorem optimize_ok {k : K R} {f : R → R} {tol : R} {maxiter : Nat} {bk : Bk R} {o : Out R}
    (h : optimize k f tol maxiter bk = .ok o) :
    ∃ s, brentLoop k f tol maxiter (brentInit k f bk) = .ok s ∧
      o = { xmin := s.x, fval := s.fx, iter := s.iter, funcalls := s.funcalls, nbracket := bk.funcalls, log := s.log } := by
  unfold optimize at h
  split at h
  · rename_i s hs; cases h; exact ⟨s, hs, rfl⟩
  · cases h

theorem optimize_log (k : K R) (f : R → R) (tol : R) (maxiter : Nat) (bk : Bk R) (o : Out R)
    (h : optimize k f tol maxiter bk = .ok o) :
    ∃ l, o.log = bk.log ++ l ∧ Faithful f l ∧ o.funcalls = l.length ∧ o.funcalls = o.iter + 1 ∧ o.iter ≤ maxiter ∧
      o.nbracket = bk.funcalls := by
  obtain ⟨s, hs, rfl⟩ := optimize_ok h
  obtain ⟨i, hi, l, h1, h2, h3, h4, h5⟩ := brentLoop_rule k f tol
    (fun j s => ∃ l, s.log = bk.log ++ l ∧ Faithful f l ∧ s.funcalls = l.length ∧ s.funcalls = s.iter + 1 ∧ s.iter = j)
    (by
      rintro j s u d r ⟨l, h1, h2, h3, h4, h5⟩
      refine ⟨l ++ [(u, f u)], ?_, h2.append (.cons _ (.nil f)), ?_, ?_, ?_⟩
      · rw [update_log, h1, List.append_assoc]
      · rw [update_funcalls, h3, List.length_append]; rfl
      · rw [update_funcalls, update_iter, h4]
      · rw [update_iter, h5])
    maxiter 0 _ s ⟨[(bk.xb, f bk.xb)], rfl, .cons _ (.nil f), rfl, rfl, rfl⟩ hs
  exact ⟨l, h1, h2, h3, h4, h5 ▸ (Nat.zero_add maxiter ▸ hi), rfl⟩

theorem brent_ok (k : K R) (f : R → R) (brack : Brack R) (tol : R) (maxiter bmax fuel : Nat) (o : Out R)
    (h : brent k f brack tol maxiter bmax fuel = .ok o) :
    ∃ bk, getBracketInfo k f brack bmax fuel = .ok bk ∧ optimize k f tol maxiter bk = .ok o := by
  unfold brent at h
  split at h
  · rename_i bk hb; exact ⟨bk, hb, h⟩
  · cases h

end brent

/-! ### the adapters `lsRec` and `lsOut` (Model/Brent.lean): `splitFirst`, `along` -/

theorem splitFirst_some {α : Type} (q : α → Bool) (l : List α) (r : List α × α × List α) (h : splitFirst q l = some r) :
    l = r.1 ++ r.2.1 :: r.2.2 ∧ q r.2.1 = true ∧ ∀ a ∈ r.1, q a = false := by
  fun_induction splitFirst q l generalizing r with
  | case1 => cases h
  | case2 a l hq => cases h; exact ⟨rfl, hq, List.forall_mem_nil _⟩
  | case3 a l hq r' hr' ih =>
    cases h
    obtain ⟨h1, h2, h3⟩ := ih r' hr'
    exact ⟨congrArg (a :: ·) h1, h2, List.forall_mem_cons.mpr ⟨Bool.eq_false_iff.mpr hq, h3⟩⟩
  | case4 => cases h

theorem splitFirst_isSome {α : Type} (q : α → Bool) (l : List α) (h : ∃ a ∈ l, q a = true) :
    ∃ r, splitFirst q l = some r := by
  fun_induction splitFirst q l with
  | case1 => obtain ⟨a, ha, _⟩ := h; cases ha
  | case2 => exact ⟨_, rfl⟩
  | case3 => exact ⟨_, rfl⟩
  | case4 a l hqa hnone ih =>
    obtain ⟨b, hb, hq⟩ := h
    rcases List.mem_cons.mp hb with rfl | hb
    · exact absurd hq hqa
    · obtain ⟨r, hr⟩ := ih ⟨b, hb, hq⟩
      rw [hnone] at hr; cases hr

/-- `p + 0*xi = p` wherever `0*a = 0` and `a + 0 = a` (any ring; NOT `Float` with infinite / NaN directions) -/
theorem along_zero [Add R] [Mul R] (zero : R) (hmul : ∀ a : R, zero * a = zero) (hadd : ∀ a : R, a + zero = a) :
    ∀ (p xi : Pt R), p.length ≤ xi.length → along p xi zero = p := by
  intro p
  induction p with
  | nil => intro xi _; simp [along, vadd, vscale]
  | cons a p ih =>
    intro xi hl
    cases xi with
    | nil => simp at hl
    | cons b xi =>
      have := ih xi (by simpa using hl)
      simp only [along, vadd, vscale, List.map_cons, List.zipWith_cons_cons] at this ⊢
      rw [this, hmul, hadd]

section order
variable [LinearOrder R]

/-- the loop invariant of `bracket`: `m` is any bound the middle value started below -/
structure BkInv (f : R → R) (m : R) (s : Bk R) : Prop where
  faith : Faithful f s.log
  memA : (s.xa, s.fa) ∈ s.log
  memB : (s.xb, s.fb) ∈ s.log
  memC : (s.xc, s.fc) ∈ s.log
  ba : s.fb ≤ s.fa
  low : ∀ e ∈ s.log, s.fb ≤ e.2 ∨ s.fc ≤ e.2
  start : s.fb ≤ m

/-- what a normal return of `bracket` guarantees -/
structure BkSpec (f : R → R) (m : R) (r : Bk R) : Prop where
  faith : Faithful f r.log
  memA : (r.xa, r.fa) ∈ r.log
  memB : (r.xb, r.fb) ∈ r.log
  memC : (r.xc, r.fc) ∈ r.log
  ba : r.fb ≤ r.fa
  bc : r.fb ≤ r.fc
  start : r.fb ≤ m
  /-- `fb` is the least value evaluated, EXCEPT after the `elif (fw > fb): xc = w; fc = fw; return` exit, which drops the
  strictly lower point `(xc, fc)`; then `fb < fc` strictly -/
  least : (∃ e ∈ r.log, e.2 < r.fb) → r.fb < r.fc

theorem BkInv.fc_le {f : R → R} {m : R} {s : Bk R} (hi : BkInv f m s) (hg : s.fc < s.fb) : ∀ e ∈ s.log, s.fc ≤ e.2 :=
  fun e he => (hi.low e he).elim (le_trans (le_of_lt hg)) id

theorem Pass.stop_spec {f : R → R} {m : R} {s r : Bk R} (hi : BkInv f m s) (hg : s.fc < s.fb)
    (hp : Pass f s (.stop r)) : BkSpec f m r := by
  cases hp with
  | inner w h =>
    -- fw < fc : (xb, w, xc)
    have hall : ∀ e ∈ s.log ++ [(w, f w)], f w ≤ e.2 := List.forall_mem_append.mpr
      ⟨fun e he => le_trans (le_of_lt h) (hi.fc_le hg e he), List.forall_mem_singleton.mpr (le_refl _)⟩
    exact ⟨hi.faith.append (.cons _ (.nil f)), List.mem_append_left _ hi.memB,
      List.mem_append_right _ (List.mem_singleton_self _), List.mem_append_left _ hi.memC, le_of_lt (lt_trans h hg),
      le_of_lt h, le_trans (le_of_lt (lt_trans h hg)) hi.start, fun ⟨e, he, hlt⟩ => absurd hlt (not_lt.mpr (hall e he))⟩
  | outer w h =>
    -- fw > fb : (xa, xb, w), the lower point (xc, fc) is dropped
    exact ⟨hi.faith.append (.cons _ (.nil f)), List.mem_append_left _ hi.memA, List.mem_append_left _ hi.memB,
      List.mem_append_right _ (List.mem_singleton_self _), hi.ba, le_of_lt h, hi.start, fun _ => h⟩

theorem Pass.next_inv {f : R → R} {m : R} {s s' : Bk R} (hi : BkInv f m s) (hg : s.fc < s.fb)
    (hp : Pass f s (.next s')) : BkInv f m s' := by
  have hold : ∀ (y : R), ∀ e ∈ s.log, s.fc ≤ e.2 ∨ y ≤ e.2 := fun _ e he => Or.inl (hi.fc_le hg e he)
  cases hp with
  | shift y =>
    exact ⟨hi.faith.append (.cons _ (.nil f)), List.mem_append_left _ hi.memB, List.mem_append_left _ hi.memC,
      List.mem_append_right _ (List.mem_singleton_self _), le_of_lt hg,
      List.forall_mem_append.mpr ⟨hold _, List.forall_mem_singleton.mpr (Or.inr (le_refl _))⟩,
      le_trans (le_of_lt hg) hi.start⟩
  | rejected w y h =>
    -- fc <= fw <= fb : golden step, shift
    exact ⟨hi.faith.append (.cons _ (.cons _ (.nil f))), List.mem_append_left _ hi.memB, List.mem_append_left _ hi.memC,
      List.mem_append_right _ (List.mem_cons_of_mem _ (List.mem_singleton_self _)), le_of_lt hg,
      List.forall_mem_append.mpr ⟨hold _, List.forall_mem_cons.mpr
        ⟨Or.inl (not_lt.mp h), List.forall_mem_singleton.mpr (Or.inr (le_refl _))⟩⟩,
      le_trans (le_of_lt hg) hi.start⟩
  | jump w y h =>
    -- beyond xc, fw < fc: two evaluations
    exact ⟨hi.faith.append (.cons _ (.cons _ (.nil f))), List.mem_append_left _ hi.memC,
      List.mem_append_right _ List.mem_cons_self,
      List.mem_append_right _ (List.mem_cons_of_mem _ (List.mem_singleton_self _)), le_of_lt h,
      List.forall_mem_append.mpr ⟨fun e he => Or.inl (le_trans (le_of_lt h) (hi.fc_le hg e he)), List.forall_mem_cons.mpr
        ⟨Or.inl (le_refl _), List.forall_mem_singleton.mpr (Or.inr (le_refl _))⟩⟩,
      le_trans (le_of_lt (lt_trans h hg)) hi.start⟩

theorem BkInv.exit_spec {f : R → R} {m : R} {s : Bk R} (hi : BkInv f m s) (hg : ¬ s.fc < s.fb) : BkSpec f m s :=
  ⟨hi.faith, hi.memA, hi.memB, hi.memC, hi.ba, not_lt.mp hg, hi.start, fun ⟨e, he, hlt⟩ =>
    absurd hlt (not_lt.mpr ((hi.low e he).elim id (le_trans (not_lt.mp hg))))⟩

/-- the invariant of Brent's loop: its own evaluations are `l1 ++ [(x, fx)] ++ l2`, nothing in `l1` is lower than `fx`
and everything in `l2` is strictly higher: `x` is the LAST lowest point Brent itself evaluated -/
structure BsInv (f : R → R) (base : Log R) (m : R) (log : Log R) (x fx : R) : Prop where
  split : ∃ l1 l2, log = base ++ (l1 ++ (x, fx) :: l2) ∧ (∀ e ∈ l1, fx ≤ e.2) ∧ (∀ e ∈ l2, fx < e.2)
  val : fx = f x
  le0 : fx ≤ m

theorem update_inv [BEq R] (f : R → R) (base : Log R) (m : R) (s : Bs R) (u d r : R) (hi : BsInv f base m s.log s.x s.fx) :
    BsInv f base m (update s u (f u) d r).log (update s u (f u) d r).x (update s u (f u) d r).fx := by
  obtain ⟨l1, l2, hl, h1, h2⟩ := hi.split
  rw [update_log, hl]
  by_cases h : s.fx < f u
  · obtain ⟨hx, hfx⟩ := update_keep s u (f u) d r h
    rw [hx, hfx]
    exact ⟨⟨l1, l2 ++ [(u, f u)], by rw [List.append_assoc, List.append_assoc, List.cons_append], h1,
      List.forall_mem_append.mpr ⟨h2, List.forall_mem_singleton.mpr h⟩⟩, hi.val, hi.le0⟩
  · have hle : f u ≤ s.fx := not_lt.mp h
    obtain ⟨hx, hfx⟩ := update_move s u (f u) d r h
    rw [hx, hfx]
    exact ⟨⟨l1 ++ (s.x, s.fx) :: l2, [], List.append_assoc .., List.forall_mem_append.mpr
      ⟨fun e he => le_trans hle (h1 e he), List.forall_mem_cons.mpr ⟨hle, fun e he => le_trans hle (le_of_lt (h2 e he))⟩⟩,
      List.forall_mem_nil _⟩, rfl, le_trans hle hi.le0⟩

theorem bracketInit_inv [Add R] [Sub R] [Mul R] (k : K R) (f : R → R) (xa xb : R) :
    BkInv f (min (f xa) (f xb)) (bracketInit k f xa xb []) := by
  unfold bracketInit
  simp only [List.nil_append]
  have hc : ∀ (xc : R), (xc, f xc) ∈ [(xa, f xa), (xb, f xb), (xc, f xc)] :=
    fun _ => List.mem_cons_of_mem _ (List.mem_cons_of_mem _ (List.mem_singleton_self _))
  by_cases h : f xa < f xb
  · simp only [if_pos h]
    exact ⟨.cons _ (.cons _ (.cons _ (.nil f))), List.mem_cons_of_mem _ List.mem_cons_self, List.mem_cons_self, hc _,
      le_of_lt h, List.forall_mem_cons.mpr ⟨Or.inl (le_refl _), List.forall_mem_cons.mpr
        ⟨Or.inl (le_of_lt h), List.forall_mem_singleton.mpr (Or.inr (le_refl _))⟩⟩, le_min (le_refl _) (le_of_lt h)⟩
  · simp only [if_neg h]
    exact ⟨.cons _ (.cons _ (.cons _ (.nil f))), List.mem_cons_self, List.mem_cons_of_mem _ List.mem_cons_self, hc _,
      not_lt.mp h, List.forall_mem_cons.mpr ⟨Or.inl (not_lt.mp h), List.forall_mem_cons.mpr
        ⟨Or.inl (le_refl _), List.forall_mem_singleton.mpr (Or.inr (le_refl _))⟩⟩, le_min (not_lt.mp h) (le_refl _)⟩

/-- `bracket` returns a downhill triple whose middle value is below both start values -/
theorem bracket_spec [Add R] [Sub R] [Mul R] [Div R] (k : K R) (f : R → R) (xa xb : R) (maxiter fuel : Nat) (r : Bk R)
    (h : bracket k f xa xb maxiter fuel = .ok r) : BkSpec f (min (f xa) (f xb)) r :=
  bracketLoop_rule k f maxiter (fun _ s => BkInv f (min (f xa) (f xb)) s) (BkSpec f (min (f xa) (f xb)))
    (fun _ _ _ hi hg _ hp => hp.stop_spec hi hg) (fun _ _ _ hi hg _ hp => hp.next_inv hi hg)
    (fun _ _ hi hg => hi.exit_spec hg) fuel 0 _ r (bracketInit_inv k f xa xb) h

/-- `Brent.optimize` from any bracket: the result is the last lowest of Brent's own evaluations, which start with a
re-evaluation of `xb` -/
theorem optimize_spec [Add R] [Sub R] [Mul R] [Div R] [Neg R] [BEq R] (k : K R) (f : R → R) (tol : R) (maxiter : Nat) (bk : Bk R) (o : Out R)
    (h : optimize k f tol maxiter bk = .ok o) :
    (∃ l1 l2, o.log = bk.log ++ (l1 ++ (o.xmin, o.fval) :: l2) ∧ (∀ e ∈ l1, o.fval ≤ e.2) ∧ (∀ e ∈ l2, o.fval < e.2) ∧
        Faithful f (l1 ++ (o.xmin, o.fval) :: l2) ∧ o.funcalls = (l1 ++ (o.xmin, o.fval) :: l2).length) ∧
      o.fval = f o.xmin ∧ o.fval ≤ f bk.xb ∧ o.funcalls = o.iter + 1 ∧ o.iter ≤ maxiter ∧ o.nbracket = bk.funcalls := by
  obtain ⟨l, g1, g2, g3, g4, g5, g6⟩ := optimize_log k f tol maxiter bk o h
  obtain ⟨s, hs, rfl⟩ := optimize_ok h
  obtain ⟨_, _, hi⟩ := brentLoop_rule k f tol (fun _ s => BsInv f bk.log (f bk.xb) s.log s.x s.fx)
    (fun _ s u d r hi => update_inv f bk.log (f bk.xb) s u d r hi) maxiter 0 _ s
    ⟨⟨[], [], rfl, List.forall_mem_nil _, List.forall_mem_nil _⟩, rfl, le_refl _⟩ hs
  obtain ⟨l1, l2, hl, h1, h2⟩ := hi.split
  have hown : l1 ++ (s.x, s.fx) :: l2 = l := List.append_cancel_left (hl.symm.trans g1)
  exact ⟨⟨l1, l2, hl, h1, h2, hown ▸ g2, hown ▸ g3⟩, hi.val, hi.le0, g4, g5, g6⟩

end order

end MysticVerif.Brent
