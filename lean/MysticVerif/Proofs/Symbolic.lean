/-
Helper lemmas for C12 (Model/Symbolic.lean), grouped by what they need of the scalar: lists of cases; comparators
(`Cmp.*`); linear forms (`dot`, `Form.eval_*`) and the certificate (`combOK`); rows; then, over a linearly ordered field,
sign cases, canonical lines (`normLine`, `canonSys`), `dnfEquiv`, `expand*`, the first pass of `merge`.
-/
import MysticVerif.Model.Symbolic
import Mathlib.Tactic.Linarith
import Mathlib.Tactic.Ring
import Mathlib.Algebra.Order.Field.Basic

namespace MysticVerif.Sym

-- `Form.eval_const`, `TLine.holds` are fixed with unused binders
set_option linter.unusedSectionVars false

theorem subsetL_mem {α : Type} [DecidableEq α] {a b : List α} (h : subsetL a b = true) :
    ∀ c ∈ a, c ∈ b :=
  fun c hc => of_decide_eq_true (List.all_eq_true.mp h c hc)

theorem sameSet_mem {α : Type} [DecidableEq α] {a b : List α} (h : sameSet a b = true) :
    ∀ c, c ∈ a ↔ c ∈ b := by
  simp only [sameSet, Bool.and_eq_true] at h
  exact fun c => ⟨subsetL_mem h.1 c, subsetL_mem h.2 c⟩

theorem exists_mem_flatMap_append {α β : Type} (P : α → Prop) (A : List β) (f : β → List α)
    (g : β → List (List α)) :
    (∃ t ∈ A.flatMap fun p => (g p).map fun s => f p ++ s, ∀ l ∈ t, P l) ↔
      ∃ p ∈ A, (∀ l ∈ f p, P l) ∧ ∃ s ∈ g p, ∀ l ∈ s, P l := by
  simp only [List.mem_flatMap, List.mem_map]
  constructor
  · rintro ⟨_, ⟨p, hp, s, hs, rfl⟩, h⟩
    rw [List.forall_mem_append] at h
    exact ⟨p, hp, h.1, s, hs, h.2⟩
  · rintro ⟨p, hp, hf, s, hs, hg⟩
    exact ⟨_, ⟨p, hp, s, hs, rfl⟩, List.forall_mem_append.mpr ⟨hf, hg⟩⟩

/-- `itertools.product` of two lists of cases -/
theorem exists_mem_product {α : Type} (P : α → Prop) (A S : List (List α)) :
    (∃ t ∈ A.flatMap fun a => S.map fun s => a ++ s, ∀ l ∈ t, P l) ↔
      (∃ a ∈ A, ∀ l ∈ a, P l) ∧ ∃ s ∈ S, ∀ l ∈ s, P l :=
  (exists_mem_flatMap_append P A id fun _ => S).trans
    ⟨fun ⟨a, ha, h1, h2⟩ => ⟨⟨a, ha, h1⟩, h2⟩, fun ⟨⟨a, ha, h1⟩, h2⟩ => ⟨a, ha, h1, h2⟩⟩

theorem forall_bounds_cons {α : Type} (P : Nat → α → Prop) (k : Nat) (o : Option α) (rest : List (Option α)) :
    (∀ j v, (o :: rest)[j]? = some (some v) → P (k + j) v) ↔
      (∀ v, o = some v → P k v) ∧ ∀ j v, rest[j]? = some (some v) → P (k + 1 + j) v := by
  constructor
  · intro h
    exact ⟨fun v hv => h 0 v (congrArg some hv), fun j v hv => Nat.add_right_comm k 1 j ▸ h (j + 1) v hv⟩
  · rintro ⟨h0, hr⟩ (_ | j) v hv
    · exact h0 v (Option.some.inj hv)
    · exact Nat.add_right_comm k 1 j ▸ hr j v hv

section order
variable {K : Type} [LinearOrder K]

theorem Cmp.test_iff (c : Cmp) (a b : K) : c.test a b = true ↔ c.holds a b := by
  cases c
  case ne => exact (Bool.not_eq_true' _).to_iff.trans decide_eq_false_iff_not
  all_goals exact decide_eq_true_iff

/-- `flipB` = `_flip(cmp, bounds=True)`, the complement -/
theorem Cmp.flip_holds_of_ne (c : Cmp) {a b : K} (h : a ≠ b) : c.flip.holds a b ↔ c.flipB.holds a b := by
  cases c
  case lt => exact (Ne.le_iff_lt h.symm).symm
  case le => exact Ne.le_iff_lt h.symm
  case gt => exact (Ne.le_iff_lt h).symm
  case ge => exact Ne.le_iff_lt h
  all_goals exact Iff.rfl

theorem Cmp.weak_pair_iff {c : Cmp} (hw : c.isWeak = true) (a b : K) : c.holds a b ∧ c.flip.holds a b ↔ a = b := by
  cases c
  case le => exact le_antisymm_iff.symm
  case ge => exact and_comm.trans le_antisymm_iff.symm
  all_goals cases hw

/-- a comparator only looks at how its two sides compare -/
theorem Cmp.holds_congr (c : Cmp) {a b a' b' : K} (h : cmp a b = cmp a' b') : c.holds a b ↔ c.holds a' b' := by
  cases c
  case lt => exact lt_iff_lt_of_cmp_eq_cmp h
  case le => exact le_iff_le_of_cmp_eq_cmp h
  case gt => exact lt_iff_lt_of_cmp_eq_cmp (cmp_eq_cmp_symm.mp h)
  case ge => exact le_iff_le_of_cmp_eq_cmp (cmp_eq_cmp_symm.mp h)
  case eq => exact eq_iff_eq_of_cmp_eq_cmp h
  case ne => exact not_congr (eq_iff_eq_of_cmp_eq_cmp h)

theorem Cmp.flip_flip (c : Cmp) : c.flip.flip = c := by cases c <;> rfl

theorem Cmp.flip_holds (c : Cmp) (a b : K) : c.flip.holds a b ↔ c.holds b a := by
  cases c
  case eq => exact eq_comm
  case ne => exact ne_comm
  all_goals exact Iff.rfl

end order

section field
variable {K : Type} [Field K]

theorem dot_map_neg (l : List K) (x : Nat → K) (i : Nat) : dot (l.map fun y => -y) x i = - dot l x i := by
  induction l generalizing i with
  | nil => simp [dot]
  | cons a as ih => simp only [List.map, dot, ih, neg_add, neg_mul]

theorem dot_subL (a b : List K) (x : Nat → K) (i : Nat) : dot (subL a b) x i = dot a x i - dot b x i := by
  induction a generalizing b i with
  | nil => simp [subL, dot, dot_map_neg]
  | cons u us ih =>
    cases b with
    | nil => simp [subL, dot]
    | cons v vs => simp only [subL, dot, ih]; ring

theorem dot_addL (a b : List K) (x : Nat → K) (i : Nat) : dot (addL a b) x i = dot a x i + dot b x i := by
  induction a generalizing b i with
  | nil => simp [addL, dot]
  | cons u us ih =>
    cases b with
    | nil => simp [addL, dot]
    | cons v vs => simp only [addL, dot, ih]; ring

theorem dot_map_mul (a : K) (l : List K) (x : Nat → K) (i : Nat) :
    dot (l.map fun t => a * t) x i = a * dot l x i := by
  induction l generalizing i with
  | nil => simp [dot]
  | cons u us ih => simp only [List.map, dot, ih, mul_add, mul_assoc]

theorem dot_map_div (a : K) (l : List K) (x : Nat → K) (i : Nat) :
    dot (l.map fun t => t / a) x i = dot l x i / a := by
  rw [show (fun t : K => t / a) = fun t => a⁻¹ * t from funext fun t => div_eq_inv_mul t a, dot_map_mul,
    div_eq_inv_mul]

theorem dot_single (a : K) (i k : Nat) (x : Nat → K) : dot (List.replicate i (0 : K) ++ [a]) x k = a * x (k + i) := by
  induction i generalizing k with
  | zero => simp [dot]
  | succ i ih =>
    simp only [List.replicate_succ, List.cons_append, dot, ih, zero_mul, zero_add, Nat.add_assoc, Nat.add_comm 1]

theorem Form.eval_sub (f g : Form K) (x : Nat → K) : (f.sub g).eval x = f.eval x - g.eval x := by
  simp only [Form.eval, Form.sub, dot_subL]; ring

theorem Form.eval_add (f g : Form K) (x : Nat → K) : (f.add g).eval x = f.eval x + g.eval x := by
  simp only [Form.eval, Form.add, dot_addL]; ring

theorem Form.eval_smul (a : K) (f : Form K) (x : Nat → K) : (f.smul a).eval x = a * f.eval x := by
  simp only [Form.eval, Form.smul, dot_map_mul]; exact (mul_add _ _ _).symm

theorem Form.eval_zero (x : Nat → K) : (Form.zero : Form K).eval x = 0 := by
  simp [Form.eval, Form.zero, dot]

theorem unitForm_eval (i : Nat) (x : Nat → K) : (unitForm i : Form K).eval x = x i := by
  simp only [unitForm, Form.eval, dot_single, one_mul, Nat.zero_add, add_zero]

theorem lincomb_zero (row : List K) (fs : List (Form K)) (x : Nat → K) (h : ∀ f ∈ fs, f.eval x = 0) :
    (lincomb row fs).eval x = 0 := by
  induction row generalizing fs with
  | nil => simp [lincomb, Form.eval_zero]
  | cons a as ih =>
    cases fs with
    | nil => simp [lincomb, Form.eval_zero]
    | cons f fs =>
      rw [List.forall_mem_cons] at h
      simp only [lincomb, Form.eval_add, Form.eval_smul, h.1, ih fs h.2, mul_zero, add_zero]

end field

section strip
variable {K : Type} [Field K] [DecidableEq K]

theorem dot_stripZ (l : List K) (x : Nat → K) (i : Nat) : dot (stripZ l) x i = dot l x i := by
  induction l generalizing i with
  | nil => rfl
  | cons a as ih =>
    rw [dot, ← ih, stripZ]
    split
    · rename_i h
      split
      · rename_i ha; rw [ha, h, dot, zero_mul, zero_add]; rfl
      · rw [h]; rfl
    · rename_i t ts h; rw [h, dot]

theorem lead_none (l : List K) (h : lead l = none) (x : Nat → K) (i : Nat) : dot l x i = 0 := by
  induction l generalizing i with
  | nil => simp [dot]
  | cons a as ih =>
    simp only [lead] at h
    split at h
    · rename_i ha; simp [dot, ha, ih h]
    · simp at h

theorem lead_some (l : List K) (a : K) (h : lead l = some a) : a ≠ 0 := by
  induction l with
  | nil => simp [lead] at h
  | cons u us ih =>
    simp only [lead] at h
    split at h
    · exact ih h
    · rename_i hu; simp only [Option.some.injEq] at h; rw [← h]; exact hu

theorem formEq_eval {f g : Form K} (h : formEq f g = true) (x : Nat → K) : f.eval x = g.eval x := by
  simp only [formEq, Bool.and_eq_true, decide_eq_true_eq] at h
  simp only [Form.eval, ← dot_stripZ f.co, ← dot_stripZ g.co, h.1, h.2]

theorem combOK_sound (rows : List (List K)) (fs gs : List (Form K)) (h : combOK rows fs gs = true)
    (x : Nat → K) (hz : ∀ f ∈ fs, f.eval x = 0) : ∀ g ∈ gs, g.eval x = 0 := by
  induction rows generalizing gs with
  | nil =>
    cases gs with
    | nil => exact fun _ hg => nomatch hg
    | cons g gs => cases h
  | cons row rows ih =>
    cases gs with
    | nil => exact fun _ hg => nomatch hg
    | cons g gs =>
      simp only [combOK, Bool.and_eq_true] at h
      rw [List.forall_mem_cons, ← formEq_eval h.1 x]
      exact ⟨lincomb_zero row fs x hz, ih gs h.2⟩

end strip

section fieldOrder
variable {K : Type} [Field K] [LinearOrder K]

theorem Cmp.div_iff_of_eq_or_ne (c : Cmp) (hc : c = .eq ∨ c = .ne) (p q r : K) (hq : q ≠ 0) :
    c.holds (p / q) r ↔ c.holds p (r * q) := by
  rcases hc with rfl | rfl
  · exact div_eq_iff hq
  · exact not_congr (div_eq_iff hq)

theorem splitEq_sound (l : CLine K) (x : Nat → K) : (∀ c ∈ splitEq l, c.sat x) ↔ l.sat x := by
  unfold splitEq
  split
  · rename_i h
    rw [List.forall_mem_cons, List.forall_mem_singleton, CLine.sat, CLine.sat, CLine.sat, h]
    exact Cmp.weak_pair_iff (c := .ge) rfl _ _
  · exact List.forall_mem_singleton

theorem contra_sound {c1 c2 : Cmp} (h : contra c1 c2 = true) (v : K) : ¬ (c1.holds v 0 ∧ c2.holds v 0) := by
  rintro ⟨h1, h2⟩
  -- left: lt/gt, lt/ge, le/gt, gt/lt, gt/le, ge/lt
  cases c1 <;> cases c2 <;> try cases h
  · exact lt_asymm h1 h2
  · exact not_le_of_gt h1 h2
  · exact not_le_of_gt h2 h1
  · exact lt_asymm h1 h2
  · exact not_le_of_gt h1 h2
  · exact not_le_of_gt h2 h1

theorem constLine_sat (f : Form K) (c : Cmp) (v : K) (x : Nat → K) :
    (⟨f, c, Form.const v⟩ : Line K).sat x ↔ c.holds (f.eval x) v := by
  simp only [Line.sat, Form.eval, Form.const, dot, zero_add]

theorem eqRows_sat (A : List (List K)) (b : List K) (x : Nat → K) :
    (∀ ln ∈ eqRows A b, ln.sat x) ↔ ∀ p ∈ A.zip b, dot p.1 x 0 = p.2 := by
  induction A generalizing b with
  | nil => exact iff_of_true (fun _ h => nomatch h) (fun _ h => nomatch h)
  | cons row rows ih =>
    cases b with
    | nil => exact iff_of_true (fun _ h => nomatch h) (fun _ h => nomatch h)
    | cons v vs =>
      rw [eqRows, List.zip_cons_cons, List.forall_mem_cons, List.forall_mem_cons, ih vs, constLine_sat,
        Form.eval, add_zero]
      exact Iff.rfl

theorem leRows_sat (G : List (List K)) (h : List K) (x : Nat → K) :
    (∀ ln ∈ leRows G h, ln.sat x) ↔ ∀ p ∈ G.zip h, dot p.1 x 0 ≤ p.2 := by
  induction G generalizing h with
  | nil => exact iff_of_true (fun _ h => nomatch h) (fun _ h => nomatch h)
  | cons row rows ih =>
    cases h with
    | nil => exact iff_of_true (fun _ h => nomatch h) (fun _ h => nomatch h)
    | cons v vs =>
      rw [leRows, List.zip_cons_cons, List.forall_mem_cons, List.forall_mem_cons, ih vs, constLine_sat,
        Form.eval, add_zero]
      exact Iff.rfl

theorem loRows_sat (k : Nat) (lo : List (Option K)) (x : Nat → K) :
    (∀ ln ∈ loRows k lo, ln.sat x) ↔ ∀ j v, lo[j]? = some (some v) → v ≤ x (k + j) := by
  fun_induction loRows k lo with
  | case1 k => simp only [List.not_mem_nil, false_imp_iff, implies_true, List.getElem?_nil, reduceCtorEq]
  | case2 k rest ih =>
    rw [forall_bounds_cons (fun i v => v ≤ x i), ← ih]
    exact (and_iff_right fun _ h => nomatch h).symm
  | case3 k w rest ih =>
    rw [forall_bounds_cons (fun i v => v ≤ x i), ← ih]
    simp only [List.forall_mem_cons, constLine_sat, unitForm_eval, Option.some.injEq, forall_eq', Cmp.holds]

theorem hiRows_sat (k : Nat) (hi : List (Option K)) (x : Nat → K) :
    (∀ ln ∈ hiRows k hi, ln.sat x) ↔ ∀ j v, hi[j]? = some (some v) → x (k + j) ≤ v := by
  fun_induction hiRows k hi with
  | case1 k => simp only [List.not_mem_nil, false_imp_iff, implies_true, List.getElem?_nil, reduceCtorEq]
  | case2 k rest ih =>
    rw [forall_bounds_cons (fun i v => x i ≤ v), ← ih]
    exact (and_iff_right fun _ h => nomatch h).symm
  | case3 k w rest ih =>
    rw [forall_bounds_cons (fun i v => x i ≤ v), ← ih]
    simp only [List.forall_mem_cons, constLine_sat, unitForm_eval, Option.some.injEq, forall_eq', Cmp.holds]

end fieldOrder

section orderedField
variable {K : Type} [Field K] [LinearOrder K] [IsStrictOrderedRing K]

theorem Form.eval_const (v : K) (x : Nat → K) : (Form.const v).eval x = v := by
  simp [Form.eval, Form.const, dot]

theorem Cmp.holds_sub (c : Cmp) (a b : K) : c.holds a b ↔ c.holds (a - b) 0 :=
  c.holds_congr (cmp_sub_zero a b).symm

theorem Cmp.holds_mul_pos (c : Cmp) {k : K} (hk : 0 < k) (a b : K) : c.holds a b ↔ c.holds (k * a) (k * b) :=
  c.holds_congr (cmp_mul_pos_left hk a b).symm

theorem Cmp.holds_mul_neg (c : Cmp) {k : K} (hk : k < 0) (a b : K) : c.holds a b ↔ c.flip.holds (k * a) (k * b) :=
  (c.holds_congr (cmp_mul_neg_left hk b a).symm).trans (c.flip_holds _ _).symm

theorem Cmp.div_pos_iff (c : Cmp) (p r : K) {q : K} (h : 0 < q) : c.holds (p / q) r ↔ c.holds p (r * q) := by
  rw [c.holds_mul_pos h, mul_div_cancel₀ p h.ne', mul_comm]

theorem Cmp.div_neg_iff (c : Cmp) (p r : K) {q : K} (h : q < 0) : c.holds (p / q) r ↔ c.flip.holds p (r * q) := by
  rw [c.holds_mul_neg h, mul_div_cancel₀ p h.ne, mul_comm]

theorem Cmp.holds_div (c : Cmp) (v : K) {k : K} (hk : k ≠ 0) :
    c.holds v 0 ↔ (if 0 < k then c else c.flip).holds (v / k) 0 := by
  rcases hk.lt_or_gt with h | h
  · rw [if_neg h.not_gt, c.flip.div_neg_iff v 0 h, flip_flip, zero_mul]
  · rw [if_pos h, c.div_pos_iff v 0 h, zero_mul]

/-- the right side already says that the divisor is not zero -/
theorem Cmp.signcase_iff (c : Cmp) (p q r : K) :
    q ≠ 0 ∧ c.holds (p / q) r ↔ (0 < q ∧ c.holds p (r * q)) ∨ (q < 0 ∧ c.flip.holds p (r * q)) := by
  constructor
  · rintro ⟨hq, h⟩
    exact hq.lt_or_gt.symm.imp (fun hq => ⟨hq, (c.div_pos_iff p r hq).mp h⟩)
      (fun hq => ⟨hq, (c.div_neg_iff p r hq).mp h⟩)
  · rintro (⟨hq, h⟩ | ⟨hq, h⟩)
    · exact ⟨hq.ne', (c.div_pos_iff p r hq).mpr h⟩
    · exact ⟨hq.ne, (c.div_neg_iff p r hq).mpr h⟩

theorem Cmp.signcase_mul_iff (c : Cmp) (p q1 q2 r : K) :
    q1 * q2 ≠ 0 ∧ c.holds (p / (q1 * q2)) r ↔
      (0 < q1 ∧ 0 < q2 ∧ c.holds p (r * (q1 * q2))) ∨ (0 < q1 ∧ q2 < 0 ∧ c.flip.holds p (r * (q1 * q2))) ∨
      (q1 < 0 ∧ 0 < q2 ∧ c.flip.holds p (r * (q1 * q2))) ∨ (q1 < 0 ∧ q2 < 0 ∧ c.holds p (r * (q1 * q2))) := by
  -- the rule for one divisor applied to `q1`, then to `q2` in either case
  rw [mul_ne_zero_iff, and_assoc, and_left_comm, div_mul_eq_div_div_swap, signcase_iff, and_or_left]
  simp only [and_left_comm (a := q2 ≠ 0), signcase_iff, flip_flip, mul_assoc, and_or_left, or_assoc]

theorem falsum_not_sat (x : Nat → K) : ¬ (falsum : CLine K).sat x := by
  simp only [falsum, CLine.sat, Cmp.holds, dot, zero_add]
  exact not_lt.mpr zero_le_one

theorem normLine_sound (ln : Line K) (x : Nat → K) :
    (∀ c ∈ normLine ln, c.sat x) ↔ ln.sat x := by
  have hp : ln.l.eval x - ln.r.eval x = dot (stripZ (ln.l.sub ln.r).co) x 0 + (ln.l.sub ln.r).c := by
    rw [dot_stripZ, ← Form.eval_sub]; rfl
  unfold normLine
  simp only [Line.sat, Cmp.holds_sub _ (ln.l.eval x), hp]
  split
  · rename_i h
    simp only [lead_none _ h, zero_add, ← Cmp.test_iff]
    split
    · rename_i ht; exact iff_of_true (fun _ hc => nomatch hc) ht
    · rename_i ht; exact iff_of_false (fun hc => falsum_not_sat x (hc _ List.mem_cons_self)) ht
  · rename_i a h
    simp only [List.forall_mem_singleton, CLine.sat, dot_map_div, ← add_div]
    exact (Cmp.holds_div _ _ (lead_some _ a h)).symm

theorem canonLine_sat (ln : Line K) (x : Nat → K) : (∀ c ∈ canonLine ln, c.sat x) ↔ ln.sat x :=
  List.forall_mem_flatMap.trans ((forall₂_congr fun l _ => splitEq_sound l x).trans (normLine_sound ln x))

theorem canonSys_sat (s : List (Line K)) (x : Nat → K) :
    (∀ c ∈ canonSys s, c.sat x) ↔ ∀ ln ∈ s, ln.sat x :=
  List.forall_mem_flatMap.trans (forall₂_congr fun ln _ => canonLine_sat ln x)

theorem emptyCase_sound {s : List (CLine K)} (h : emptyCase s = true) (x : Nat → K) :
    ¬ ∀ c ∈ s, c.sat x := by
  intro hall
  simp only [emptyCase, List.any_eq_true, Bool.or_eq_true, decide_eq_true_eq, Bool.and_eq_true] at h
  obtain ⟨a, ha, h⟩ := h
  rcases h with h | ⟨b, hb, ⟨hco, hc⟩, hcon⟩
  · exact falsum_not_sat x (h ▸ hall a ha)
  · have h1 := hall a ha
    have h2 := hall b hb
    simp only [CLine.sat] at h1 h2
    rw [← hco, ← hc] at h2
    exact contra_sound hcon _ ⟨h1, h2⟩

theorem covered_sound {A B : List (List (CLine K))} (h : covered A B = true) (x : Nat → K) :
    (∃ a ∈ A, ∀ c ∈ a, c.sat x) → ∃ b ∈ B, ∀ c ∈ b, c.sat x := by
  rintro ⟨a, ha, hs⟩
  simp only [covered, List.all_eq_true, Bool.or_eq_true, List.any_eq_true] at h
  rcases h a ha with he | ⟨b, hb, hsame⟩
  · exact absurd hs (emptyCase_sound he x)
  · exact ⟨b, hb, fun c hc => hs c ((sameSet_mem hsame c).mpr hc)⟩

theorem dnfEquiv_sound {A B : List (List (CLine K))} (h : dnfEquiv A B = true) (x : Nat → K) :
    (∃ a ∈ A, ∀ c ∈ a, c.sat x) ↔ ∃ b ∈ B, ∀ c ∈ b, c.sat x := by
  simp only [dnfEquiv, Bool.and_eq_true] at h
  exact ⟨covered_sound h.1 x, covered_sound h.2 x⟩

theorem dnfEquiv_canon {A B : List (List (Line K))} (h : dnfEquiv (A.map canonSys) (B.map canonSys) = true)
    (x : Nat → K) : (∃ a ∈ A, ∀ ln ∈ a, ln.sat x) ↔ ∃ b ∈ B, ∀ ln ∈ b, ln.sat x := by
  simpa only [List.mem_map, exists_exists_and_eq_and, canonSys_sat] using dnfEquiv_sound h x

theorem expandItem_sound (it : Item K) (x : Nat → K) :
    it.sat x ↔ ∃ s ∈ expandItem it, ∀ ln ∈ s, ln.sat x := by
  cases it with
  | lin ln => simp only [expandItem, Item.sat, List.mem_singleton, exists_eq_left, forall_eq]
  | rat p q cmp r =>
    simp only [expandItem, Item.sat]
    split
    · rename_i hc
      simp only [List.mem_cons, List.mem_nil_iff, or_false, exists_eq_left, forall_eq_or_imp, forall_eq,
        Line.sat, Form.eval_zero, Form.eval_smul]
      exact and_congr_right (Cmp.div_iff_of_eq_or_ne cmp hc _ _ _)
    · rw [Cmp.signcase_iff]
      simp only [List.mem_cons, List.mem_nil_iff, or_false, exists_eq_or_imp, exists_eq_left,
        forall_eq_or_imp, forall_eq, Line.sat, Form.eval_zero, Form.eval_smul]
      exact Iff.rfl

theorem expand_sound (items : List (Item K)) (x : Nat → K) :
    (∀ it ∈ items, it.sat x) ↔ ∃ s ∈ expand items, ∀ ln ∈ s, ln.sat x := by
  induction items with
  | nil => exact iff_of_true (fun _ h => nomatch h) ⟨[], List.mem_singleton_self _, fun _ h => nomatch h⟩
  | cons it rest ih =>
    simp only [List.forall_mem_cons, expand, exists_mem_product, ← ih, ← expandItem_sound]

omit [LinearOrder K] [IsStrictOrderedRing K] in
theorem expand_lin (s : List (Line K)) : expand (s.map Item.lin) = [s] := by
  induction s with
  | nil => rfl
  | cons ln rest ih => simp [expand, expandItem, ih]

theorem eqForm_sat {ln : Line K} {f : Form K} (h : eqForm ln = some f) (x : Nat → K) :
    ln.sat x ↔ f.eval x = 0 := by
  unfold eqForm at h
  split at h
  · rename_i hc
    simp only [← Option.some.inj h, Line.sat, Cmp.holds_sub _ (ln.l.eval x), hc, Form.eval_sub]
    exact Iff.rfl
  · cases h

theorem eqForms_sat (s : List (Line K)) (fs : List (Form K)) (h : eqForms s = some fs) (x : Nat → K) :
    (∀ ln ∈ s, ln.sat x) ↔ ∀ f ∈ fs, f.eval x = 0 := by
  induction s generalizing fs with
  | nil => cases h; exact iff_of_true (fun _ hl => nomatch hl) (fun _ hf => nomatch hf)
  | cons ln rest ih =>
    simp only [eqForms] at h
    split at h
    · rename_i f fs' hf hfs
      cases h
      rw [List.forall_mem_cons, List.forall_mem_cons, ih fs' hfs, eqForm_sat hf]
    · cases h

theorem mem_dedup {α : Type} [DecidableEq α] (a : α) (l : List α) : a ∈ dedup l ↔ a ∈ l := by
  induction l with
  | nil => exact Iff.rfl
  | cons b bs ih =>
    rw [dedup]
    split
    · rename_i h
      rw [ih, List.mem_cons, or_iff_right_of_imp (fun e => e ▸ h)]
    · rw [List.mem_cons, List.mem_cons, ih]

/-- first pass of `merge(inclusive=False)` -/
def exclStep {E : Type} [DecidableEq E] (eqs : List (TLine E)) (i : TLine E) : TLine E :=
  if i.cmp.isWeak = true ∧ i.flip ∈ eqs then ⟨i.e, .eq⟩ else i

theorem mem_exclStep_of_ne_eq {E : Type} [DecidableEq E] {eqs : List (TLine E)} {l : TLine E}
    (hl : l ∈ eqs.map (exclStep eqs)) (hne : l.cmp ≠ .eq) :
    l ∈ eqs ∧ ¬ (l.cmp.isWeak = true ∧ l.flip ∈ eqs) := by
  obtain ⟨j, hj, rfl⟩ := List.mem_map.mp hl
  unfold exclStep at hne ⊢
  split
  · rename_i hc; rw [if_pos hc] at hne; exact absurd rfl hne
  · rename_i hc; exact ⟨hj, hc⟩

/-- a valuation gives every line text its two sides' values at the point under consideration -/
def TLine.holds {E : Type} (v : E → K × K) (l : TLine E) : Prop := l.cmp.holds (v l.e).1 (v l.e).2

theorem exclStep_iff {E : Type} [DecidableEq E] (v : E → K × K) (eqs : List (TLine E)) :
    (∀ i ∈ eqs, i.holds v) ↔ ∀ l ∈ eqs.map (exclStep eqs), l.holds v := by
  rw [List.forall_mem_map]
  constructor
  · intro h i hi
    unfold exclStep
    split
    · rename_i hc
      exact (Cmp.weak_pair_iff hc.1 (v i.e).1 (v i.e).2).mp ⟨h i hi, h _ hc.2⟩
    · exact h i hi
  · intro h i hi
    have := h i hi
    unfold exclStep at this
    split at this
    · rename_i hc
      exact ((Cmp.weak_pair_iff hc.1 (v i.e).1 (v i.e).2).mpr this).1
    · exact this

end orderedField

end MysticVerif.Sym
