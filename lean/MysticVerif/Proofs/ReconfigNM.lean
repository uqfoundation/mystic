/- Nelder-Mead: every iteration only APPENDS records made under its own objective (no invariant of the simplex needed,
   so this survives re-decorations that leave stale energies behind) -/
import MysticVerif.Proofs.Reconfig
import MysticVerif.Proofs.NelderMead

namespace MysticVerif.Solver

variable {R E : Type}

theorem NM.finish_log_cases [LT E] [DecidableLT E] (s : NM R E) (sx log : List (Pt R × E)) :
    (NM.finish s sx log).log = s.log ∨ (NM.finish s sx log).log = log := by
  unfold NM.finish
  cases sortByE sx
  · exact Or.inl rfl
  · exact Or.inr rfl

theorem NM.update_appended [Add R] [Sub R] [Mul R] [Div R] [LinearOrder E] (o : Obj (Pt R) E) (c : Coef R)
    (st : Pt R → Pt R) (s : NM R E) : Appended o s.log (NM.update o c st s).1.log := by
  unfold NM.update
  cases s.simplex with
  | nil => exact Appended.refl o _
  | cons p tl =>
    obtain ⟨x0', f0⟩ := p
    dsimp only
    cases ((o.K x0', f0) :: tl).getLast? with
    | none => exact Appended.refl o _
    | some w =>
      cases ((o.K x0', f0) :: tl).dropLast.getLast? with
      | none => exact Appended.refl o _
      | some w2 =>
        dsimp only
        rcases NM.finish_log_cases s (NM.core o c st (o.K x0') f0 tl w.1 w.2 w2.2 s.log).1
          (NM.core o c st (o.K x0') f0 tl w.1 w.2 w2.2 s.log).2.1 with e | e <;> rw [e]
        · exact Appended.refl o _
        · exact core_appended o c st (o.K x0') f0 tl w.1 w.2 w2.2 s.log

theorem NM.gen1_appended [LinearOrder E] (o : Obj (Pt R) E) (clip0 mkVal : Pt R → Pt R) (s : NM R E) :
    Appended o s.log (NM.gen1 o clip0 mkVal s).log := by
  unfold NM.gen1
  cases s.simplex with
  | nil => exact Appended.refl o _
  | cons p tl =>
    obtain ⟨x0', f0⟩ := p
    dsimp only
    rcases NM.finish_log_cases s ((clip0 x0', f0) :: (buildRows o (clip0 x0') (mkVal (clip0 x0')) 0 s.log).1)
      (buildRows o (clip0 x0') (mkVal (clip0 x0')) 0 s.log).2 with e | e <;> rw [e]
    · exact Appended.refl o _
    · exact buildRows_appended o (clip0 x0') (mkVal (clip0 x0')) 0 s.log

end MysticVerif.Solver
