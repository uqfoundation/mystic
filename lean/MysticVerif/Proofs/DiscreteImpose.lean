/- helper lemmas for Props/C19: `constraints.impose_measure` (load -> impose_collapse / impose_unweighted per
   factor -> flatten). Which entries the loops of `impose_collapse` leave alone or mark needs only `+` and `0`;
   lengths, sums and signs need a linearly ordered field. -/
import MysticVerif.Proofs.DiscreteNum
import MysticVerif.Proofs.DiscreteUpdate
import Mathlib.Algebra.Order.BigOperators.Group.List

-- the lemmas of the last section carry all its binders, used or not
set_option linter.unusedSectionVars false

namespace MysticVerif.Discrete

theorem foldl_inv {σ β : Type} (f : σ → β → σ) (P : σ → Prop) (l : List β)
    (h : ∀ s, P s → ∀ b ∈ l, P (f s b)) (s : σ) (hs : P s) : P (l.foldl f s) := by
  induction l generalizing s with
  | nil => exact hs
  | cons b l ih =>
    exact ih (fun s hs b hb => h s hs b (List.mem_cons_of_mem _ hb)) _ (h s hs b List.mem_cons_self)

section applyOps
variable {α β : Type}

/-- `for (k, v) in ops: c[k] = F v c[k]` -/
def applyOps (F : β → α → α) (ops : List (Nat × β)) (c : List α) : List α :=
  ops.foldl (fun c kv => c.modify kv.1 (F kv.2)) c

theorem applyOps_cons (F : β → α → α) (o : Nat × β) (ops : List (Nat × β)) (c : List α) :
    applyOps F (o :: ops) c = applyOps F ops (c.modify o.1 (F o.2)) := rfl

theorem applyOps_length (F : β → α → α) (ops : List (Nat × β)) (c : List α) :
    (applyOps F ops c).length = c.length := by
  induction ops generalizing c with
  | nil => rfl
  | cons o ops ih => rw [applyOps_cons, ih, List.length_modify]

theorem applyOps_frame (F : β → α → α) (ops : List (Nat × β)) (c : List α) (k : Nat)
    (hk : ∀ kv ∈ ops, kv.1 ≠ k) : (applyOps F ops c)[k]? = c[k]? := by
  induction ops generalizing c with
  | nil => rfl
  | cons o ops ih =>
    rw [applyOps_cons, ih _ (fun kv h => hk kv (List.mem_cons_of_mem _ h)),
      List.getElem?_modify_ne _ _ (hk o List.mem_cons_self)]

theorem applyOps_inv (F : β → α → α) (ops : List (Nat × β)) (k : Nat) (P : α → Prop)
    (hF : ∀ kv ∈ ops, kv.1 = k → ∀ a, P a → P (F kv.2 a)) (c : List α)
    (h0 : ∀ a, c[k]? = some a → P a) : ∀ a, (applyOps F ops c)[k]? = some a → P a := by
  induction ops generalizing c with
  | nil => exact h0
  | cons o ops ih =>
    rw [applyOps_cons]
    refine ih (fun kv h => hF kv (List.mem_cons_of_mem _ h)) _ fun a ha => ?_
    rw [List.getElem?_modify] at ha
    cases hc : c[k]? with
    | none => rw [hc] at ha; cases ha
    | some b =>
      rw [hc] at ha
      simp only [Option.map_eq_map, Option.map_some, Option.some.injEq] at ha
      subst ha
      split
      · exact hF o List.mem_cons_self ‹_› b (h0 b hc)
      · exact h0 b hc

/-- with distinct keys (one python dict) the step for key `k` is applied exactly once -/
theorem applyOps_nodup (F : β → α → α) (ops : List (Nat × β)) (c : List α)
    (hnd : (ops.map (·.1)).Nodup) (kv : Nat × β) (hkv : kv ∈ ops) :
    (applyOps F ops c)[kv.1]? = c[kv.1]?.map (F kv.2) := by
  induction ops generalizing c with
  | nil => simp at hkv
  | cons o ops ih =>
    simp only [List.map_cons, List.nodup_cons] at hnd
    rw [applyOps_cons]
    rcases List.mem_cons.mp hkv with rfl | h
    · rw [applyOps_frame F ops _ kv.1 (fun kv' h' hEq => hnd.1 (List.mem_map.mpr ⟨kv', h', hEq⟩)),
        List.getElem?_modify_eq]
      rfl
    · have hne : o.1 ≠ kv.1 := fun hEq => hnd.1 (List.mem_map.mpr ⟨kv, h, hEq.symm⟩)
      rw [ih _ hnd.2 h, List.getElem?_modify_ne _ _ hne]

theorem applyOps_map_length {γ : Type} (F : β → List γ → List γ) (hF : ∀ v a, (F v a).length = a.length)
    (ops : List (Nat × β)) (c : List (List γ)) :
    (applyOps F ops c).map List.length = c.map List.length := by
  induction ops generalizing c with
  | nil => rfl
  | cons o ops ih =>
    rw [applyOps_cons, ih]
    refine List.ext_getElem? fun k => ?_
    rw [List.getElem?_map, List.getElem?_map, List.getElem?_modify]
    cases c[k]? with
    | none => rfl
    | some a =>
      show some (if o.1 = k then F o.2 a else a).length = some a.length
      rw [apply_ite List.length, hF, ite_self]

end applyOps

/-! `s = (v, samples, weights)` is the state of the inner loop of `impose_collapse` (one member `k` of a group per
    step), `xw = (samples, weights)` that of the loop over the groups. -/

section
variable {K : Type} [Add K] [OfNat K 0]

theorem collapseStep_frame (xi : K) (s : K × List K × List K) (k p : Nat) (hne : k ≠ p) :
    (collapseStep xi s k).2.1[p]? = s.2.1[p]? ∧ (collapseStep xi s k).2.2[p]? = s.2.2[p]? := by
  unfold collapseStep
  split
  · exact ⟨List.getElem?_set_ne hne, List.getElem?_set_ne hne⟩
  · exact ⟨rfl, rfl⟩

/-- visiting an in-range `p` writes `(xi, 0)` there -/
theorem collapseStep_mark (xi : K) (s : K × List K × List K) (p : Nat) (hl : s.2.1.length = s.2.2.length)
    (hp : p < s.2.2.length) :
    (collapseStep xi s p).2.1[p]? = some xi ∧ (collapseStep xi s p).2.2[p]? = some 0 := by
  unfold collapseStep
  rw [List.getElem?_eq_getElem hp]
  exact ⟨List.getElem?_set_self (hl ▸ hp), List.getElem?_set_self hp⟩

/-- an entry `(xi, 0)` survives any step -/
theorem collapseStep_marked (xi : K) (s : K × List K × List K) (k p : Nat)
    (h : s.2.1[p]? = some xi ∧ s.2.2[p]? = some 0) :
    (collapseStep xi s k).2.1[p]? = some xi ∧ (collapseStep xi s k).2.2[p]? = some 0 := by
  by_cases hkp : k = p
  · subst hkp
    unfold collapseStep
    split
    · exact ⟨List.getElem?_set_self (List.getElem?_eq_some_iff.mp h.1).1,
        List.getElem?_set_self (List.getElem?_eq_some_iff.mp h.2).1⟩
    · exact h
  · obtain ⟨h1, h2⟩ := collapseStep_frame xi s k p hkp
    exact ⟨h1.trans h.1, h2.trans h.2⟩

theorem collapseFold_frame (xi : K) (js : List Nat) (s : K × List K × List K) (p : Nat) (hp : p ∉ js) :
    (js.foldl (collapseStep xi) s).2.1[p]? = s.2.1[p]? ∧ (js.foldl (collapseStep xi) s).2.2[p]? = s.2.2[p]? := by
  refine foldl_inv (collapseStep xi) (fun t => t.2.1[p]? = s.2.1[p]? ∧ t.2.2[p]? = s.2.2[p]?) js
    (fun t ht k hk => ?_) s ⟨rfl, rfl⟩
  obtain ⟨h1, h2⟩ := collapseStep_frame xi t k p fun h => hp (h ▸ hk)
  exact ⟨h1.trans ht.1, h2.trans ht.2⟩

theorem collapseGroup_some (xw : List K × List K) (g : Nat × List Nat) (xi wi : K)
    (hx : xw.1[g.1]? = some xi) (hw : xw.2[g.1]? = some wi) :
    collapseGroup xw g =
      ((g.2.foldl (collapseStep xi) (wi, xw.1, xw.2)).2.1,
       (g.2.foldl (collapseStep xi) (wi, xw.1, xw.2)).2.2.set g.1
         (g.2.foldl (collapseStep xi) (wi, xw.1, xw.2)).1) := by
  simp only [collapseGroup, hx, hw]

/-- on a key outside the lists python raises; the model returns its input -/
theorem collapseGroup_cases (xw : List K × List K) (g : Nat × List Nat) :
    collapseGroup xw g = xw ∨ ∃ xi wi, xw.1[g.1]? = some xi ∧ xw.2[g.1]? = some wi ∧
      collapseGroup xw g =
        ((g.2.foldl (collapseStep xi) (wi, xw.1, xw.2)).2.1,
         (g.2.foldl (collapseStep xi) (wi, xw.1, xw.2)).2.2.set g.1
           (g.2.foldl (collapseStep xi) (wi, xw.1, xw.2)).1) := by
  unfold collapseGroup
  split
  · rename_i xi wi hx hw
    exact Or.inr ⟨xi, wi, hx, hw, rfl⟩
  · exact Or.inl rfl

theorem collapseGroup_frame (xw : List K × List K) (g : Nat × List Nat) (p : Nat) (hp : p ∉ g.2) :
    (collapseGroup xw g).1[p]? = xw.1[p]? ∧ (p ≠ g.1 → (collapseGroup xw g).2[p]? = xw.2[p]?) := by
  rcases collapseGroup_cases xw g with h | ⟨xi, wi, _, _, h⟩
  · rw [h]
    exact ⟨rfl, fun _ => rfl⟩
  · rw [h]
    obtain ⟨h1, h2⟩ := collapseFold_frame xi g.2 (wi, xw.1, xw.2) p hp
    exact ⟨h1, fun hne => (List.getElem?_set_ne (Ne.symm hne)).trans h2⟩

/-- `p` belongs to group `g` (as key or member) -/
def inGroup (g : Nat × List Nat) (p : Nat) : Prop := p = g.1 ∨ p ∈ g.2

theorem collapseGroups_frame (groups : List (Nat × List Nat)) (xw : List K × List K) (p : Nat)
    (hp : ∀ g ∈ groups, ¬ inGroup g p) :
    (groups.foldl collapseGroup xw).1[p]? = xw.1[p]? ∧ (groups.foldl collapseGroup xw).2[p]? = xw.2[p]? := by
  refine foldl_inv collapseGroup (fun t => t.1[p]? = xw.1[p]? ∧ t.2[p]? = xw.2[p]?) groups
    (fun t ht g hg => ?_) xw ⟨rfl, rfl⟩
  obtain ⟨h3, h4⟩ := collapseGroup_frame t g p fun h => hp g hg (Or.inr h)
  exact ⟨h3.trans ht.1, (h4 fun h => hp g hg (Or.inl h)).trans ht.2⟩

end

section
variable {K : Type} [Field K] [LinearOrder K]

theorem sum_map_div (ws : List K) (a : K) : (ws.map (· / a)).sum = ws.sum / a := by
  induction ws with
  | nil => exact (zero_div a).symm
  | cons w ws ih => rw [List.map_cons, List.sum_cons, List.sum_cons, ih, add_div]

theorem normalizeMass_def (mass : K) (ws : List K) :
    normalizeMass mass ws =
      if truthy (sumL (ws.map absR)) = false then ws.map (· * 0)
      else if truthy (sumL (ws.map (· / sumL (ws.map absR)))) = false then ws.map (· * 0)
      else ((ws.map (· / sumL (ws.map absR))).map (mass * ·)).map
        (· / sumL (ws.map (· / sumL (ws.map absR)))) := rfl

theorem normalizeMass_map (mass : K) (ws : List K) :
    ∃ φ : K → K, φ 0 = 0 ∧ normalizeMass mass ws = ws.map φ := by
  rw [normalizeMass_def]
  split_ifs
  · exact ⟨(· * 0), mul_zero 0, rfl⟩
  · exact ⟨(· * 0), mul_zero 0, rfl⟩
  · exact ⟨_, by show mass * (0 / _) / _ = 0; rw [zero_div, mul_zero, zero_div], List.map_map.trans List.map_map⟩

theorem normalizeMass_length (mass : K) (ws : List K) : (normalizeMass mass ws).length = ws.length := by
  obtain ⟨φ, _, h⟩ := normalizeMass_map mass ws
  rw [h, List.length_map]

/-- the weights `impose_unweighted` hands to `normalize` (measures.py l.1756-1758) -/
def unweightPre (index : List Nat) (ws : List K) : List K :=
  let w1 := ws.mapIdx fun i w => if index.contains i then 0 else w
  if truthy (sumL w1) = false then ws.mapIdx (fun i _ => if index.contains i then 0 else 1) else w1

theorem imposeUnweighted_eq (inf : K) (index : List Nat) (xs ws : List K) :
    imposeUnweighted inf index xs ws =
      (imposeMean inf (mean inf xs ws) xs (normalizeMass (sumL ws) (unweightPre index ws)),
       normalizeMass (sumL ws) (unweightPre index ws)) := rfl

/-- masking by `index`: the listed entries become `0`, the others `ψ w`, so non-negativity of `ψ` on `ws`
    carries over -/
theorem mapIdx_mask (index : List Nat) (ψ : K → K) (ws : List K) :
    (∀ p ∈ index, p < ws.length → (ws.mapIdx fun i w => if index.contains i then 0 else ψ w)[p]? = some 0) ∧
    ((∀ w ∈ ws, 0 ≤ ψ w) → ∀ w ∈ ws.mapIdx fun i w => if index.contains i then 0 else ψ w, 0 ≤ w) := by
  refine ⟨fun p hp hpn => ?_, fun hψ w hw => ?_⟩
  · rw [List.getElem?_mapIdx, List.getElem?_eq_getElem hpn, Option.map_some, if_pos (List.contains_iff_mem.mpr hp)]
  · obtain ⟨i, hi, rfl⟩ := List.mem_mapIdx.mp hw
    split
    · exact le_rfl
    · exact hψ _ (List.getElem_mem hi)

end

variable {K : Type} [Field K] [LinearOrder K] [IsStrictOrderedRing K]

theorem sum_set (l : List K) (k : Nat) (a b : K) (h : l[k]? = some b) : (l.set k a).sum = l.sum - b + a := by
  obtain ⟨hk, rfl⟩ := List.getElem?_eq_some_iff.mp h
  rw [List.sum_set', dif_pos hk]; ring

theorem nonneg_set (l : List K) (k : Nat) (a : K) (hl : ∀ w ∈ l, 0 ≤ w) (ha : 0 ≤ a) :
    ∀ w ∈ l.set k a, 0 ≤ w :=
  fun w hw => (List.mem_or_eq_of_mem_set hw).elim (hl w) fun h => h ▸ ha

/-- lengths are kept, `v + Σ weights` is conserved, non-negativity of the weights and of `v` is kept -/
theorem collapseStep_invariants (xi : K) (s : K × List K × List K) (k : Nat) :
    (collapseStep xi s k).2.1.length = s.2.1.length ∧ (collapseStep xi s k).2.2.length = s.2.2.length ∧
    (collapseStep xi s k).1 + (collapseStep xi s k).2.2.sum = s.1 + s.2.2.sum ∧
    ((∀ w ∈ s.2.2, 0 ≤ w) ∧ 0 ≤ s.1 →
      (∀ w ∈ (collapseStep xi s k).2.2, 0 ≤ w) ∧ 0 ≤ (collapseStep xi s k).1) := by
  unfold collapseStep
  split
  · rename_i wk h
    refine ⟨List.length_set, List.length_set, ?_, fun hs => ?_⟩
    · show s.1 + wk + (s.2.2.set k 0).sum = s.1 + s.2.2.sum
      rw [sum_set _ k 0 wk h]; ring
    · exact ⟨nonneg_set _ k 0 hs.1 le_rfl, add_nonneg hs.2 (hs.1 wk (List.mem_of_getElem? h))⟩
  · exact ⟨rfl, rfl, rfl, id⟩

theorem collapseFold_invariants (xi : K) (js : List Nat) (s : K × List K × List K) :
    (js.foldl (collapseStep xi) s).2.1.length = s.2.1.length ∧
    (js.foldl (collapseStep xi) s).2.2.length = s.2.2.length ∧
    (js.foldl (collapseStep xi) s).1 + (js.foldl (collapseStep xi) s).2.2.sum = s.1 + s.2.2.sum ∧
    ((∀ w ∈ s.2.2, 0 ≤ w) ∧ 0 ≤ s.1 →
      (∀ w ∈ (js.foldl (collapseStep xi) s).2.2, 0 ≤ w) ∧ 0 ≤ (js.foldl (collapseStep xi) s).1) := by
  induction js generalizing s with
  | nil => exact ⟨rfl, rfl, rfl, id⟩
  | cons k js ih =>
    obtain ⟨h1, h2, h3, h4⟩ := collapseStep_invariants xi s k
    obtain ⟨i1, i2, i3, i4⟩ := ih (collapseStep xi s k)
    exact ⟨i1.trans h1, i2.trans h2, i3.trans h3, fun hs => i4 (h4 hs)⟩

theorem collapseFold_member (xi : K) (js : List Nat) (s : K × List K × List K) (hl : s.2.1.length = s.2.2.length)
    (p : Nat) (hp : p ∈ js) (hpn : p < s.2.2.length) :
    (js.foldl (collapseStep xi) s).2.1[p]? = some xi ∧ (js.foldl (collapseStep xi) s).2.2[p]? = some 0 := by
  induction js generalizing s with
  | nil => cases hp
  | cons k js ih =>
    rw [List.foldl_cons]
    rcases List.mem_cons.mp hp with rfl | hp'
    · exact foldl_inv _ _ js (fun t ht k _ => collapseStep_marked xi t k p ht) _ (collapseStep_mark xi s p hl hpn)
    · obtain ⟨l1, l2, _⟩ := collapseStep_invariants xi s k
      exact ih _ (by rw [l1, l2]; exact hl) hp' (by rw [l2]; exact hpn)

/-- the documented shape of a group `i: {k..}`: the key is a valid index and not among its own members
    (`tools.connected` violates this for cyclic pair sets: C18's recorded finding) -/
def GroupOK (n : Nat) (g : Nat × List Nat) : Prop := g.1 < n ∧ g.1 ∉ g.2

theorem collapseGroup_invariants (xw : List K × List K) (g : Nat × List Nat) :
    (collapseGroup xw g).1.length = xw.1.length ∧ (collapseGroup xw g).2.length = xw.2.length ∧
    ((∀ w ∈ xw.2, 0 ≤ w) → ∀ w ∈ (collapseGroup xw g).2, 0 ≤ w) ∧
    (g.1 ∉ g.2 → (collapseGroup xw g).2.sum = xw.2.sum) := by
  rcases collapseGroup_cases xw g with h | ⟨xi, wi, _, hw, h⟩
  · rw [h]
    exact ⟨rfl, rfl, id, fun _ => rfl⟩
  · rw [h]
    obtain ⟨h1, h2, h3, h4⟩ := collapseFold_invariants xi g.2 (wi, xw.1, xw.2)
    refine ⟨h1, List.length_set.trans h2, fun hW => ?_, fun hni => ?_⟩
    · obtain ⟨h5, h6⟩ := h4 ⟨hW, hW wi (List.mem_of_getElem? hw)⟩
      exact nonneg_set _ _ _ h5 h6
    · -- the key is not a member, so the loop left its weight alone; `v + Σ w` is conserved
      have hf := (collapseFold_frame xi g.2 (wi, xw.1, xw.2) g.1 hni).2.trans hw
      have h3' : _ + _ = wi + xw.2.sum := h3
      rw [sum_set _ g.1 _ wi hf, sub_add_eq_add_sub]
      exact sub_eq_of_eq_add' ((add_comm _ _).trans h3')

theorem collapseGroup_member (xw : List K × List K) (g : Nat × List Nat) (hl : xw.1.length = xw.2.length)
    (hok : GroupOK xw.2.length g) (p : Nat) (hp : p ∈ g.2) (hpn : p < xw.2.length) :
    (collapseGroup xw g).1[p]? = (collapseGroup xw g).1[g.1]? ∧ (collapseGroup xw g).2[p]? = some 0 := by
  -- the key is not a member and keeps its position; the members take that position in the loop
  have hx := List.getElem?_eq_getElem (hl ▸ hok.1 : g.1 < xw.1.length)
  rw [(collapseGroup_frame xw g g.1 hok.2).1, hx, collapseGroup_some xw g _ _ hx (List.getElem?_eq_getElem hok.1)]
  obtain ⟨h1, h2⟩ := collapseFold_member _ g.2 (_, xw.1, xw.2) hl p hp hpn
  exact ⟨h1, (List.getElem?_set_ne fun (h : g.1 = p) => hok.2 (h ▸ hp)).trans h2⟩

theorem collapseGroups_invariants (groups : List (Nat × List Nat)) (xw : List K × List K) :
    (groups.foldl collapseGroup xw).1.length = xw.1.length ∧
    (groups.foldl collapseGroup xw).2.length = xw.2.length ∧
    ((∀ w ∈ xw.2, 0 ≤ w) → ∀ w ∈ (groups.foldl collapseGroup xw).2, 0 ≤ w) ∧
    ((∀ g ∈ groups, g.1 ∉ g.2) → (groups.foldl collapseGroup xw).2.sum = xw.2.sum) := by
  induction groups generalizing xw with
  | nil => exact ⟨rfl, rfl, id, fun _ => rfl⟩
  | cons g gs ih =>
    obtain ⟨h1, h2, h3, h4⟩ := collapseGroup_invariants xw g
    obtain ⟨i1, i2, i3, i4⟩ := ih (collapseGroup xw g)
    exact ⟨i1.trans h1, i2.trans h2, fun hW => i3 (h3 hW), fun hni =>
      (i4 fun g' hg' => hni g' (List.mem_cons_of_mem _ hg')).trans (h4 (hni g List.mem_cons_self))⟩

theorem collapseGroups_member (groups : List (Nat × List Nat)) (xw : List K × List K)
    (hl : xw.1.length = xw.2.length) (hok : ∀ g ∈ groups, GroupOK xw.2.length g)
    (hdis : groups.Pairwise fun a b => ∀ p, inGroup a p → ¬ inGroup b p)
    (g : Nat × List Nat) (hg : g ∈ groups) (p : Nat) (hp : p ∈ g.2) (hpn : p < xw.2.length) :
    (groups.foldl collapseGroup xw).1[p]? = (groups.foldl collapseGroup xw).1[g.1]? ∧
    (groups.foldl collapseGroup xw).2[p]? = some 0 := by
  induction groups generalizing xw with
  | nil => cases hg
  | cons g0 gs ih =>
    rw [List.foldl_cons]
    rw [List.pairwise_cons] at hdis
    rcases List.mem_cons.mp hg with rfl | hgs
    · -- the later groups contain neither `p` nor the key
      obtain ⟨m1, m2⟩ := collapseGroup_member xw g hl (hok g List.mem_cons_self) p hp hpn
      obtain ⟨f1, f2⟩ := collapseGroups_frame gs (collapseGroup xw g) p fun g' hg' => hdis.1 g' hg' p (Or.inr hp)
      obtain ⟨k1, _⟩ := collapseGroups_frame gs (collapseGroup xw g) g.1 fun g' hg' => hdis.1 g' hg' g.1 (Or.inl rfl)
      exact ⟨f1.trans (m1.trans k1.symm), f2.trans m2⟩
    · obtain ⟨h1, h2, _⟩ := collapseGroup_invariants xw g0
      exact ih _ (h1.trans (hl.trans h2.symm)) (fun g' hg' => h2 ▸ hok g' (List.mem_cons_of_mem _ hg')) hdis.2 hgs
        (h2 ▸ hpn)

theorem imposeCollapse_spec (inf : K) (groups : List (Nat × List Nat)) (xs ws : List K)
    (hl : xs.length = ws.length) :
    (imposeCollapse inf groups xs ws).1.length = xs.length ∧ (imposeCollapse inf groups xs ws).2.length = ws.length ∧
    ((∀ w ∈ ws, 0 ≤ w) → ∀ w ∈ (imposeCollapse inf groups xs ws).2, 0 ≤ w) ∧
    ((∀ g ∈ groups, g.1 ∉ g.2) → ws.sum ≠ 0 → (imposeCollapse inf groups xs ws).2.sum = ws.sum ∧
      mean inf (imposeCollapse inf groups xs ws).1 (imposeCollapse inf groups xs ws).2 = mean inf xs ws) := by
  obtain ⟨h1, h2, h3, h4⟩ := collapseGroups_invariants groups (xs, ws)
  refine ⟨(imposeMean_length _ _ _ _).trans h1, h2, h3, fun hok hw => ?_⟩
  have hs := h4 hok
  exact ⟨hs, mean_imposeMean inf _ _ _ (h1.trans (hl.trans h2.symm)) (by rw [hs]; exact hw)⟩

theorem sum_map_abs_nonneg (ws : List K) (h : ∀ w ∈ ws, 0 ≤ w) : (ws.map absR).sum = ws.sum :=
  congrArg List.sum <| (List.map_congr_left fun w hw => (absR_eq_abs w).trans (abs_of_nonneg (h w hw))).trans
    (List.map_id' ws)

theorem normalizeMass_sum (mass : K) (ws : List K) (hnn : ∀ w ∈ ws, 0 ≤ w) (hpos : 0 < ws.sum) :
    (normalizeMass mass ws).sum = mass ∧ (0 ≤ mass → ∀ w ∈ normalizeMass mass ws, 0 ≤ w) := by
  have ha : sumL (ws.map absR) = ws.sum := (sumL_eq_sum _).trans (sum_map_abs_nonneg ws hnn)
  have hm : sumL (ws.map (· / ws.sum)) = 1 := by rw [sumL_eq_sum, sum_map_div, div_self hpos.ne']
  -- both divisors are non-zero: the result is `w ↦ mass * (w / Σw) / 1`
  rw [normalizeMass_def, ha, hm, if_neg (mt (truthy_false _).mp hpos.ne'), if_neg (mt (truthy_false _).mp one_ne_zero)]
  constructor
  · rw [sum_map_div, List.sum_map_mul_left, List.map_id', sum_map_div, div_self hpos.ne', mul_one, div_one]
  · exact fun hmass => List.forall_mem_map.mpr (List.forall_mem_map.mpr (List.forall_mem_map.mpr fun a ha =>
      div_nonneg (mul_nonneg hmass (div_nonneg (hnn a ha) hpos.le)) zero_le_one))

theorem unweightPre_spec (index : List Nat) (ws : List K) :
    (unweightPre index ws).length = ws.length ∧
    (∀ p ∈ index, p < ws.length → (unweightPre index ws)[p]? = some 0) ∧
    ((∀ w ∈ ws, 0 ≤ w) → (∀ w ∈ unweightPre index ws, 0 ≤ w) ∧
      ((∃ i, i < ws.length ∧ i ∉ index) → 0 < (unweightPre index ws).sum)) := by
  by_cases h0 : truthy (sumL (ws.mapIdx fun i w => if index.contains i then 0 else w)) = false
  · -- every weight outside `index` is zero: those entries become `1`, and one of them exists
    rw [show unweightPre index ws = ws.mapIdx (fun i _ => if index.contains i then 0 else 1) from if_pos h0]
    obtain ⟨h1, h2⟩ := mapIdx_mask index (fun _ => 1) ws
    refine ⟨List.length_mapIdx, h1, fun _ => ⟨h2 fun _ _ => zero_le_one, fun ⟨i, hi, hni⟩ => ?_⟩⟩
    refine lt_of_lt_of_le zero_lt_one (List.single_le_sum (h2 fun _ _ => zero_le_one) 1 ?_)
    exact List.mem_mapIdx.mpr ⟨i, hi, if_neg (mt List.contains_iff_mem.mp hni)⟩
  · rw [show unweightPre index ws = ws.mapIdx (fun i w => if index.contains i then 0 else w) from if_neg h0]
    obtain ⟨h1, h2⟩ := mapIdx_mask index id ws
    refine ⟨List.length_mapIdx, h1, fun hnn => ⟨h2 hnn, fun _ => ?_⟩⟩
    have hne : (ws.mapIdx fun i w => if index.contains i then 0 else w).sum ≠ 0 :=
      fun h => h0 ((truthy_false _).mpr ((sumL_eq_sum _).trans h))
    exact lt_of_le_of_ne (List.sum_nonneg (h2 hnn)) hne.symm

/-- `impose_unweighted(index, x, w, nullable=False)` on non-negative weights with positive total, leaving at
    least one point outside `index` -/
theorem imposeUnweighted_spec (inf : K) (index : List Nat) (xs ws : List K) (hl : xs.length = ws.length)
    (hnn : ∀ w ∈ ws, 0 ≤ w) (hpos : 0 < ws.sum) (hout : ∃ i, i < ws.length ∧ i ∉ index) :
    (imposeUnweighted inf index xs ws).1.length = xs.length ∧
    (imposeUnweighted inf index xs ws).2.length = ws.length ∧
    (imposeUnweighted inf index xs ws).2.sum = ws.sum ∧
    (∀ w ∈ (imposeUnweighted inf index xs ws).2, 0 ≤ w) ∧
    mean inf (imposeUnweighted inf index xs ws).1 (imposeUnweighted inf index xs ws).2 = mean inf xs ws ∧
    (∀ p ∈ index, p < ws.length → (imposeUnweighted inf index xs ws).2[p]? = some 0) := by
  rw [imposeUnweighted_eq, sumL_eq_sum]
  obtain ⟨u1, u2, u3⟩ := unweightPre_spec index ws
  obtain ⟨h1, h2⟩ := normalizeMass_sum ws.sum (unweightPre index ws) (u3 hnn).1 ((u3 hnn).2 hout)
  have hlen : (normalizeMass ws.sum (unweightPre index ws)).length = ws.length :=
    (normalizeMass_length _ _).trans u1
  exact ⟨imposeMean_length _ _ _ _, hlen, h1, h2 hpos.le,
    mean_imposeMean inf _ xs _ (hl.trans hlen.symm) (h1.symm ▸ hpos.ne'),
    fun p hp hpn => by
      obtain ⟨φ, h0, h⟩ := normalizeMass_map ws.sum (unweightPre index ws)
      rw [h, List.getElem?_map, u2 p hp hpn, Option.map_some, h0]⟩

/-- one `tracking` item of `impose_measure` on its factor (constraints.py l.1814) -/
def collapseM (inf : K) (gs : List (Nat × List Nat)) (m : Measure K) : Measure K :=
  rebuild (imposeCollapse inf gs (mpositions m) (mweights m))
/-- one `noweight` item of `impose_measure` on its factor (constraints.py l.1818) -/
def unweightM (inf : K) (idx : List Nat) (m : Measure K) : Measure K :=
  rebuild (imposeUnweighted inf idx (mpositions m) (mweights m))

theorem imposeOn_eq (inf : K) (tr : List (Nat × List (Nat × List Nat))) (nw : List (Nat × List Nat)) (c : PM K) :
    imposeOn inf tr nw c = applyOps (unweightM inf) nw (applyOps (collapseM inf) tr c) := rfl

theorem collapseM_parts (inf : K) (gs : List (Nat × List Nat)) (m : Measure K) :
    mpositions (collapseM inf gs m) = (imposeCollapse inf gs (mpositions m) (mweights m)).1 ∧
    mweights (collapseM inf gs m) = (imposeCollapse inf gs (mpositions m) (mweights m)).2 := by
  obtain ⟨h1, h2, _⟩ := imposeCollapse_spec inf gs _ _ (length_mpositions_eq m)
  have hl := h1.trans ((length_mpositions_eq m).trans h2.symm)
  exact ⟨mpositions_rebuild _ _ hl, mweights_rebuild _ _ hl⟩

theorem unweightM_parts (inf : K) (idx : List Nat) (m : Measure K) :
    mpositions (unweightM inf idx m) = (imposeUnweighted inf idx (mpositions m) (mweights m)).1 ∧
    mweights (unweightM inf idx m) = (imposeUnweighted inf idx (mpositions m) (mweights m)).2 := by
  have hl : (imposeUnweighted inf idx (mpositions m) (mweights m)).1.length
      = (imposeUnweighted inf idx (mpositions m) (mweights m)).2.length := by
    rw [imposeUnweighted_eq, imposeMean_length, normalizeMass_length, (unweightPre_spec idx _).1, length_mpositions_eq]
  exact ⟨mpositions_rebuild _ _ hl, mweights_rebuild _ _ hl⟩

theorem collapseM_length (inf : K) (gs : List (Nat × List Nat)) (m : Measure K) :
    (collapseM inf gs m).length = m.length := by
  rw [← length_mpositions, (collapseM_parts inf gs m).1,
    (imposeCollapse_spec inf gs _ _ (length_mpositions_eq m)).1, length_mpositions]

theorem unweightM_length (inf : K) (idx : List Nat) (m : Measure K) :
    (unweightM inf idx m).length = m.length := by
  rw [← length_mpositions, (unweightM_parts inf idx m).1, imposeUnweighted_eq, imposeMean_length,
    length_mpositions]

/-- what `impose_measure` keeps of a factor `m` (non-negative weights): number of points, total weight,
    centre of mass -/
structure Kept (inf : K) (m m' : Measure K) : Prop where
  len : m'.length = m.length
  nonneg : ∀ w ∈ mweights m', 0 ≤ w
  mass : (mweights m').sum = (mweights m).sum
  cm : centerMass inf m' = centerMass inf m

theorem kept_collapse (inf : K) (m m' : Measure K) (hk : Kept inf m m') (hpos : 0 < (mweights m).sum)
    (gs : List (Nat × List Nat)) (hok : ∀ g ∈ gs, GroupOK m.length g) : Kept inf m (collapseM inf gs m') := by
  obtain ⟨hp, hw⟩ := collapseM_parts inf gs m'
  obtain ⟨_, _, h3, h4⟩ := imposeCollapse_spec inf gs _ _ (length_mpositions_eq m')
  obtain ⟨h5, h6⟩ := h4 (fun g hg => (hok g hg).2) (by rw [hk.mass]; exact ne_of_gt hpos)
  refine ⟨(collapseM_length inf gs m').trans hk.len, hw ▸ h3 hk.nonneg, by rw [hw, h5, hk.mass], ?_⟩
  rw [centerMass, hp, hw, h6]
  exact hk.cm

theorem kept_unweight (inf : K) (m m' : Measure K) (hk : Kept inf m m') (hpos : 0 < (mweights m).sum)
    (idx : List Nat) (hout : ∃ i, i < m.length ∧ i ∉ idx) : Kept inf m (unweightM inf idx m') := by
  obtain ⟨hp, hw⟩ := unweightM_parts inf idx m'
  obtain ⟨_, _, h3, h4, h5, _⟩ := imposeUnweighted_spec inf idx _ _ (length_mpositions_eq m') hk.nonneg
    (by rw [hk.mass]; exact hpos) (by rw [length_mweights, hk.len]; exact hout)
  refine ⟨(unweightM_length inf idx m').trans hk.len, hw ▸ h4, by rw [hw, h3, hk.mass], ?_⟩
  rw [centerMass, hp, hw, h5]
  exact hk.cm

/-- `impose_unweighted` shifts every position by the same amount: coinciding positions keep coinciding -/
theorem unweightM_samepos (inf : K) (idx : List Nat) (m : Measure K) (p q : Nat)
    (h : (mpositions m)[p]? = (mpositions m)[q]?) :
    (mpositions (unweightM inf idx m))[p]? = (mpositions (unweightM inf idx m))[q]? := by
  rw [(unweightM_parts inf idx m).1, imposeUnweighted_eq]
  simp only [imposeMean_getElem?, h]

theorem collapseM_member (inf : K) (gs : List (Nat × List Nat)) (m : Measure K)
    (hok : ∀ g ∈ gs, GroupOK m.length g)
    (hdis : gs.Pairwise fun a b => ∀ p, inGroup a p → ¬ inGroup b p)
    (g : Nat × List Nat) (hg : g ∈ gs) (p : Nat) (hp : p ∈ g.2) (hpn : p < m.length) :
    (mpositions (collapseM inf gs m))[p]? = (mpositions (collapseM inf gs m))[g.1]? ∧
    (mweights (collapseM inf gs m))[p]? = some 0 := by
  obtain ⟨hpp, hw⟩ := collapseM_parts inf gs m
  obtain ⟨h1, h2⟩ := collapseGroups_member gs (mpositions m, mweights m) (length_mpositions_eq m)
    (fun g hg => by rw [length_mweights]; exact hok g hg) hdis g hg p hp (by rw [length_mweights]; exact hpn)
  rw [hpp, hw]
  refine ⟨?_, h2⟩
  simp only [imposeCollapse, imposeMean_getElem?, h1]

theorem imposeOn_pts (inf : K) (tr : List (Nat × List (Nat × List Nat))) (nw : List (Nat × List Nat)) (c : PM K) :
    pts (imposeOn inf tr nw c) = pts c := by
  rw [imposeOn_eq]
  unfold pts
  rw [applyOps_map_length _ (unweightM_length inf), applyOps_map_length _ (collapseM_length inf)]

theorem imposeOn_frame (inf : K) (tr : List (Nat × List (Nat × List Nat))) (nw : List (Nat × List Nat)) (c : PM K)
    (k : Nat) (h1 : ∀ kv ∈ tr, kv.1 ≠ k) (h2 : ∀ kv ∈ nw, kv.1 ≠ k) : (imposeOn inf tr nw c)[k]? = c[k]? := by
  rw [imposeOn_eq, applyOps_frame _ _ _ k h2, applyOps_frame _ _ _ k h1]

theorem imposeOn_kept (inf : K) (tr : List (Nat × List (Nat × List Nat))) (nw : List (Nat × List Nat)) (c : PM K)
    (k : Nat) (m : Measure K) (hm : c[k]? = some m)
    (hnn : ∀ w ∈ mweights m, 0 ≤ w) (hpos : 0 < (mweights m).sum)
    (htr : ∀ kv ∈ tr, kv.1 = k → ∀ g ∈ kv.2, GroupOK m.length g)
    (hnw : ∀ kv ∈ nw, kv.1 = k → ∃ i, i < m.length ∧ i ∉ kv.2) :
    ∃ m', (imposeOn inf tr nw c)[k]? = some m' ∧ Kept inf m m' := by
  rw [imposeOn_eq]
  have hlt : k < (applyOps (unweightM inf) nw (applyOps (collapseM inf) tr c)).length := by
    rw [applyOps_length, applyOps_length]; exact (List.getElem?_eq_some_iff.mp hm).1
  refine ⟨_, List.getElem?_eq_getElem hlt, ?_⟩
  -- `Kept inf m` is an invariant of entry `k` under both sequences of steps
  apply applyOps_inv (unweightM inf) nw k (Kept inf m)
    (fun kv hkv hk a ha => kept_unweight inf m a ha hpos kv.2 (hnw kv hkv hk)) _ _ _ (List.getElem?_eq_getElem hlt)
  apply applyOps_inv (collapseM inf) tr k (Kept inf m)
    (fun kv hkv hk a ha => kept_collapse inf m a ha hpos kv.2 (htr kv hkv hk))
  intro a ha
  rw [hm] at ha
  rw [← Option.some.inj ha]
  exact ⟨rfl, hnn, rfl, rfl⟩

theorem imposeMeasure_eq (inf : K) (npts : List Nat) (tr : List (Nat × List (Nat × List Nat)))
    (nw : List (Nat × List Nat)) (x : List K) (hlen : 2 * npts.sum ≤ x.length) :
    ∃ c, unflatten (x.take (2 * npts.sum)) npts = some c ∧ pts c = npts ∧ flatten c = x.take (2 * npts.sum) ∧
      imposeMeasure inf npts tr nw x = some (flatten (imposeOn inf tr nw c)) := by
  obtain ⟨c, hc1, hc2, hc3⟩ := unflatten_of_length (x.take (2 * npts.sum)) npts
    (List.length_take.trans (Nat.min_eq_left hlen))
  refine ⟨c, hc1, hc2, hc3, ?_⟩
  simp [imposeMeasure, load, truncParams_eq_take x npts, hc1]

/-- one `impose_measure` call: a point `p` of a group of the tracked item `(k, groups)` shares the position of the
group's key in the result - also after ALL `noweight` items (`impose_unweighted` shifts a whole factor) -/
theorem imposeOn_member_pos (inf : K) (tr : List (Nat × List (Nat × List Nat))) (nw : List (Nat × List Nat))
    (c : PM K) (hnd : (tr.map (·.1)).Nodup) (kv : Nat × List (Nat × List Nat)) (hkv : kv ∈ tr) (m : Measure K)
    (hm : c[kv.1]? = some m) (hok : ∀ g ∈ kv.2, GroupOK m.length g)
    (hdis : kv.2.Pairwise fun a b => ∀ p, inGroup a p → ¬ inGroup b p)
    (g : Nat × List Nat) (hg : g ∈ kv.2) (p : Nat) (hp : inGroup g p) (hpn : p < m.length) :
    ∃ m', (imposeOn inf tr nw c)[kv.1]? = some m' ∧ m'.length = m.length ∧
      (mpositions m')[p]? = (mpositions m')[g.1]? := by
  have h1 : (applyOps (collapseM inf) tr c)[kv.1]? = some (collapseM inf kv.2 m) := by
    rw [applyOps_nodup (collapseM inf) tr c hnd kv hkv, hm]; rfl
  rw [imposeOn_eq]
  have hlt : kv.1 < (applyOps (unweightM inf) nw (applyOps (collapseM inf) tr c)).length := by
    rw [applyOps_length, applyOps_length]; exact (List.getElem?_eq_some_iff.mp hm).1
  refine ⟨_, List.getElem?_eq_getElem hlt, ?_, ?_⟩
  -- length and coinciding positions are invariants of entry `kv.1` under the `noweight` steps
  · apply applyOps_inv (unweightM inf) nw kv.1 (fun a => a.length = m.length)
      (fun t _ _ a ha => by rw [unweightM_length]; exact ha) _ _ _ (List.getElem?_eq_getElem hlt)
    intro a ha
    rw [h1] at ha
    rw [← Option.some.inj ha, collapseM_length]
  · rcases hp with rfl | hp
    · rfl
    apply applyOps_inv (unweightM inf) nw kv.1 (fun a => (mpositions a)[p]? = (mpositions a)[g.1]?)
      (fun t _ _ a ha => unweightM_samepos inf t.2 a p g.1 ha) _ _ _ (List.getElem?_eq_getElem hlt)
    intro a ha
    rw [h1] at ha
    rw [← Option.some.inj ha]
    exact (collapseM_member inf kv.2 m hok hdis g hg p hp hpn).1

/-- one `impose_measure` call: the indices of the `noweight` item `(k, idx)` have weight exactly 0 in the result,
whatever the `tracking` items did before -/
theorem imposeOn_noweight_zero (inf : K) (tr : List (Nat × List (Nat × List Nat))) (nw : List (Nat × List Nat))
    (c : PM K) (hnd : (nw.map (·.1)).Nodup) (kv : Nat × List Nat) (hkv : kv ∈ nw)
    (m : Measure K) (hm : c[kv.1]? = some m) (hnn : ∀ w ∈ mweights m, 0 ≤ w) (hpos : 0 < (mweights m).sum)
    (htr : ∀ t ∈ tr, t.1 = kv.1 → ∀ g ∈ t.2, GroupOK m.length g)
    (hout : ∃ i, i < m.length ∧ i ∉ kv.2) :
    ∃ m', (imposeOn inf tr nw c)[kv.1]? = some m' ∧ m'.length = m.length ∧
      ∀ p ∈ kv.2, p < m.length → (mweights m')[p]? = some 0 := by
  -- with `nw = []` the collapsed factor `m1` is `Kept`; the item for `kv.1` is then applied exactly once
  obtain ⟨m1, h1, hk⟩ := imposeOn_kept inf tr [] c kv.1 m hm hnn hpos htr (by simp)
  have e1 : imposeOn inf tr [] c = applyOps (collapseM inf) tr c := rfl
  rw [e1] at h1
  refine ⟨unweightM inf kv.2 m1, ?_, ?_, ?_⟩
  · rw [imposeOn_eq, applyOps_nodup (unweightM inf) nw _ hnd kv hkv, h1]; rfl
  · rw [unweightM_length, hk.len]
  · intro p hp hpn
    rw [(unweightM_parts inf kv.2 m1).2]
    have hl := length_mpositions_eq m1
    obtain ⟨_, _, _, _, _, h6⟩ := imposeUnweighted_spec inf kv.2 (mpositions m1) (mweights m1) hl hk.nonneg
      (by rw [hk.mass]; exact hpos) (by rw [length_mweights, hk.len]; exact hout)
    exact h6 p hp (by rw [length_mweights, hk.len]; exact hpn)

end MysticVerif.Discrete
