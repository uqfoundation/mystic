/- helper lemmas for Props/C16/Track.lean: the offset rounds of `impose_as` (constraints.py l.1667-1675), `set(trac)`,
`tools.connected` and the tie phase on masks in which several partners share one tracker -/
import MysticVerif.Proofs.Transforms

namespace MysticVerif.Trans

variable {R : Type}

theorem getPy_of_wrap (x : List R) (i : Int) (k : Nat) (h : wrapIdx x.length i = some k) : getPy x i = x[k]? := by
  rw [getPy, h]
  rfl

/-- a non-negative in-range index addresses its own slot -/
theorem wrapIdx_nat (n k : Nat) (h : k < n) : wrapIdx n (k : Int) = some k :=
  (wrapIdx_eq_some_iff n k k).mpr ⟨h, .inl rfl⟩

theorem wrapIdx_nonneg (n : Nat) (a : Int) (h0 : 0 ≤ a) (h1 : a < n) : wrapIdx n a = some a.toNat :=
  (wrapIdx_eq_some_iff n a a.toNat).mpr ⟨by omega, .inl (Int.toNat_of_nonneg h0)⟩

/-- distinct index VALUES of `l` address distinct entries (`-1` and `n-1` are not both listed) -/
def NoAlias (n : Nat) (l : List Int) : Prop :=
  ∀ a ∈ l, ∀ b ∈ l, ∀ k, wrapIdx n a = some k → wrapIdx n b = some k → a = b

theorem NoAlias.tail {n : Nat} {a : Int} {l : List Int} (h : NoAlias n (a :: l)) : NoAlias n l :=
  fun b hb c hc k h1 h2 => h b (List.mem_cons_of_mem _ hb) c (List.mem_cons_of_mem _ hc) k h1 h2

theorem filterMap_wrap_nodup (n : Nat) (l : List Int) (hnd : l.Nodup) (hna : NoAlias n l) :
    (l.filterMap (wrapIdx n)).Nodup := by
  induction l with
  | nil => exact List.nodup_nil
  | cons a rest ih =>
    obtain ⟨hnm, hnd⟩ := List.nodup_cons.mp hnd
    rw [List.filterMap_cons]
    cases hw : wrapIdx n a with
    | none => exact ih hnd hna.tail
    | some k =>
      refine List.nodup_cons.mpr ⟨fun hmem => ?_, ih hnd hna.tail⟩
      obtain ⟨b, hb, hbk⟩ := List.mem_filterMap.mp hmem
      obtain rfl := hna a List.mem_cons_self b (List.mem_cons_of_mem _ hb) k hw hbk
      exact hnm hb

theorem mem_dedupFold (l acc : List Int) (a : Int) :
    a ∈ l.foldl (fun acc a => if acc.contains a then acc else acc ++ [a]) acc ↔ a ∈ acc ∨ a ∈ l := by
  induction l generalizing acc with
  | nil => simp
  | cons b rest ih =>
    rw [List.foldl_cons, ih, List.mem_cons]
    split
    · rename_i hb
      have hb : b ∈ acc := List.contains_iff_mem.mp hb
      constructor
      · rintro (h | h)
        · exact .inl h
        · exact .inr (.inr h)
      · rintro (h | rfl | h)
        · exact .inl h
        · exact .inl hb
        · exact .inr h
    · rw [List.mem_append, List.mem_singleton, or_assoc]

theorem dedupFold_nodup (l acc : List Int) (h : acc.Nodup) :
    (l.foldl (fun acc a => if acc.contains a then acc else acc ++ [a]) acc).Nodup := by
  induction l generalizing acc with
  | nil => exact h
  | cons b rest ih =>
    rw [List.foldl_cons]
    split
    · exact ih acc h
    · rename_i hb
      refine ih _ (List.nodup_append.mpr ⟨h, List.pairwise_singleton _ b, fun a ha c hc => ?_⟩)
      rintro rfl
      exact hb (List.contains_iff_mem.mpr (List.mem_singleton.mp hc ▸ ha))

/-- `set(l)` lists every index once -/
theorem dedupInt_nodup (l : List Int) : (dedupInt l).Nodup := dedupFold_nodup l [] List.nodup_nil

theorem mem_dedupInt (l : List Int) (a : Int) : a ∈ dedupInt l ↔ a ∈ l :=
  (mem_dedupFold l [] a).trans ⟨fun h => h.resolve_left List.not_mem_nil, Or.inr⟩

theorem NoAlias.dedup {n : Nat} {l : List Int} (h : NoAlias n l) : NoAlias n (dedupInt l) :=
  fun a ha b hb k h1 h2 => h a ((mem_dedupInt l a).mp ha) b ((mem_dedupInt l b).mp hb) k h1 h2

theorem mem_filterMap_dedup (n : Nat) (l : List Int) (k : Nat) :
    k ∈ (dedupInt l).filterMap (wrapIdx n) ↔ ∃ a ∈ l, wrapIdx n a = some k := by
  simp only [List.mem_filterMap, mem_dedupInt]

theorem offsetRound_nil [Add R] (off : R) (x : List R) : offsetRound off [] x = x := rfl

theorem offsetRound_cons [Add R] (off : R) (i : Int) (rest : List Int) (x : List R) :
    offsetRound off (i :: rest) x =
      offsetRound off rest (match getPy x i with | some v => setPy x i (v + off) | none => x) := rfl

/-- `try: x[i] += offset except IndexError: pass` -/
theorem offsetStep_spec [Add R] (off : R) (x : List R) (i : Int) :
    (match getPy x i with | some v => setPy x i (v + off) | none => x).length = x.length ∧
    ∀ k, (match getPy x i with | some v => setPy x i (v + off) | none => x)[k]? =
      if wrapIdx x.length i = some k then (x[k]?).map (· + off) else x[k]? := by
  unfold getPy
  cases hw : wrapIdx x.length i with
  | none => simp
  | some k0 =>
    have hlt := wrapIdx_lt hw
    simp only [Option.bind_some, List.getElem?_eq_getElem hlt, setPy_length, setPy_getElem?, hw, true_and]
    intro k
    split
    · rename_i h
      obtain rfl := Option.some.inj h
      rw [List.getElem?_eq_getElem hlt, Option.map_some]
    · rfl

/-- a round adds the offset to an entry once for every listed index that addresses it -/
theorem offsetRound_getElem?_count [Add R] (off : R) (trac : List Int) (x : List R) (k : Nat) :
    (offsetRound off trac x)[k]? = (x[k]?).map (· + off)^[(trac.filterMap (wrapIdx x.length)).count k] := by
  induction trac generalizing x with
  | nil => simp [offsetRound]
  | cons i rest ih =>
    obtain ⟨hlen, hget⟩ := offsetStep_spec off x i
    rw [offsetRound_cons, ih, hlen, hget, List.filterMap_cons]
    cases hw : wrapIdx x.length i with
    | none => simp
    | some k0 =>
      by_cases hk : k0 = k
      · subst hk
        cases x[k0]? <;> simp
      · simp [hk]

theorem offsetLoop_nil [Add R] (off : R) (fuel : Nat) (x : List R) : offsetLoop off fuel [] x = .ok x := by
  cases fuel <;> simp [offsetLoop]

/-- the fold of `tools.connected` (tools.py l.781-790) -/
def connectedFold (coll : List (Int × List Int)) (pairs : List (Int × Int)) : List (Int × List Int) :=
  pairs.foldl (fun coll p =>
    let r := connectedStep coll p.1 p.2
    if r.2 = true then r.1 else coll ++ [(p.1, [p.2])]) coll

theorem connected_eq_fold (pairs : List (Int × Int)) : connected pairs = connectedFold [] pairs := rfl

theorem connectedFold_cons (coll : List (Int × List Int)) (p : Int × Int) (rest : List (Int × Int)) :
    connectedFold coll (p :: rest) =
      connectedFold (if (connectedStep coll p.1 p.2).2 = true then (connectedStep coll p.1 p.2).1 else coll ++ [(p.1, [p.2])]) rest := rfl

/-- pairs `(p, t)` that all name the tracker `t`, met by a single group keyed `p0` that already holds `t`: the group
stays the only one, keeps its key, and collects exactly the partners other than the key -/
theorem connectedFold_star (p0 t : Int) (ps : List Int) (v : List Int) (ht : t ∈ v) :
    ∃ v', connectedFold [(p0, v)] (ps.map (fun p => (p, t))) = [(p0, v')] ∧ t ∈ v' ∧
      ∀ a, a ∈ v' ↔ a ∈ v ∨ (a ∈ ps ∧ a ≠ p0) := by
  induction ps generalizing v with
  | nil => exact ⟨v, rfl, ht, fun a => ⟨Or.inl, fun h => h.resolve_right fun h' => List.not_mem_nil h'.1⟩⟩
  | cons p ps ih =>
    -- one pair `(p, t)`: the group takes `p` in unless it is the key or already a member
    obtain ⟨v1, hstep, ht1, hm1⟩ : ∃ v1, connectedStep [(p0, v)] p t = ([(p0, v1)], true) ∧ t ∈ v1 ∧
        ∀ a, a ∈ v1 ↔ a ∈ v ∨ (a = p ∧ a ≠ p0) := by
      have htc : v.contains t = true := List.contains_iff_mem.mpr ht
      have hiff : (p == p0 || v.contains p) = true ↔ p = p0 ∨ p ∈ v := by
        rw [Bool.or_eq_true, beq_iff_eq, List.contains_iff_mem]
      by_cases h1 : p = p0 ∨ p ∈ v
      · refine ⟨v, by simp only [connectedStep, hiff.mpr h1, if_true, htc], ht, fun a => ⟨Or.inl, ?_⟩⟩
        rintro (h | ⟨rfl, hne⟩)
        · exact h
        · exact h1.resolve_left hne
      · obtain ⟨hne, hnm⟩ := not_or.mp h1
        refine ⟨v ++ [p], ?_, List.mem_append_left _ ht, fun a => ?_⟩
        · simp only [connectedStep]
          rw [if_neg (mt hiff.mp h1), if_pos (by rw [htc, Bool.or_true]),
            Bool.eq_false_iff.mpr (mt List.contains_iff_mem.mp hnm)]
          rfl
        · rw [List.mem_append, List.mem_singleton]
          exact or_congr_right ⟨fun h => ⟨h, h ▸ hne⟩, And.left⟩
    obtain ⟨v', hv', ht', hmem⟩ := ih v1 ht1
    rw [List.map_cons, connectedFold_cons, hstep]
    refine ⟨v', hv', ht', fun a => ?_⟩
    rw [hmem, hm1, List.mem_cons, or_assoc, or_and_right]

/-- `tools.connected` on the mask `[(p0,t), (p1,t), ...]`: ONE group, keyed by the first partner, holding the tracker
and every other partner (a partner listed twice, or equal to the key, is not added again) -/
theorem connected_star (p0 t : Int) (ps : List Int) :
    ∃ v, connected ((p0 :: ps).map (fun p => (p, t))) = [(p0, v)] ∧ t ∈ v ∧
      ∀ a, a ∈ v ↔ a = t ∨ (a ∈ ps ∧ a ≠ p0) := by
  rw [connected_eq_fold, List.map_cons, connectedFold_cons]
  have : (if (connectedStep [] p0 t).2 = true then (connectedStep [] p0 t).1 else [] ++ [(p0, [t])]) = [(p0, [t])] := by
    simp [connectedStep]
  rw [this]
  obtain ⟨v, hv, ht, hmem⟩ := connectedFold_star p0 t ps [t] (List.mem_singleton_self t)
  exact ⟨v, hv, ht, fun a => by rw [hmem a]; simp⟩

/-- the tie phase over ONE group `(p0, v)`: `for k in v: try: x[k] = x[p0] except IndexError: pass` -/
def tieKey (p0 : Int) (v : List Int) (x : List R) : List R :=
  v.foldl (fun xq k => match getPy xq p0 with
    | some a => setPy xq k a
    | none => xq) x

theorem tieAll_single (p0 : Int) (v : List Int) (x : List R) : tieAll [(p0, v)] x = tieKey p0 v x := rfl

theorem tieKey_cons (p0 a : Int) (rest : List Int) (x : List R) :
    tieKey p0 (a :: rest) x = tieKey p0 rest (match getPy x p0 with | some b => setPy x a b | none => x) := rfl

/-- the tie phase over one group whose key is in range and not among its members (all members in range, listed by
non-negative index): every member receives the ORIGINAL value at the key, nothing else moves -/
theorem tieKey_getElem? (p0 : Nat) (v : List Int) (x : List R) (hp0 : p0 < x.length) (hnot : (p0 : Int) ∉ v)
    (hin : ∀ a ∈ v, 0 ≤ a ∧ a < x.length) (k : Nat) :
    (tieKey (p0 : Int) v x)[k]? = if (k : Int) ∈ v then x[p0]? else x[k]? := by
  induction v generalizing x with
  | nil => exact (if_neg List.not_mem_nil).symm
  | cons a rest ih =>
    obtain ⟨ha0, ha1⟩ := hin a List.mem_cons_self
    have hgp : getPy x (p0 : Int) = some x[p0] := by
      rw [getPy_of_wrap x _ p0 (wrapIdx_nat _ _ hp0), List.getElem?_eq_getElem hp0]
    have hstep : ∀ j : Nat, (setPy x a x[p0])[j]? = if (j : Int) = a then x[p0]? else x[j]? := fun j => by
      rw [setPy_getElem?, wrapIdx_nonneg _ _ ha0 ha1, List.getElem?_eq_getElem hp0]
      exact if_congr (by rw [Option.some.injEq]; omega) rfl rfl
    have hlen : (setPy x a x[p0]).length = x.length := setPy_length ..
    rw [tieKey_cons, hgp]
    simp only
    rw [ih _ (by rwa [hlen]) (fun h => hnot (List.mem_cons_of_mem _ h))
      (fun b hb => by rw [hlen]; exact hin b (List.mem_cons_of_mem _ hb)), hstep, hstep, ite_self]
    by_cases hk : (k : Int) = a
    · rw [if_pos hk, ite_self, if_pos (List.mem_cons.mpr (Or.inl hk))]
    · rw [if_neg hk]
      exact if_congr (List.mem_cons.trans (or_iff_right hk)).symm rfl rfl

theorem tieKey_length (p0 : Int) (v : List Int) (x : List R) : (tieKey p0 v x).length = x.length := by
  induction v generalizing x with
  | nil => rfl
  | cons a rest ih =>
    rw [tieKey_cons, ih]
    split
    · exact setPy_length ..
    · rfl

end MysticVerif.Trans
