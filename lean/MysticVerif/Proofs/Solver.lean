/- the decorated objective (what one call does to the evaluation log) and the invariant of the differential-evolution
   model -/
import MysticVerif.Model.Solver
import Mathlib.Order.Basic
import Mathlib.Order.Lattice
import Mathlib.Data.List.Basic

namespace MysticVerif.Solver

variable {X E : Type}

/-- hypotheses on the user functions / energies that the properties themselves state -/
structure Hyp [LinearOrder E] (o : Obj X E) : Prop where
  /-- constraints (coupled with the bounds) are idempotent -/
  idem : ∀ x, o.K (o.K x) = o.K x
  /-- `inf + p = inf` -/
  addTop : ∀ p, o.add o.top p = o.top
  /-- no energy exceeds `inf` (in particular: no NaN) -/
  leTop : ∀ e : E, e ≤ o.top

/-- `e` is cost + penalty at `y`, `(y, cost y)` was logged, `y` is K-fixed and in the box (all vacuous when `e` is `inf`) -/
def Good (o : Obj X E) (log : List (X × E)) (y : X) (e : E) : Prop :=
  e ≠ o.top → e = o.add (o.raw y) (o.pen y) ∧ (y, o.raw y) ∈ log ∧ o.K y = y ∧ (o.useRange = true → o.inBox y = true)

theorem Good.mono {o : Obj X E} {log log' : List (X × E)} {y : X} {e : E}
    (h : Good o log y e) (hsub : ∀ p ∈ log, p ∈ log') : Good o log' y e := by
  intro he
  obtain ⟨h1, h2, h3, h4⟩ := h he
  exact ⟨h1, hsub _ h2, h3, h4⟩

/-- every entry of the evaluation log is a K-fixed point inside the box, logged with the user's cost -/
def LogOK (o : Obj X E) (log : List (X × E)) : Prop :=
  ∀ p ∈ log, p.2 = o.raw p.1 ∧ o.K p.1 = p.1 ∧ (o.useRange = true → o.inBox p.1 = true)

theorem evalB_cases (o : Obj X E) (y : X) (log : List (X × E)) :
    o.evalB y log = (o.top, log) ∨
      ((o.useRange = true → o.inBox y = true) ∧ o.evalB y log = (o.raw y, log ++ [(y, o.raw y)])) := by
  unfold Obj.evalB
  split
  · exact Or.inl rfl
  · rename_i hb
    refine Or.inr ⟨fun hu => ?_, rfl⟩
    simp only [hu, Bool.true_and, Bool.not_eq_true', Bool.not_eq_false] at hb
    exact hb

/-- `log'` is `log` followed by records `(K x, cost (K x))` of calls made through `o` at points that passed the box test -/
def Appended (o : Obj X E) (log log' : List (X × E)) : Prop :=
  ∃ t, log' = log ++ t ∧ ∀ p ∈ t, ∃ x, p = (o.K x, o.raw (o.K x)) ∧ (o.useRange = true → o.inBox (o.K x) = true)

theorem Appended.refl (o : Obj X E) (log : List (X × E)) : Appended o log log :=
  ⟨[], (List.append_nil log).symm, fun _ hp => nomatch hp⟩

theorem Appended.trans {o : Obj X E} {a b c : List (X × E)} (h1 : Appended o a b) (h2 : Appended o b c) :
    Appended o a c := by
  obtain ⟨t1, e1, k1⟩ := h1
  obtain ⟨t2, e2, k2⟩ := h2
  exact ⟨t1 ++ t2, by rw [e2, e1, List.append_assoc], fun p hp => (List.mem_append.mp hp).elim (k1 p) (k2 p)⟩

theorem Appended.isPrefix {o : Obj X E} {log log' : List (X × E)} (h : Appended o log log') : log <+: log' := by
  obtain ⟨t, e, _⟩ := h
  exact ⟨t, e.symm⟩

theorem Appended.subset {o : Obj X E} {log log' : List (X × E)} (h : Appended o log log') : ∀ p ∈ log, p ∈ log' :=
  fun _ hp => h.isPrefix.subset hp

theorem Appended.segment [LinearOrder E] {o : Obj X E} (h : Hyp o) {log log' : List (X × E)}
    (ha : Appended o log log') : ∃ t, log' = log ++ t ∧ LogOK o t := by
  obtain ⟨t, e, ht⟩ := ha
  refine ⟨t, e, fun p hp => ?_⟩
  obtain ⟨x, rfl, hb⟩ := ht p hp
  exact ⟨rfl, h.idem x, hb⟩

theorem Appended.logOK [LinearOrder E] {o : Obj X E} (h : Hyp o) {log log' : List (X × E)}
    (ha : Appended o log log') (hl : LogOK o log) : LogOK o log' := by
  obtain ⟨t, rfl, ht⟩ := ha.segment h
  exact fun p hp => (List.mem_append.mp hp).elim (hl p) (ht p)

theorem objK_appended (o : Obj X E) (x : X) (log : List (X × E)) : Appended o log (o.objK x log).2 := by
  rcases evalB_cases o (o.K x) log with e | ⟨hb, e⟩ <;> simp only [Obj.objK, Obj.objAt, e]
  · exact Appended.refl o log
  · exact ⟨[_], rfl, fun p hp => ⟨x, List.mem_singleton.mp hp, hb⟩⟩

theorem objK_log_le (o : Obj X E) (x : X) (log : List (X × E)) : (o.objK x log).2.length ≤ log.length + 1 := by
  rcases evalB_cases o (o.K x) log with e | ⟨_, e⟩ <;> simp [Obj.objK, Obj.objAt, e]

theorem objAt_good [LinearOrder E] {o : Obj X E} (h : Hyp o) (t : X) (log : List (X × E)) :
    Good o (o.objAt (o.K t) log).2 (o.K t) (o.objAt (o.K t) log).1 := by
  rcases evalB_cases o (o.K t) log with e | ⟨hb, e⟩ <;> simp only [Obj.objAt, e]
  · exact fun he => absurd (h.addTop _) he
  · exact fun _ => ⟨rfl, List.mem_append_right _ (List.mem_singleton_self _), h.idem t, hb⟩

/-- a non-increasing history whose entries all dominate `e`, extended by `e` -/
theorem hist_snoc [LinearOrder E] {l : List E} {e : E} (hl : l.Pairwise (· ≥ ·)) (hle : ∀ a ∈ l, e ≤ a) :
    (l ++ [e]).Pairwise (· ≥ ·) ∧ ∀ a ∈ l ++ [e], e ≤ a := by
  refine ⟨List.pairwise_append.mpr ⟨hl, List.pairwise_singleton _ _, fun a ha b hb => ?_⟩, fun a ha => ?_⟩
  · rw [List.mem_singleton.mp hb]; exact hle a ha
  · rcases List.mem_append.mp ha with ha | ha
    · exact hle a ha
    · rw [List.mem_singleton.mp ha]

/-- the DE invariant (C01 member/best clauses, C02 best-in-box, C03 reported-constrained, C04 history) -/
structure DEInv [LinearOrder E] (o : Obj X E) (s : DE X E) : Prop where
  len : s.pop.length = s.popE.length
  mem : ∀ (i : Nat) (y : X) (e : E), s.pop[i]? = some y → s.popE[i]? = some e → Good o s.log y e
  best : Good o s.log s.best s.bestE
  bestLe : ∀ e ∈ s.popE, s.bestE ≤ e
  logOK : LogOK o s.log
  hist : (s.stepLog.map Prod.snd).Pairwise (· ≥ ·)
  histLe : ∀ e ∈ s.stepLog.map Prod.snd, s.bestE ≤ e

theorem DE.select_cases [LT E] [DecidableLT E] (s : DE X E) (i : Nat) (y : X) (e : E) :
    s.select i y e = s ∨
    (i < s.popE.length ∧ ¬ e < s.bestE ∧ s.select i y e = { s with pop := s.pop.set i y, popE := s.popE.set i e }) ∨
    (i < s.popE.length ∧ e < s.bestE ∧
      s.select i y e = { s with pop := s.pop.set i y, popE := s.popE.set i e, best := y, bestE := e }) := by
  unfold DE.select
  cases hei : s.popE[i]? with
  | none => exact Or.inl rfl
  | some ei =>
    obtain ⟨hi, _⟩ := List.getElem?_eq_some_iff.mp hei
    dsimp only
    by_cases h1 : e < ei
    · rw [if_pos h1]
      by_cases hb : e < s.bestE
      · rw [if_pos hb]; exact Or.inr (Or.inr ⟨hi, hb, rfl⟩)
      · rw [if_neg hb]; exact Or.inr (Or.inl ⟨hi, hb, rfl⟩)
    · rw [if_neg h1]; exact Or.inl rfl

theorem DE.select_log [LT E] [DecidableLT E] (s : DE X E) (i : Nat) (y : X) (e : E) : (s.select i y e).log = s.log := by
  rcases DE.select_cases s i y e with h | ⟨_, _, h⟩ | ⟨_, _, h⟩ <;> rw [h]

theorem DE.select_stepLog [LT E] [DecidableLT E] (s : DE X E) (i : Nat) (y : X) (e : E) :
    (s.select i y e).stepLog = s.stepLog := by
  rcases DE.select_cases s i y e with h | ⟨_, _, h⟩ | ⟨_, _, h⟩ <;> rw [h]

theorem DE.select_best_cases [LT E] [DecidableLT E] (s : DE X E) (i : Nat) (y : X) (e : E) :
    ((s.select i y e).best = s.best ∧ (s.select i y e).bestE = s.bestE) ∨
    ((s.select i y e).best = y ∧ (s.select i y e).bestE = e ∧ e < s.bestE) := by
  rcases DE.select_cases s i y e with h | ⟨_, _, h⟩ | ⟨_, hb, h⟩ <;> rw [h]
  · exact Or.inl ⟨rfl, rfl⟩
  · exact Or.inl ⟨rfl, rfl⟩
  · exact Or.inr ⟨rfl, rfl, hb⟩

theorem DE.select_bestE_le [LinearOrder E] (s : DE X E) (i : Nat) (y : X) (e : E) :
    (s.select i y e).bestE ≤ s.bestE := by
  rcases DE.select_best_cases s i y e with h | ⟨_, h, hb⟩
  · exact le_of_eq h.2
  · rw [h]; exact le_of_lt hb

/-- selection neither reads nor writes the evaluation log (right side field by field: `with` on a term would bind
it in a `have`) -/
theorem DE.select_withLog [LT E] [DecidableLT E] (s : DE X E) (l : List (X × E)) (i : Nat) (y : X) (e : E) :
    DE.select { s with log := l } i y e =
      { pop := (s.select i y e).pop, popE := (s.select i y e).popE, best := (s.select i y e).best,
        bestE := (s.select i y e).bestE, log := l, stepLog := (s.select i y e).stepLog } := by
  unfold DE.select
  dsimp only
  cases s.popE[i]? with
  | none => rfl
  | some ei =>
    dsimp only
    by_cases h1 : e < ei
    · by_cases h2 : e < s.bestE
      · simp only [if_pos h1, if_pos h2]
      · simp only [if_pos h1, if_neg h2]
    · simp only [if_neg h1]

theorem DE.select_inv [LinearOrder E] {o : Obj X E} {s : DE X E} (hs : DEInv o s) (i : Nat) (y : X) (e : E)
    (hg : Good o s.log y e) : DEInv o (s.select i y e) := by
  have hlen : (s.pop.set i y).length = (s.popE.set i e).length := by
    rw [List.length_set, List.length_set, hs.len]
  have hmem : i < s.popE.length → ∀ (j : Nat) (y' : X) (e' : E), (s.pop.set i y)[j]? = some y' →
      (s.popE.set i e)[j]? = some e' → Good o s.log y' e' := by
    intro hi j y' e' hy' he'
    by_cases hji : i = j
    · subst hji
      rw [List.getElem?_set_self (hs.len ▸ hi)] at hy'
      rw [List.getElem?_set_self hi] at he'
      cases hy'; cases he'; exact hg
    · rw [List.getElem?_set_ne hji] at hy' he'
      exact hs.mem j y' e' hy' he'
  rcases DE.select_cases s i y e with h | ⟨hi, hb, h⟩ | ⟨hi, hb, h⟩ <;> rw [h]
  · exact hs
  · refine ⟨hlen, hmem hi, hs.best, fun e' he' => ?_, hs.logOK, hs.hist, hs.histLe⟩
    rcases List.mem_or_eq_of_mem_set he' with h' | rfl
    · exact hs.bestLe e' h'
    · exact not_lt.mp hb
  · refine ⟨hlen, hmem hi, hg, fun e' he' => ?_, hs.logOK, hs.hist,
      fun e' he' => le_trans (le_of_lt hb) (hs.histLe e' he')⟩
    rcases List.mem_or_eq_of_mem_set he' with h' | rfl
    · exact le_trans (le_of_lt hb) (hs.bestLe e' h')
    · exact le_refl _

theorem DEInv.appended [LinearOrder E] {o : Obj X E} (h : Hyp o) {s : DE X E} (hs : DEInv o s) {log' : List (X × E)}
    (ha : Appended o s.log log') : DEInv o { s with log := log' } :=
  ⟨hs.len, fun i y e hy he => (hs.mem i y e hy he).mono ha.subset, hs.best.mono ha.subset, hs.bestLe,
    ha.logOK h hs.logOK, hs.hist, hs.histLe⟩

theorem DE.candidates1_induction [LT E] [DecidableLT E] (o : Obj X E) (P : DE X E → Prop)
    (hP : ∀ (s : DE X E) (t : X) (i : Nat), P s →
      P (DE.select { s with log := (o.objK t s.log).2 } i (o.K t) (o.objK t s.log).1)) :
    ∀ (ts : List X) (i : Nat) (s : DE X E), P s → P (DE.candidates1 o ts i s) := by
  intro ts
  induction ts with
  | nil => intro _ _ hs; exact hs
  | cons t ts ih => intro i s hs; exact ih (i + 1) _ (hP s t i hs)

theorem DE.candidates1_inv [LinearOrder E] {o : Obj X E} (h : Hyp o) :
    ∀ (ts : List X) (i : Nat) (s : DE X E), DEInv o s → DEInv o (DE.candidates1 o ts i s) :=
  DE.candidates1_induction o (DEInv o) fun s t i hs =>
    DE.select_inv (hs.appended h (objK_appended o t s.log)) i (o.K t) _ (objAt_good h t s.log)

theorem DE.candidates1_bestE_le [LinearOrder E] (o : Obj X E) (ts : List X) (i : Nat) (s : DE X E) :
    (DE.candidates1 o ts i s).bestE ≤ s.bestE :=
  DE.candidates1_induction o (fun s' => s'.bestE ≤ s.bestE)
    (fun _ _ _ hs => le_trans (DE.select_bestE_le _ _ _ _) hs) ts i s (le_refl _)

theorem DE.candidates1_stepLog [LT E] [DecidableLT E] (o : Obj X E) (ts : List X) (i : Nat) (s : DE X E) :
    (DE.candidates1 o ts i s).stepLog = s.stepLog :=
  DE.candidates1_induction o (fun s' => s'.stepLog = s.stepLog)
    (fun _ _ _ hs => (DE.select_stepLog _ _ _ _).trans hs) ts i s rfl

theorem DE.candidates1_appended [LT E] [DecidableLT E] (o : Obj X E) (ts : List X) (i : Nat) (s : DE X E) :
    Appended o s.log (DE.candidates1 o ts i s).log :=
  DE.candidates1_induction o (fun s' => Appended o s.log s'.log)
    (fun s' t i hs => by rw [DE.select_log]; exact hs.trans (objK_appended o t s'.log)) ts i s (Appended.refl o _)

theorem DEInv.logStep [LinearOrder E] {o : Obj X E} {s : DE X E} (hs : DEInv o s) :
    DEInv o { s with stepLog := s.stepLog ++ [(s.best, s.bestE)] } := by
  have hh := hist_snoc hs.hist hs.histLe
  exact ⟨hs.len, hs.mem, hs.best, hs.bestLe, hs.logOK, by rw [List.map_append]; exact hh.1,
    by rw [List.map_append]; exact hh.2⟩

theorem DE.step1_appended [LT E] [DecidableLT E] (o : Obj X E) (ts : List X) (s : DE X E) :
    Appended o s.log (DE.step1 o ts s).log :=
  DE.candidates1_appended o ts 0 s

theorem DE.step1_bestE_le [LinearOrder E] (o : Obj X E) (ts : List X) (s : DE X E) :
    (DE.step1 o ts s).bestE ≤ s.bestE :=
  DE.candidates1_bestE_le o ts 0 s

theorem DE.step1_stepLog [LT E] [DecidableLT E] (o : Obj X E) (ts : List X) (s : DE X E) :
    (DE.step1 o ts s).stepLog = s.stepLog ++ [((DE.step1 o ts s).best, (DE.step1 o ts s).bestE)] := by
  unfold DE.step1
  simp only
  rw [DE.candidates1_stepLog]

theorem DE.init_inv [LinearOrder E] {o : Obj X E} (pop : List X) (x0 : X) : DEInv o (DE.init o pop x0) := by
  refine ⟨(List.length_map _).symm, ?_, ?_, ?_, (fun _ hp => nomatch hp), List.Pairwise.nil, (fun _ he => nomatch he)⟩
  · intro i y e _ he hne
    simp only [DE.init, List.getElem?_map, Option.map_eq_some_iff] at he
    obtain ⟨_, _, rfl⟩ := he
    exact absurd rfl hne
  · intro hne; exact absurd rfl hne
  · intro e he
    simp only [DE.init, List.mem_map] at he
    obtain ⟨_, _, rfl⟩ := he
    exact le_refl _

/-- any number of DE1 steps with ANY trial vectors (any strategy, any random draws) -/
def DE.run1 [LT E] [DecidableLT E] (o : Obj X E) (trialss : List (List X)) (s : DE X E) : DE X E :=
  trialss.foldl (fun s ts => DE.step1 o ts s) s

theorem DE.run1_inv [LinearOrder E] {o : Obj X E} (h : Hyp o) :
    ∀ (trialss : List (List X)) (s : DE X E), DEInv o s → DEInv o (DE.run1 o trialss s) := by
  intro trialss
  induction trialss with
  | nil => intro s hs; exact hs
  | cons ts tss ih => intro s hs; exact ih _ (DE.candidates1_inv h ts 0 s hs).logStep

theorem DE.run1_bestE_le [LinearOrder E] (o : Obj X E) :
    ∀ (trialss : List (List X)) (s : DE X E), (DE.run1 o trialss s).bestE ≤ s.bestE := by
  intro trialss
  induction trialss with
  | nil => intro s; exact le_refl _
  | cons ts tss ih => intro s; exact le_trans (ih _) (DE.step1_bestE_le o ts s)

theorem DE.evalAll_eq [LT E] [DecidableLT E] (o : Obj X E) :
    ∀ (ts : List X) (i : Nat) (s : DE X E) (l : List (X × E)),
      DE.selectAll (DE.evalAll o ts l).1 i { s with log := (DE.evalAll o ts l).2 }
        = DE.candidates1 o ts i { s with log := l } := by
  intro ts
  induction ts with
  | nil => intro _ _ _; rfl
  | cons t ts ih =>
    intro i s l
    simp only [DE.evalAll, DE.selectAll, DE.candidates1]
    rw [DE.select_withLog s (DE.evalAll o ts _).2, DE.select_withLog s (o.objAt (o.K t) l).2]
    exact ih (i + 1) _ _

theorem DE.step2_eq_step1 [LinearOrder E] (o : Obj X E) (trials : List X) (s : DE X E) :
    DE.step2 o trials s = DE.step1 o trials s := by
  unfold DE.step2 DE.step1
  simp only
  rw [DE.evalAll_eq]

end MysticVerif.Solver
