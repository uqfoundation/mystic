/- Helper lemmas for the composition modes of generate_constraint / generate_penalty (model: Model/EmittedJoin.lean). -/
import MysticVerif.Model.EmittedJoin
import MysticVerif.Proofs.Emitted
import Mathlib.Algebra.Order.BigOperators.Group.List

set_option linter.unusedSectionVars false

namespace MysticVerif.Emitted

/-- the fold behind `order`, from an arbitrary start -/
def orderFrom {α : Type} (L : List α) (ws : List (CType × α)) : List α :=
  ws.foldl (fun L w => match w.1 with
    | .inner => L ++ [w.2]
    | .outer => w.2 :: L) L

theorem orderFrom_perm {α : Type} (ws : List (CType × α)) (L : List α) :
    (orderFrom L ws).Perm (L ++ ws.map (·.2)) := by
  induction ws generalizing L with
  | nil => simp [orderFrom]
  | cons w ws ih =>
    obtain ⟨c, a⟩ := w
    cases c
    · exact (ih (L ++ [a])).trans (by simp)
    · exact (ih (a :: L)).trans List.perm_middle.symm

theorem order_perm {α : Type} (ws : List (CType × α)) : (order ws).Perm (ws.map (·.2)) :=
  orderFrom_perm ws []

theorem mem_order {α : Type} {ws : List (CType × α)} {a : α} : a ∈ order ws ↔ ∃ w ∈ ws, w.2 = a :=
  (order_perm ws).mem_iff.trans List.mem_map

theorem orderFrom_map {α β : Type} (f : α → β) (ws : List (CType × α)) (L : List α) :
    orderFrom (L.map f) (ws.map fun w => (w.1, f w.2)) = (orderFrom L ws).map f := by
  induction ws generalizing L with
  | nil => rfl
  | cons w ws ih =>
    obtain ⟨c, a⟩ := w
    cases c
    · have := ih (L ++ [a])
      rwa [List.map_append] at this
    · exact ih (a :: L)

theorem order_map {α β : Type} (f : α → β) (ws : List (CType × α)) :
    order (ws.map fun w => (w.1, f w.2)) = (order ws).map f := orderFrom_map f ws []

/-- `inner` at every level keeps the list order -/
theorem orderFrom_all_inner {α : Type} (L L0 : List α) :
    orderFrom L0 ((List.replicate L.length CType.inner).zip L) = L0 ++ L := by
  induction L generalizing L0 with
  | nil => exact (List.append_nil L0).symm
  | cons a L ih => exact (ih (L0 ++ [a])).trans (List.append_assoc L0 [a] L)

section
-- implicit instances: see Proofs/Emitted.lean
variable {C R : Type} {_ : Add R} {_ : Sub R} {_ : Mul R} {_ : Div R} {_ : Neg R} {_ : LT R} {_ : DecidableLT R} {_ : BEq R}
  {_ : OfNat R 0} {_ : OfNat R 1}

theorem chain_append (env : Env C R) (L M : List (Assign C)) (x : List R) :
    chain env (L ++ M) x = chain env L (chain env M x) := List.foldr_append

theorem compose_from (env : Env C R) (ws : List (CType × Assign C)) (cf : List R → List R) (L : List (Assign C))
    (h : ∀ x, cf x = chain env L x) (x : List R) : (ws.foldl (step env) cf) x = chain env (orderFrom L ws) x := by
  induction ws generalizing cf L with
  | nil => exact h x
  | cons w ws ih =>
    obtain ⟨c, a⟩ := w
    cases c
    · exact ih _ (L ++ [a]) fun z => (h _).trans (chain_append env L [a] z).symm
    · exact ih _ (a :: L) fun z => congrArg (a.exec env) (h z)

theorem compose_eq_chain (env : Env C R) (ws : List (CType × Assign C)) (x : List R) :
    compose env ws x = chain env (order ws) x := compose_from env ws id [] (fun _ => rfl) x

theorem chainOpt_cons (env : Env C R) (c : Assign C) (cs : List (Assign C)) (x : List R) :
    chain? env (c :: cs) x =
      (chain? env cs x).bind fun v => if c.defined env v = true then some (c.exec env v) else none := rfl

theorem chainOpt_append_one (env : Env C R) (L : List (Assign C)) (s : Assign C) (x : List R) :
    chain? env (L ++ [s]) x = if s.defined env x = true then chain? env L (s.exec env x) else none := by
  unfold chain?
  rw [List.foldr_append]
  by_cases h : s.defined env x = true
  · simp only [List.foldr, Option.bind_some, if_pos h]
  · simp only [List.foldr, Option.bind_some, if_neg h]
    induction L with
    | nil => rfl
    | cons c L ih => rw [List.foldr_cons, ih]; rfl

theorem composeOpt_from (env : Env C R) (ws : List (CType × Assign C)) (cf? : List R → Option (List R))
    (L : List (Assign C)) (h : ∀ x, cf? x = chain? env L x) (x : List R) :
    (ws.foldl (step? env) cf?) x = chain? env (orderFrom L ws) x := by
  induction ws generalizing cf? L with
  | nil => exact h x
  | cons w ws ih =>
    obtain ⟨c, a⟩ := w
    cases c
    · exact ih _ (L ++ [a]) fun z => by rw [chainOpt_append_one]; simp only [step?, h]
    · exact ih _ (a :: L) fun z => by rw [chainOpt_cons]; simp only [step?, h]

theorem composeOpt_eq_chainOpt (env : Env C R) (ws : List (CType × Assign C)) (x : List R) :
    compose? env ws x = chain? env (order ws) x := composeOpt_from env ws some [] (fun _ => rfl) x

theorem chainOpt_sound (env : Env C R) (cs : List (Assign C)) (x y : List R) (h : chain? env cs x = some y) :
    y = chain env cs x ∧ ∀ c ∈ cs, ∃ z : List R, z.length = x.length ∧ c.defined env z = true := by
  induction cs generalizing y with
  | nil => exact ⟨(Option.some.inj h).symm, fun _ hc => nomatch hc⟩
  | cons c cs ih =>
    rw [chainOpt_cons] at h
    obtain ⟨z, hz, hy⟩ := Option.bind_eq_some_iff.mp h
    obtain ⟨rfl, ihd⟩ := ih z hz
    split at hy
    · rename_i hd
      refine ⟨(Option.some.inj hy).symm, fun c' hc' => ?_⟩
      rcases List.mem_cons.mp hc' with rfl | hm
      · exact ⟨_, chain_length env cs x, hd⟩
      · exact ihd c' hm
    · cases hy

theorem chainOpt_total (env : Env C R) (n : Nat) (cs : List (Assign C)) (x : List R) (hx : x.length = n)
    (hd : ∀ c ∈ cs, ∀ z : List R, z.length = n → c.defined env z = true) :
    chain? env cs x = some (chain env cs x) := by
  induction cs with
  | nil => rfl
  | cons c cs ih =>
    rw [chainOpt_cons, ih fun c' hc' => hd c' (List.mem_cons_of_mem _ hc'), Option.bind_some,
      if_pos (hd c List.mem_cons_self _ ((chain_length env cs x).trans hx)), chain_cons]

theorem composeOpt_sound (env : Env C R) (ws : List (CType × Assign C)) (x y : List R)
    (h : compose? env ws x = some y) :
    y = compose env ws x ∧ ∀ w ∈ ws, ∃ z : List R, z.length = x.length ∧ w.2.defined env z = true := by
  rw [composeOpt_eq_chainOpt] at h
  obtain ⟨hy, hd⟩ := chainOpt_sound env _ x y h
  exact ⟨hy.trans (compose_eq_chain env ws x).symm, fun w hw => hd w.2 (mem_order.mpr ⟨w, hw, rfl⟩)⟩

theorem composeOpt_target_lt (env : Env C R) (ws : List (CType × Assign C)) (x y : List R)
    (h : compose? env ws x = some y) : ∀ w ∈ ws, w.2.i < x.length := by
  intro w hw
  obtain ⟨z, hz, hd⟩ := (composeOpt_sound env ws x y h).2 w hw
  exact hz ▸ Assign.lt_of_defined hd

theorem composeOpt_total (env : Env C R) (n : Nat) (ws : List (CType × Assign C)) (x : List R) (hx : x.length = n)
    (hd : ∀ w ∈ ws, ∀ z : List R, z.length = n → w.2.defined env z = true) :
    compose? env ws x = some (compose env ws x) := by
  rw [composeOpt_eq_chainOpt, compose_eq_chain]
  refine chainOpt_total env n _ x hx fun c hc => ?_
  obtain ⟨w, hw, rfl⟩ := mem_order.mp hc
  exact hd w hw

theorem defined_set_of_not_mentions (env : Env C R) (x : List R) (i : Nat) (v : R) :
    ∀ e : Expr C, e.mentions i = false → e.defined env (x.set i v) = e.defined env x := by
  intro e
  induction e with
  | num c => intro _; rfl
  | var j => intro _; simp [Expr.defined]
  | add a b iha ihb | sub a b iha ihb | mul a b iha ihb | max a b iha ihb
  | min a b iha ihb | equal a b iha ihb | bor a b iha ihb =>
    intro h
    simp only [Expr.mentions, Bool.or_eq_false_iff] at h
    simp only [Expr.defined, iha h.1, ihb h.2]
  | div a b iha ihb =>
    intro h
    simp only [Expr.mentions, Bool.or_eq_false_iff] at h
    simp only [Expr.defined, iha h.1, ihb h.2, eval_set_of_not_mentions env x i v b h.2]
  | app2 f a b iha ihb =>
    intro h
    simp only [Expr.mentions, Bool.or_eq_false_iff] at h
    simp only [Expr.defined, iha h.1, ihb h.2, eval_set_of_not_mentions env x i v b h.2,
      eval_set_of_not_mentions env x i v a h.1]
  | neg a iha | tol a iha | isZero a iha | abs a iha | app1 f a iha =>
    intro h
    simp only [Expr.mentions] at h
    simp only [Expr.defined, iha h]
  | false_ => intro _; rfl

theorem emitG_defined_exec (env : Env C R) (r : Rel C) (B : Expr C) (c : C) (x : List R)
    (hfr : r.rhs.mentions r.i = false) (hBc : B.mentions r.i = false)
    (hdef : (emitG r B c).defined env x = true) :
    (emitG r B c).defined env ((emitG r B c).exec env x) = true := by
  unfold Assign.defined at hdef ⊢
  simp only [Bool.and_eq_true, decide_eq_true_eq] at hdef ⊢
  refine ⟨by rw [exec_length]; exact hdef.1, ?_⟩
  have hd2 := hdef.2
  unfold Assign.exec
  rw [emitG_i]
  have e1 : ∀ (v : R) (e : Expr C), e.mentions r.i = false → e.defined env (x.set r.i v) = e.defined env x :=
    defined_set_of_not_mentions env x r.i
  obtain ⟨ri, cmp, rhs⟩ := r
  simp only at hfr hBc e1
  -- a conjunction over `rhs`, `B` (they do not read `x_i`) and `x[i]` (it only asks for the length)
  cases cmp
  all_goals
    simp only [emitG, Expr.defined, Bool.and_eq_true, decide_eq_true_eq, List.length_set] at hd2 ⊢
    simp only [e1 _ rhs hfr, e1 _ B hBc]
    exact hd2

theorem member_of_lt (env : Env C R) (codes : List (Assign C)) {i : Nat} (h : i < codes.length) (x : List R) :
    member env codes i x = if codes[i].defined env x = true then some (codes[i].exec env x) else none := by
  unfold member; rw [List.getElem?_eq_getElem h]

end

variable {K : Type} [Field K] [LinearOrder K] [IsStrictOrderedRing K] {C : Type}

theorem sumL_eq (ps : List K) : sumL ps = ps.sum := List.sum_eq_foldl.symm

theorem sum_eq_zero_iff_of_nonneg {ps : List K} (h : ∀ p ∈ ps, 0 ≤ p) : ps.sum = 0 ↔ ∀ p ∈ ps, p = 0 :=
  ⟨List.all_zero_of_le_zero_le_of_sum_eq_zero h, List.sum_eq_zero⟩

theorem pyMin_eq_zero_iff {a b : K} (ha : 0 ≤ a) (hb : 0 ≤ b) : pyMin a b = 0 ↔ a = 0 ∨ b = 0 := by
  rw [pyMin_eq_min]
  constructor
  · intro h
    rcases min_choice a b with e | e <;> rw [e] at h
    · exact Or.inl h
    · exact Or.inr h
  · rintro (rfl | rfl)
    · exact min_eq_left hb
    · exact min_eq_right ha

theorem foldl_pyMin_zero_iff (ps : List K) (p : K) (h : ∀ q ∈ p :: ps, 0 ≤ q) :
    0 ≤ ps.foldl (fun a q => pyMin a q) p ∧ (ps.foldl (fun a q => pyMin a q) p = 0 ↔ ∃ q ∈ p :: ps, q = 0) := by
  induction ps generalizing p with
  | nil =>
    exact ⟨h p List.mem_cons_self, fun e => ⟨p, List.mem_cons_self, e⟩, fun ⟨q, hq, e⟩ => List.mem_singleton.mp hq ▸ e⟩
  | cons q ps ih =>
    have hp := h p List.mem_cons_self
    have hq := h q (List.mem_cons_of_mem _ List.mem_cons_self)
    have ih := ih (pyMin p q) (List.forall_mem_cons.mpr
      ⟨(le_min hp hq).trans_eq (pyMin_eq_min p q).symm, fun r hr => h r (List.mem_cons_of_mem _ (List.mem_cons_of_mem _ hr))⟩)
    refine ⟨ih.1, ?_⟩
    rw [List.foldl_cons, ih.2]
    simp only [List.mem_cons, exists_eq_or_imp]
    rw [pyMin_eq_zero_iff hp hq, or_assoc]

end MysticVerif.Emitted
