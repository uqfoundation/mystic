/-
Lemmas for the "applied measure collapse" part of C11 (Model/CollapseMeasure.lean): the groups that `tools.connected`
builds from the pairs of a `CollapsePosition` collapse satisfy what the lemmas about `impose_collapse`
(Proofs/DiscreteImpose.lean) need; one round on a parameter vector that is long enough; the composition of rounds.
-/
import MysticVerif.Model.CollapseMeasure
import MysticVerif.Proofs.CollapseApply
import MysticVerif.Proofs.DiscreteImpose

namespace MysticVerif.Clps
open MysticVerif.Discrete

theorem inGroup_iff_inGrp (g : Grp) (p : Nat) : Discrete.inGroup g p ↔ inGrp g p = true :=
  (inGrp_iff g p).symm

/-- for EVERY iteration order: the groups of in-range pairs whose keys are not among their own members are well
formed (what the weight part needs; no `noBridge`) -/
theorem connected_groups_wf (n : Nat) (pairs : List (Nat × Nat))
    (hr : ∀ p ∈ pairs, p.1 < n ∧ p.2 < n) (hk : keyFree (connected pairs) = true) :
    ∀ g ∈ connected pairs, GroupOK n g := by
  intro g hg
  exact ⟨connected_inR hr g hg g.1 (inGrp_key g), by simpa using List.all_eq_true.mp hk g hg⟩

/-- the groups of `connected` on pairs that never join two existing groups, are in range, and whose keys are not
among their own members: well formed, pairwise disjoint, every pair inside one group -/
theorem connected_groups_ok (n : Nat) (pairs : List (Nat × Nat)) (hb : noBridge pairs = true)
    (hr : ∀ p ∈ pairs, p.1 < n ∧ p.2 < n) (hk : keyFree (connected pairs) = true) :
    (∀ g ∈ connected pairs, GroupOK n g) ∧
    (connected pairs).Pairwise (fun a b => ∀ p, Discrete.inGroup a p → ¬ Discrete.inGroup b p) ∧
    (∀ p ∈ pairs, ∃ g ∈ connected pairs, Discrete.inGroup g p.1 ∧ Discrete.inGroup g p.2) := by
  refine ⟨connected_groups_wf n pairs hr hk, ?_, ?_⟩
  · refine List.Pairwise.imp ?_ (connected_disj hb)
    intro a b hab p hpa hpb
    exact Bool.false_ne_true ((hab p ((inGroup_iff_inGrp a p).1 hpa)).symm.trans ((inGroup_iff_inGrp b p).1 hpb))
  · intro p hp
    obtain ⟨g, hg, h1, h2⟩ := (foldl_connAdd_pair pairs []).2 p hp
    exact ⟨g, hg, (inGroup_iff_inGrp g p.1).2 h1, (inGroup_iff_inGrp g p.2).2 h2⟩

section Rounds
variable {R : Type} [Add R] [Sub R] [Mul R] [Div R] [Neg R] [LT R] [DecidableLT R] [LE R] [DecidableLE R]
  [OfNat R 0] [OfNat R 1] [BEq R]

theorem applyRounds_snoc (inf : R) (npts : List Nat) (rs : List MRound) (r : MRound) (x : List R) :
    applyRounds inf npts (rs ++ [r]) x = (applyRounds inf npts rs x).bind (applyMeasure inf npts r) := by
  induction rs generalizing x with
  | nil => exact Option.bind_fun_some _
  | cons r0 rs ih =>
    rw [List.cons_append, applyRounds, applyRounds, Option.bind_assoc]
    exact congrArg _ (funext ih)

end Rounds

variable {K : Type} [Field K] [LinearOrder K] [IsStrictOrderedRing K]

/-- one round on a vector that is long enough: the measure it loads, and what it returns (which reads back) -/
theorem applyMeasure_eq (inf : K) (npts : List Nat) (r : MRound) (x : List K) (hlen : 2 * npts.sum ≤ x.length) :
    ∃ c, unflatten (x.take (2 * npts.sum)) npts = some c ∧
      applyMeasure inf npts r x = some (flatten (imposeOn inf (trackGroups r.tracking) r.noweight c)) ∧
      pts (imposeOn inf (trackGroups r.tracking) r.noweight c) = npts ∧
      unflatten (flatten (imposeOn inf (trackGroups r.tracking) r.noweight c)) npts
        = some (imposeOn inf (trackGroups r.tracking) r.noweight c) := by
  obtain ⟨c, h1, h2, -, h4⟩ := imposeMeasure_eq inf npts (trackGroups r.tracking) r.noweight x hlen
  have hp := (imposeOn_pts inf (trackGroups r.tracking) r.noweight c).trans h2
  refine ⟨c, h1, h4, hp, ?_⟩
  rw [← hp, ← List.append_nil (flatten _)]
  exact Discrete.unflatten_flatten _ []

/-- the vector stays long enough through any number of rounds: each returns exactly `2*sum(npts)` numbers -/
theorem applyRounds_length (inf : K) (npts : List Nat) (rs : List MRound) (x y : List K)
    (hlen : 2 * npts.sum ≤ x.length) (h : applyRounds inf npts rs x = some y) : 2 * npts.sum ≤ y.length := by
  induction rs generalizing x with
  | nil => cases h; exact hlen
  | cons r rs ih =>
    obtain ⟨x', hx', hy⟩ := Option.bind_eq_some_iff.mp h
    obtain ⟨c, -, h2, h3, -⟩ := applyMeasure_eq inf npts r x hlen
    cases hx'.symm.trans h2
    exact ih _ (by rw [length_flatten, h3]) hy

end MysticVerif.Clps
