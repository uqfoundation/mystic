/- invariants of the Powell-in-S model (used by Props/C01-C04) -/
import MysticVerif.Model.PowellS
import MysticVerif.Proofs.NelderMead

namespace MysticVerif.PowellS
open MysticVerif.Solver

variable {R E : Type}

theorem objK_log_length (o : Obj (Pt R) E) (x : Pt R) (log : List (Pt R × E)) :
    (o.objK x log).2.length ≤ log.length + 1 :=
  objK_log_le o x log

theorem evalMany_appended (o : Obj (Pt R) E) :
    ∀ (ps : List (Pt R)) (log : List (Pt R × E)), Appended o log (evalMany o ps log) := by
  intro ps
  induction ps with
  | nil => intro log; exact Appended.refl o log
  | cons p ps ih => intro log; exact (objK_appended o p log).trans (ih _)

theorem lineSearch_appended (o : Obj (Pt R) E) (r : LsRec R) (log : List (Pt R × E)) :
    Appended o log (lineSearch o r log).2 :=
  ((evalMany_appended o r.pre log).trans (objK_appended o r.y _)).trans (evalMany_appended o r.post _)

theorem lineSearch_fst (o : Obj (Pt R) E) (r : LsRec R) (log : List (Pt R × E)) :
    (lineSearch o r log).1 = o.energy (o.K r.y) :=
  objAt_fst o _ _

/-- the CONSTRAINED returned point carries the returned energy legitimately (direction loop) -/
theorem lineSearch_good [LinearOrder E] {o : Obj (Pt R) E} (h : Hyp o) (r : LsRec R) (log : List (Pt R × E)) :
    Good o (lineSearch o r log).2 (o.K r.y) (lineSearch o r log).1 :=
  (objAt_good h r.y (evalMany o r.pre log)).mono (evalMany_appended o r.post _).subset

/-- the returned point itself carries the energy of its constrained image (extrapolation step) -/
theorem lineSearch_goodK [LinearOrder E] {o : Obj (Pt R) E} (h : Hyp o) (r : LsRec R) (log : List (Pt R × E)) :
    GoodK o (lineSearch o r log).2 (r.y, (lineSearch o r log).1) :=
  (objK_good h id (fun _ => rfl) r.y (evalMany o r.pre log)).mono (evalMany_appended o r.post _).subset

/-- what holds between the two halves of an iteration (after the extrapolation step) and at every boundary -/
structure PwInvK [LinearOrder E] (o : Obj (Pt R) E) (s : Pw R E) : Prop where
  /-- the stored energy is the decorated cost at the stored point -/
  fvalEq : s.fval = o.energy (o.K s.x)
  bestK : GoodK o s.log (s.x, s.fval)
  logOK : LogOK o s.log
  recs : ∀ p ∈ s.stepLog, GoodK o s.log p
  dne : s.direc ≠ []

/-- what holds at every `_Step` boundary -/
structure PwInv [LinearOrder E] (o : Obj (Pt R) E) (s : Pw R E) : Prop extends PwInvK o s where
  best : Good o s.log s.x s.fval

theorem recs_snoc {o : Obj (Pt R) E} {log log' : List (Pt R × E)} {l : List (Pt R × E)} {q : Pt R × E}
    (hl : ∀ p ∈ l, GoodK o log p) (hsub : ∀ p ∈ log, p ∈ log') (hq : GoodK o log' q) :
    ∀ p ∈ l ++ [q], GoodK o log' p := fun p hp =>
  (List.mem_append.mp hp).elim (fun h' => (hl p h').mono hsub) (fun h' => List.mem_singleton.mp h' ▸ hq)

theorem dirStep_inv [LinearOrder E] {o : Obj (Pt R) E} (h : Hyp o) (c : PwCfg R E) (ls : Nat → Pt R → Pt R → LsRec R)
    (d : Pt R) (i : Nat) (s : Pw R E) (hs : PwInvK o s) : PwInv o (dirStep o c ls d i s) := by
  have ha := lineSearch_appended o (ls s.nls s.x d) s.log
  have hg := lineSearch_good h (ls s.nls s.x d) s.log
  refine ⟨⟨?_, good_goodK hg, ha.logOK h hs.logOK, fun p hp => (hs.recs p hp).mono ha.subset, hs.dne⟩, hg⟩
  simp only [dirStep, lineSearch_fst, h.idem]

theorem dirStep_direc (o : Obj (Pt R) E) (c : PwCfg R E) (ls : Nat → Pt R → Pt R → LsRec R) (d : Pt R) (i : Nat) (s : Pw R E) :
    (dirStep o c ls d i s).direc = s.direc ∧ (dirStep o c ls d i s).stepLog = s.stepLog ∧
      (dirStep o c ls d i s).pending = s.pending ∧ (dirStep o c ls d i s).x1 = s.x1 := ⟨rfl, rfl, rfl, rfl⟩

theorem dirLoop_induction (o : Obj (Pt R) E) (c : PwCfg R E) (ls : Nat → Pt R → Pt R → LsRec R) (P : Pw R E → Prop)
    (hP : ∀ (d : Pt R) (i : Nat) (s : Pw R E), P s → P (dirStep o c ls d i s)) :
    ∀ (ds : List (Pt R)) (i : Nat) (s : Pw R E), P s → P (dirLoop o c ls ds i s) := by
  intro ds
  induction ds with
  | nil => intro _ _ hs; exact hs
  | cons d ds ih => intro i s hs; exact ih (i + 1) _ (hP d i s hs)

theorem dirLoop_frame (o : Obj (Pt R) E) (c : PwCfg R E) (ls : Nat → Pt R → Pt R → LsRec R) (ds : List (Pt R)) (i : Nat)
    (s : Pw R E) :
    (dirLoop o c ls ds i s).direc = s.direc ∧ (dirLoop o c ls ds i s).stepLog = s.stepLog ∧
      (dirLoop o c ls ds i s).pending = s.pending ∧ (dirLoop o c ls ds i s).x1 = s.x1 :=
  dirLoop_induction o c ls
    (fun s' => s'.direc = s.direc ∧ s'.stepLog = s.stepLog ∧ s'.pending = s.pending ∧ s'.x1 = s.x1)
    (fun _ _ _ hs => hs) ds i s ⟨rfl, rfl, rfl, rfl⟩  -- `dirStep` touches none of these fields

theorem dirLoop_appended (o : Obj (Pt R) E) (c : PwCfg R E) (ls : Nat → Pt R → Pt R → LsRec R) (ds : List (Pt R))
    (i : Nat) (s : Pw R E) : Appended o s.log (dirLoop o c ls ds i s).log :=
  dirLoop_induction o c ls (fun s' => Appended o s.log s'.log)
    (fun d _ s' hs => hs.trans (lineSearch_appended o (ls s'.nls s'.x d) s'.log)) ds i s (Appended.refl o _)

/-- a direction loop over at least one direction ends in a boundary state -/
theorem dirLoop_inv [LinearOrder E] {o : Obj (Pt R) E} (h : Hyp o) (c : PwCfg R E) (ls : Nat → Pt R → Pt R → LsRec R) :
    ∀ (ds : List (Pt R)) (i : Nat) (s : Pw R E), ds ≠ [] → PwInvK o s → PwInv o (dirLoop o c ls ds i s)
  | [], _, _, hne, _ => absurd rfl hne
  | d :: ds, i, s, _, hs =>
    dirLoop_induction o c ls (PwInv o) (fun d i s hs => dirStep_inv h c ls d i s hs.toPwInvK) ds (i + 1) _
      (dirStep_inv h c ls d i s hs)

theorem PwInvK.withInternals [LinearOrder E] {o : Obj (Pt R) E} {s : Pw R E} (hs : PwInvK o s) (x1 : Pt R) (fx : E) (b : Nat)
    (dl : E) (pend : Bool) : PwInvK o { s with x1 := x1, fx := fx, bigind := b, delta := dl, pending := pend } :=
  ⟨hs.fvalEq, hs.bestK, hs.logOK, hs.recs, hs.dne⟩

theorem sweep_inv [LinearOrder E] {o : Obj (Pt R) E} (h : Hyp o) (c : PwCfg R E) (ls : Nat → Pt R → Pt R → LsRec R)
    (s : Pw R E) (hs : PwInvK o s) : PwInv o (sweep o c ls s) := by
  have h1 := dirLoop_inv h c ls s.direc 0 { s with fx := s.fval, bigind := 0, delta := c.zeroE } hs.dne
    (hs.withInternals s.x1 s.fval 0 c.zeroE s.pending)
  -- `sweep` only sets `pending`, which the invariant does not mention
  exact ⟨⟨h1.fvalEq, h1.bestK, h1.logOK, h1.recs, h1.dne⟩, h1.best⟩

theorem sweep_stepLog (o : Obj (Pt R) E) (c : PwCfg R E) (ls : Nat → Pt R → Pt R → LsRec R) (s : Pw R E) :
    (sweep o c ls s).stepLog = s.stepLog ∧ (sweep o c ls s).pending = true :=
  ⟨(dirLoop_frame o c ls s.direc 0 _).2.1, rfl⟩

theorem gen0_inv [LinearOrder E] {o : Obj (Pt R) E} (h : Hyp o) (c : PwCfg R E) (record : Bool) (x0 : Pt R) (direc : List (Pt R))
    (hd : direc ≠ []) : PwInv o (gen0 o c record x0 direc) := by
  have hg : Good o (o.objK (o.K x0) []).2 (o.K x0) (o.objK (o.K x0) []).1 := by
    have := objAt_good h (o.K x0) []
    unfold Obj.objK
    rw [h.idem] at this ⊢
    exact this
  refine ⟨⟨objAt_fst o _ _, good_goodK hg, (objK_appended o _ []).logOK h (fun _ hp => nomatch hp), ?_, hd⟩, hg⟩
  intro p hp
  cases record
  · cases hp
  · rw [List.mem_singleton.mp hp]; exact good_goodK hg

theorem gen1_inv [LinearOrder E] {o : Obj (Pt R) E} (h : Hyp o) (c : PwCfg R E) (ls : Nat → Pt R → Pt R → LsRec R)
    (s : Pw R E) (hs : PwInvK o s) : PwInv o (gen1 o c ls s) :=
  sweep_inv h c ls _ (hs.withInternals s.x s.fx s.bigind s.delta s.pending)

/-- the second half of an iteration: `2x - x1` is evaluated; then the point is kept, or the search along `x - x1` made -/
theorem extrapolate_cases [Sub R] [Mul R] [LT E] [DecidableLT E] (o : Obj (Pt R) E) (c : PwCfg R E)
    (ls : Nat → Pt R → Pt R → LsRec R) (s : Pw R E) :
    (¬ ((o.objK (vsub (vscale c.two s.x) s.x1) s.log).1 < s.fx ∧
          c.tneg s.fx (o.objK (vsub (vscale c.two s.x) s.x1) s.log).1 s.fval s.delta = true) ∧
      extrapolate o c ls s =
        { s with x1 := s.x, log := (o.objK (vsub (vscale c.two s.x) s.x1) s.log).2,
                 stepLog := s.stepLog ++ [(s.x, s.fval)], pending := false }) ∨
    (((o.objK (vsub (vscale c.two s.x) s.x1) s.log).1 < s.fx ∧
          c.tneg s.fx (o.objK (vsub (vscale c.two s.x) s.x1) s.log).1 s.fval s.delta = true) ∧
      extrapolate o c ls s =
        { s with x := (ls s.nls s.x (vsub s.x s.x1)).y,
                 fval := (lineSearch o (ls s.nls s.x (vsub s.x s.x1)) (o.objK (vsub (vscale c.two s.x) s.x1) s.log).2).1,
                 x1 := s.x,
                 log := (lineSearch o (ls s.nls s.x (vsub s.x s.x1)) (o.objK (vsub (vscale c.two s.x) s.x1) s.log).2).2,
                 nls := s.nls + 1, reqs := s.reqs ++ [(s.x, vsub s.x s.x1)],
                 direc := (s.direc.set s.bigind (s.direc.getLast?.getD [])).set (s.direc.length - 1)
                   (ls s.nls s.x (vsub s.x s.x1)).xi,
                 stepLog := s.stepLog ++ [((ls s.nls s.x (vsub s.x s.x1)).y,
                   (lineSearch o (ls s.nls s.x (vsub s.x s.x1)) (o.objK (vsub (vscale c.two s.x) s.x1) s.log).2).1)],
                 pending := false }) := by
  unfold extrapolate
  by_cases h1 : (o.objK (vsub (vscale c.two s.x) s.x1) s.log).1 < s.fx
  · by_cases h2 : c.tneg s.fx (o.objK (vsub (vscale c.two s.x) s.x1) s.log).1 s.fval s.delta = true
    · exact Or.inr ⟨⟨h1, h2⟩, by simp only [if_pos h1, if_pos h2]⟩
    · exact Or.inl ⟨fun hc => h2 hc.2, by simp only [if_pos h1, if_neg h2]⟩
  · exact Or.inl ⟨fun hc => h1 hc.1, by simp only [if_neg h1]⟩

/-- the second half of an iteration keeps the weak invariant (the new point may be unconstrained) -/
theorem extrapolate_inv [Sub R] [Mul R] [LinearOrder E] {o : Obj (Pt R) E} (h : Hyp o) (c : PwCfg R E)
    (ls : Nat → Pt R → Pt R → LsRec R) (s : Pw R E) (hs : PwInvK o s) : PwInvK o (extrapolate o c ls s) := by
  have hp := objK_appended o (vsub (vscale c.two s.x) s.x1) s.log
  rcases extrapolate_cases o c ls s with ⟨_, e⟩ | ⟨_, e⟩ <;> rw [e]
  · have hb := hs.bestK.mono hp.subset
    exact ⟨hs.fvalEq, hb, hp.logOK h hs.logOK, recs_snoc hs.recs hp.subset hb, hs.dne⟩
  · have ha := hp.trans (lineSearch_appended o (ls s.nls s.x (vsub s.x s.x1)) _)
    have hgk := lineSearch_goodK h (ls s.nls s.x (vsub s.x s.x1)) (o.objK (vsub (vscale c.two s.x) s.x1) s.log).2
    exact ⟨lineSearch_fst o _ _, hgk, ha.logOK h hs.logOK, recs_snoc hs.recs ha.subset hgk,
      fun hnil => hs.dne ((List.set_eq_nil_iff _ _).mp ((List.set_eq_nil_iff _ _).mp hnil))⟩

theorem extrapolate_appended [Sub R] [Mul R] [LT E] [DecidableLT E] (o : Obj (Pt R) E) (c : PwCfg R E)
    (ls : Nat → Pt R → Pt R → LsRec R) (s : Pw R E) : Appended o s.log (extrapolate o c ls s).log := by
  have hp := objK_appended o (vsub (vscale c.two s.x) s.x1) s.log
  rcases extrapolate_cases o c ls s with ⟨_, e⟩ | ⟨_, e⟩ <;> rw [e]
  · exact hp
  · exact hp.trans (lineSearch_appended o _ _)

theorem extrapolate_stepLog_pending [Sub R] [Mul R] [LT E] [DecidableLT E] (o : Obj (Pt R) E) (c : PwCfg R E)
    (ls : Nat → Pt R → Pt R → LsRec R) (s : Pw R E) :
    (extrapolate o c ls s).stepLog = s.stepLog ++ [((extrapolate o c ls s).x, (extrapolate o c ls s).fval)] ∧
      (extrapolate o c ls s).pending = false := by
  rcases extrapolate_cases o c ls s with ⟨_, e⟩ | ⟨_, e⟩ <;> rw [e] <;> exact ⟨rfl, rfl⟩

theorem extrapolate_stepLog_length [Sub R] [Mul R] [LinearOrder E] (o : Obj (Pt R) E) (c : PwCfg R E)
    (ls : Nat → Pt R → Pt R → LsRec R) (s : Pw R E) :
    (extrapolate o c ls s).stepLog.length = s.stepLog.length + 1 ∧ (extrapolate o c ls s).pending = false := by
  obtain ⟨e, hp⟩ := extrapolate_stepLog_pending o c ls s
  exact ⟨by rw [e, List.length_append, List.length_singleton], hp⟩

theorem genN_inv [Sub R] [Mul R] [LinearOrder E] {o : Obj (Pt R) E} (h : Hyp o) (c : PwCfg R E)
    (ls : Nat → Pt R → Pt R → LsRec R) (s : Pw R E) (hs : PwInvK o s) : PwInv o (genN o c ls s) :=
  sweep_inv h c ls _ (extrapolate_inv h c ls s hs)

theorem run_induction [Sub R] [Mul R] [LT E] [DecidableLT E] (o : Obj (Pt R) E) (c : PwCfg R E)
    (ls : Nat → Pt R → Pt R → LsRec R) (P : Pw R E → Prop) (hP : ∀ s, P s → P (genN o c ls s)) :
    ∀ (n : Nat) (s : Pw R E), P s → P (run o c ls n s) := by
  intro n
  induction n with
  | zero => intro _ hs; exact hs
  | succ n ih => intro s hs; exact ih _ (hP s hs)

theorem run_inv [Sub R] [Mul R] [LinearOrder E] {o : Obj (Pt R) E} (h : Hyp o) (c : PwCfg R E)
    (ls : Nat → Pt R → Pt R → LsRec R) : ∀ (n : Nat) (s : Pw R E), PwInv o s → PwInv o (run o c ls n s) :=
  run_induction o c ls (PwInv o) fun s hs => genN_inv h c ls s hs.toPwInvK

theorem genN_appended [Sub R] [Mul R] [LT E] [DecidableLT E] (o : Obj (Pt R) E) (c : PwCfg R E)
    (ls : Nat → Pt R → Pt R → LsRec R) (s : Pw R E) : Appended o s.log (genN o c ls s).log :=
  (extrapolate_appended o c ls s).trans (dirLoop_appended o c ls _ 0 _)

theorem run_appended [Sub R] [Mul R] [LT E] [DecidableLT E] (o : Obj (Pt R) E) (c : PwCfg R E)
    (ls : Nat → Pt R → Pt R → LsRec R) (n : Nat) (s : Pw R E) : Appended o s.log (run o c ls n s).log :=
  run_induction o c ls (fun s' => Appended o s.log s'.log) (fun s' hs => hs.trans (genN_appended o c ls s')) n s
    (Appended.refl o _)

theorem run_log_prefix [Sub R] [Mul R] [LinearOrder E] (o : Obj (Pt R) E) (c : PwCfg R E)
    (ls : Nat → Pt R → Pt R → LsRec R) : ∀ (n : Nat) (s : Pw R E), ∃ t, (run o c ls n s).log = s.log ++ t :=
  fun n s => (run_appended o c ls n s).imp fun _ ht => ht.1

theorem run_stepLog_length [Sub R] [Mul R] [LinearOrder E] (o : Obj (Pt R) E) (c : PwCfg R E)
    (ls : Nat → Pt R → Pt R → LsRec R) : ∀ (n : Nat) (s : Pw R E), (run o c ls n s).stepLog.length = s.stepLog.length + n := by
  intro n
  induction n with
  | zero => intro _; rfl
  | succ n ih =>
    intro s
    have h1 : (genN o c ls s).stepLog.length = s.stepLog.length + 1 :=
      (congrArg List.length (sweep_stepLog o c ls _).1).trans (extrapolate_stepLog_length o c ls s).1
    exact (ih (genN o c ls s)).trans (by rw [h1, Nat.add_assoc, Nat.add_comm 1])

/-- if the extrapolation line search is NOT taken the record is the (constrained, evaluated) boundary point -/
theorem extrapolate_record_good [Sub R] [Mul R] [LinearOrder E] {o : Obj (Pt R) E} (c : PwCfg R E)
    (ls : Nat → Pt R → Pt R → LsRec R) (s : Pw R E) (hs : PwInv o s)
    (hno : ¬ ((o.objK (vsub (vscale c.two s.x) s.x1) s.log).1 < s.fx ∧
               c.tneg s.fx (o.objK (vsub (vscale c.two s.x) s.x1) s.log).1 s.fval s.delta = true)) :
    (extrapolate o c ls s).stepLog = s.stepLog ++ [(s.x, s.fval)] ∧
      Good o (extrapolate o c ls s).log s.x s.fval := by
  rcases extrapolate_cases o c ls s with ⟨_, e⟩ | ⟨hc, _⟩
  · rw [e]
    exact ⟨rfl, hs.best.mono (objK_appended o _ s.log).subset⟩
  · exact absurd hc hno

/-- the constrained image of the point a search returns has energy at most that of its start point (Brent's bracket
starts at `alpha = 0` and the search returns the best point it evaluated) -/
def LsMono (o : Obj (Pt R) E) [LE E] (ls : Nat → Pt R → Pt R → LsRec R) : Prop :=
  ∀ k p xi, o.energy (o.K (ls k p xi).y) ≤ o.energy (o.K p)

structure HistInv [LinearOrder E] (s : Pw R E) : Prop where
  anti : s.hist.Pairwise (· ≥ ·)
  le : ∀ e ∈ s.hist, s.fval ≤ e

theorem dirStep_fval_le [LinearOrder E] {o : Obj (Pt R) E} (c : PwCfg R E) (ls : Nat → Pt R → Pt R → LsRec R)
    (hm : LsMono o ls) (d : Pt R) (i : Nat) (s : Pw R E) (hs : s.fval = o.energy (o.K s.x)) :
    (dirStep o c ls d i s).fval ≤ s.fval := by
  simp only [dirStep, lineSearch_fst]
  rw [hs]
  exact hm _ _ _

theorem sweep_fval_le [LinearOrder E] {o : Obj (Pt R) E} (h : Hyp o) (c : PwCfg R E) (ls : Nat → Pt R → Pt R → LsRec R)
    (hm : LsMono o ls) (s : Pw R E) (hs : PwInvK o s) : (sweep o c ls s).fval ≤ s.fval :=
  (dirLoop_induction o c ls (fun s' => PwInvK o s' ∧ s'.fval ≤ s.fval)
    (fun d i s' hs' => ⟨(dirStep_inv h c ls d i s' hs'.1).toPwInvK,
      le_trans (dirStep_fval_le c ls hm d i s' hs'.1.fvalEq) hs'.2⟩)
    s.direc 0 _ ⟨hs.withInternals s.x1 s.fval 0 c.zeroE s.pending, le_refl _⟩).2

theorem extrapolate_fval_le [Sub R] [Mul R] [LinearOrder E] {o : Obj (Pt R) E} (c : PwCfg R E)
    (ls : Nat → Pt R → Pt R → LsRec R) (hm : LsMono o ls) (s : Pw R E) (hs : s.fval = o.energy (o.K s.x)) :
    (extrapolate o c ls s).fval ≤ s.fval := by
  rcases extrapolate_cases o c ls s with ⟨_, e⟩ | ⟨_, e⟩
  · rw [e]
  · rw [e]
    simp only [lineSearch_fst]
    rw [hs]
    exact hm _ _ _

theorem hist_of_pending {s : Pw R E} (hp : s.pending = true) : s.hist = s.stepLog.map Prod.snd ++ [s.fval] := by
  unfold Pw.hist; rw [hp]; rfl

/-- the entries of the history that are step records (dropping the deferred one) -/
theorem hist_stepLog_le [LinearOrder E] {s : Pw R E} (hh : HistInv s) : ∀ e ∈ s.stepLog.map Prod.snd, s.fval ≤ e :=
  fun e he => hh.le e (by unfold Pw.hist; exact List.mem_append_left _ he)

theorem hist_stepLog_anti [LinearOrder E] {s : Pw R E} (hh : HistInv s) : (s.stepLog.map Prod.snd).Pairwise (· ≥ ·) := by
  have := hh.anti
  unfold Pw.hist at this
  exact (List.pairwise_append.mp this).1

theorem HistInv.snoc [LinearOrder E] {s s' : Pw R E} (hh : HistInv s) (hle : s'.fval ≤ s.fval)
    (hhist : s'.hist = s.stepLog.map Prod.snd ++ [s'.fval]) : HistInv s' := by
  have := hist_snoc (e := s'.fval) (hist_stepLog_anti hh) (fun a ha => le_trans hle (hist_stepLog_le hh a ha))
  exact ⟨by rw [hhist]; exact this.1, by rw [hhist]; exact this.2⟩

theorem extrapolate_hist [Sub R] [Mul R] [LinearOrder E] {o : Obj (Pt R) E} (c : PwCfg R E)
    (ls : Nat → Pt R → Pt R → LsRec R) (hm : LsMono o ls) (s : Pw R E) (hs : PwInvK o s) (hh : HistInv s) :
    HistInv (extrapolate o c ls s) := by
  obtain ⟨hsl, hp⟩ := extrapolate_stepLog_pending o c ls s
  refine hh.snoc (extrapolate_fval_le c ls hm s hs.fvalEq) ?_
  unfold Pw.hist
  rw [hp, hsl, List.map_append]
  exact List.append_nil _

theorem sweep_hist [LinearOrder E] {o : Obj (Pt R) E} (h : Hyp o) (c : PwCfg R E) (ls : Nat → Pt R → Pt R → LsRec R)
    (hm : LsMono o ls) (s : Pw R E) (hs : PwInvK o s) (hh : HistInv s) : HistInv (sweep o c ls s) := by
  obtain ⟨hsl, hp⟩ := sweep_stepLog o c ls s
  refine hh.snoc (sweep_fval_le h c ls hm s hs) ?_
  rw [hist_of_pending hp, hsl]

theorem gen0_hist [LinearOrder E] (o : Obj (Pt R) E) (c : PwCfg R E) (record : Bool) (x0 : Pt R) (direc : List (Pt R)) :
    HistInv (gen0 o c record x0 direc) ∧ (gen0 o c record x0 direc).pending = false := by
  cases record
  · exact ⟨⟨List.Pairwise.nil, (fun _ he => nomatch he)⟩, rfl⟩
  · exact ⟨⟨List.pairwise_singleton _ _, fun e he => le_of_eq (List.mem_singleton.mp he).symm⟩, rfl⟩

theorem genN_hist [Sub R] [Mul R] [LinearOrder E] {o : Obj (Pt R) E} (h : Hyp o) (c : PwCfg R E)
    (ls : Nat → Pt R → Pt R → LsRec R) (hm : LsMono o ls) (s : Pw R E) (hs : PwInvK o s) (hh : HistInv s) :
    HistInv (genN o c ls s) :=
  sweep_hist h c ls hm _ (extrapolate_inv h c ls s hs) (extrapolate_hist c ls hm s hs hh)

/-! ### every state a run reaches: generation 0, generation 1, then `n` further `_Step`s -/

def reach [Sub R] [Mul R] [LT E] [DecidableLT E] (o : Obj (Pt R) E) (c : PwCfg R E) (ls : Nat → Pt R → Pt R → LsRec R)
    (record : Bool) (x0 : Pt R) (direc : List (Pt R)) (n : Nat) : Pw R E :=
  run o c ls n (gen1 o c ls (gen0 o c record x0 direc))

theorem reach_inv [Sub R] [Mul R] [LinearOrder E] {o : Obj (Pt R) E} (h : Hyp o) (c : PwCfg R E)
    (ls : Nat → Pt R → Pt R → LsRec R) (record : Bool) (x0 : Pt R) (direc : List (Pt R)) (hd : direc ≠ []) (n : Nat) :
    PwInv o (reach o c ls record x0 direc n) :=
  run_inv h c ls n _ (gen1_inv h c ls _ (gen0_inv h c record x0 direc hd).toPwInvK)

theorem run_hist [Sub R] [Mul R] [LinearOrder E] {o : Obj (Pt R) E} (h : Hyp o) (c : PwCfg R E)
    (ls : Nat → Pt R → Pt R → LsRec R) (hm : LsMono o ls) :
    ∀ (n : Nat) (s : Pw R E), PwInv o s → HistInv s → HistInv (run o c ls n s) :=
  fun n s hs hh => (run_induction o c ls (fun s => PwInv o s ∧ HistInv s)
    (fun s hs => ⟨genN_inv h c ls s hs.1.toPwInvK, genN_hist h c ls hm s hs.1.toPwInvK hs.2⟩) n s ⟨hs, hh⟩).2

theorem reach_hist [Sub R] [Mul R] [LinearOrder E] {o : Obj (Pt R) E} (h : Hyp o) (c : PwCfg R E)
    (ls : Nat → Pt R → Pt R → LsRec R) (hm : LsMono o ls) (record : Bool) (x0 : Pt R) (direc : List (Pt R))
    (hd : direc ≠ []) (n : Nat) : HistInv (reach o c ls record x0 direc n) := by
  have h0 := (gen0_inv h c record x0 direc hd).toPwInvK
  have hh0 := (gen0_hist o c record x0 direc).1
  exact run_hist h c ls hm n _ (gen1_inv h c ls _ h0)
    (sweep_hist h c ls hm _ (h0.withInternals _ _ _ _ _) ⟨hh0.anti, hh0.le⟩)

theorem run_fval_le [Sub R] [Mul R] [LinearOrder E] {o : Obj (Pt R) E} (h : Hyp o) (c : PwCfg R E)
    (ls : Nat → Pt R → Pt R → LsRec R) (hm : LsMono o ls) :
    ∀ (n : Nat) (s : Pw R E), PwInv o s → (run o c ls n s).fval ≤ s.fval :=
  fun n s hs => (run_induction o c ls (fun s' => PwInv o s' ∧ s'.fval ≤ s.fval)
    (fun s' hs' => ⟨genN_inv h c ls s' hs'.1.toPwInvK,
      le_trans (le_trans (sweep_fval_le h c ls hm _ (extrapolate_inv h c ls s' hs'.1.toPwInvK))
        (extrapolate_fval_le c ls hm s' hs'.1.fvalEq)) hs'.2⟩)
    n s ⟨hs, le_refl _⟩).2

end MysticVerif.PowellS
