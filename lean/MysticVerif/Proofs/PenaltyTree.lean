/- `Model/PenaltyTree.lean`: on every chain the tree functions ARE the flat ones of `Model/Penalty.lean`; a call on one
object changes nothing but the iteration state of its chain -/
import MysticVerif.Model.PenaltyTree
import MysticVerif.Proofs.Penalty

-- lemmas carry their section's instances, used or not
set_option linter.unusedSectionVars false

namespace MysticVerif.C15
open MysticVerif.Pen

variable {R : Type}

def chainLevels (t : PT R) : List (Level R) := (chain t).map (·.1)

/-- the conditions of the chain (with the member objects and THEIR state inside) -/
def chainConds (t : PT R) : List (PC R) := (chain t).map (·.2)

theorem chain_iterT (i : Option Int) :
    ∀ t : PT R, chainLevels (iterT i t) = iterStack i (chainLevels t) ∧ chainConds (iterT i t) = chainConds t
      ∧ baseOf (iterT i t) = baseOf t
  | .base _ => ⟨rfl, rfl, rfl⟩
  | .pen _ c inner =>
    have ⟨h1, h2, h3⟩ := chain_iterT i inner
    ⟨congrArg (_ :: ·) h1, congrArg (c :: ·) h2, h3⟩

theorem chain_clearT :
    ∀ t : PT R, chainLevels (clearT t) = clearStack (chainLevels t) ∧ chainConds (clearT t) = chainConds t
      ∧ baseOf (clearT t) = baseOf t
  | .base _ => ⟨rfl, rfl, rfl⟩
  | .pen _ c inner =>
    have ⟨h1, h2, h3⟩ := chain_clearT inner
    ⟨congrArg (_ :: ·) h1, congrArg (c :: ·) h2, h3⟩

theorem skel_clean_iterT (i : Option Int) : ∀ t : PT R, skelT (iterT i t) = skelT t ∧ cleanT (iterT i t) = cleanT t
  | .base _ => ⟨rfl, rfl⟩
  | .pen l c inner => by simp only [iterT, skelT, cleanT, skel_clean_iterT i inner, and_self]

theorem skel_clearT : ∀ t : PT R, skelT (clearT t) = skelT t
  | .base f => rfl
  | .pen l c inner => by simp only [clearT, skelT, skel_clearT inner]

theorem clean_clearT : ∀ t : PT R, cleanT t = true → cleanT (clearT t) = true
  | .base f, _ => rfl
  | .pen l c inner, h => by
    simp only [cleanT, Bool.and_eq_true] at h
    simp only [clearT, cleanT, Bool.and_eq_true, List.isEmpty_nil, Bool.or_true, true_and]
    exact ⟨h.1.2, clean_clearT inner h.2⟩

section ops
variable [Add R] [Sub R] [Mul R] [Div R] [Neg R] [LT R] [DecidableLT R] [BEq R]
  [OfNat R 0] [OfNat R 1] [OfNat R 2] [PenOps R]

/-- the chain of `t` with every condition evaluated at the point of `env` -/
def chainVals (env : Env R) (t : PT R) : List (Level R × Option R) :=
  (chain t).map fun p => (p.1, condV env p.2)

theorem evalT_eq_evalStack (env : Env R) :
    ∀ t : PT R, evalT env t = evalStack (chainVals env t) (env.f (baseOf t))
  | .base f => by rw [evalT]; rfl
  | .pen l c inner => by
    rw [evalT, evalT_eq_evalStack env inner]
    cases hc : condV env c with
    | none => simp only [chainVals, chain, List.map_cons, hc]; rfl
    | some pf => simp only [chainVals, chain, List.map_cons, hc, evalStack, baseOf]; rfl

theorem errT_eq_errStack (env : Env R) :
    ∀ t : PT R, errT env t = errStack (chainVals env t)
  | .base f => rfl
  | .pen l c (.base f) => by
    simp only [errT, chainVals, chain, List.map_cons, List.map_nil]
    cases condV env c <;> rfl
  | .pen l c (.pen l2 c2 i2) => by
    have ih := errT_eq_errStack env (.pen l2 c2 i2)
    simp only [chainVals, chain, List.map_cons] at ih
    simp only [errT, chainVals, chain, List.map_cons, ih]
    cases condV env c <;> rfl

theorem evalT_pen_base (env : Env R) (l : Level R) (c : PC R) (z : Nat) :
    evalT env (.pen l c (.base z)) = evalStack [(l, condV env c)] (env.f z) :=
  evalT_eq_evalStack env (.pen l c (.base z))

theorem condV_not (env : Env R) (t : PType) {c : PC R} {v : R} (hc : condV env c = some v) :
    condV env (.not t c) = some (notCond t v) := by
  simp only [condV, hc]

theorem condV_and (env : Env R) {ms : PL R} {vals : List R} (hv : valsL env ms = some vals) :
    condV env (.and ms) = some (andCond vals) := by
  simp only [condV, hv]

theorem condV_or (env : Env R) {m : PT R} {ms : PL R} {v : R} {vals : List R} (hm : evalT env m = .ok v)
    (hv : valsL env ms = some vals) : condV env (.or m ms) = some (orCond v vals) := by
  simp only [condV, hm, hv]

theorem chain_storeT (env : Env R) :
    ∀ (t : PT R) (i : Option Int),
      chainLevels (storeT env i t).1 = (storeStack i (chainVals env t)).1 ∧ (storeT env i t).2 = (storeStack i (chainVals env t)).2
      ∧ chainConds (storeT env i t).1 = chainConds t ∧ baseOf (storeT env i t).1 = baseOf t
  | .base f, i => by simp [storeT, chainLevels, chainConds, chainVals, chain, storeStack, baseOf]
  | .pen l c inner, i => by
    have ih := chain_storeT env inner
    simp only [chainLevels, chainConds, chainVals] at ih ⊢
    simp only [storeT, chain, List.map_cons, storeStack]
    -- `i ≥ len`: extend; `-len ≤ i < len`: overwrite; below: `IndexError`, nothing stored inward
    by_cases hlag : l.t.isLag = true
    · simp only [hlag, if_true]
      by_cases hA : (l.y.length : Int) ≤ storeIdx i l.n
      · obtain ⟨h1, h2, h3, h4⟩ := ih (some (storeIdx i l.n))
        simp only [if_pos hA, chain, List.map_cons, baseOf, h1, h2, h3, h4, and_true]
        cases condV env c <;> rfl
      · by_cases hB : -(l.y.length : Int) ≤ storeIdx i l.n
        · obtain ⟨h1, h2, h3, h4⟩ := ih (some (storeIdx i l.n))
          simp only [if_neg hA, if_pos hB, chain, List.map_cons, baseOf, h1, h2, h3, h4, and_true]
          cases condV env c <;> rfl
        · simp only [if_neg hA, if_neg hB, chain, List.map_cons, baseOf, List.map_map, Function.comp_def, and_self]
    · obtain ⟨h1, h2, h3, h4⟩ := ih i
      simp only [if_neg hlag, chain, List.map_cons, baseOf, h1, h2, h3, h4, and_self]

theorem skel_clean_storeT (env : Env R) : ∀ (t : PT R) (i : Option Int),
    skelT (storeT env i t).1 = skelT t ∧ cleanT (storeT env i t).1 = cleanT t
  | .base _, _ => ⟨rfl, rfl⟩
  | .pen l c inner, i => by
    have ih := skel_clean_storeT env inner
    rw [storeT]
    by_cases hlag : l.t.isLag = true
    · rw [if_pos hlag]
      by_cases hA : (l.y.length : Int) ≤ storeIdx i l.n
      · simp only [if_pos hA, skelT, cleanT, ih, hlag, Bool.true_or, and_self]
      · by_cases hB : -(l.y.length : Int) ≤ storeIdx i l.n
        · simp only [if_neg hA, if_pos hB, skelT, cleanT, ih, hlag, Bool.true_or, and_self]
        · simp only [if_neg hA, if_neg hB, and_self]
    · simp only [if_neg hlag, skelT, cleanT, ih, and_self]

mutual
theorem skel_modT (g : PT R → PT R) (hg : ∀ s, skelT (g s) = skelT s) :
    ∀ (p : List Step) (t : PT R), skelT (modT g p t) = skelT t
  | [], t => by rw [modT, hg]
  | _ :: _, .base _ => rfl
  | .down :: p, .pen _ _ inner => congrArg (PT.pen _ _) (skel_modT g hg p inner)
  | .member m :: p, .pen _ c _ => congrArg (PT.pen _ · _) (skel_modC g hg m p c)
theorem skel_modC (g : PT R → PT R) (hg : ∀ s, skelT (g s) = skelT s) :
    ∀ (m : Nat) (p : List Step) (c : PC R), skelC (modC g m p c) = skelC c
  | _, _, .leaf _ => rfl
  | m, p, .not _ c => congrArg (PC.not _) (skel_modC g hg m p c)
  | m, p, .and ms => congrArg PC.and (skel_modL g hg m p ms)
  | 0, p, .or m0 _ => congrArg (PC.or · _) (skel_modT g hg p m0)
  | m + 1, p, .or _ ms => congrArg (PC.or _) (skel_modL g hg m p ms)
theorem skel_modL (g : PT R → PT R) (hg : ∀ s, skelT (g s) = skelT s) :
    ∀ (m : Nat) (p : List Step) (ms : PL R), skelL (modL g m p ms) = skelL ms
  | _, _, .nil => rfl
  | 0, p, .cons m _ => congrArg (PL.cons · _) (skel_modT g hg p m)
  | k + 1, p, .cons _ rest => congrArg (PL.cons _) (skel_modL g hg k p rest)
end

mutual
theorem get_modT (g : PT R → PT R) :
    ∀ (p : List Step) (t : PT R), getT p (modT g p t) = (getT p t).map g
  | [], t => by rw [modT, getT, getT, Option.map_some]
  | _ :: _, .base _ => rfl
  | .down :: p, .pen _ _ inner => get_modT g p inner
  | .member m :: p, .pen _ c _ => get_modC g m p c
theorem get_modC (g : PT R → PT R) :
    ∀ (m : Nat) (p : List Step) (c : PC R), getC m p (modC g m p c) = (getC m p c).map g
  | _, _, .leaf _ => rfl
  | m, p, .not _ c => get_modC g m p c
  | m, p, .and ms => get_modL g m p ms
  | 0, p, .or m0 _ => get_modT g p m0
  | m + 1, p, .or _ ms => get_modL g m p ms
theorem get_modL (g : PT R → PT R) :
    ∀ (m : Nat) (p : List Step) (ms : PL R), getL m p (modL g m p ms) = (getL m p ms).map g
  | _, _, .nil => rfl
  | 0, p, .cons m _ => get_modT g p m
  | k + 1, p, .cons _ rest => get_modL g k p rest
end

/-! `cleanT` (non-Lagrange levels have empty `_y`) is preserved by every operation -/

mutual
theorem clean_modT (g : PT R → PT R) (hg : ∀ s, cleanT s = true → cleanT (g s) = true) :
    ∀ (p : List Step) (t : PT R), cleanT t = true → cleanT (modT g p t) = true
  | [], t, h => by simp only [modT]; exact hg t h
  | _ :: _, .base f, _ => by simp only [modT, cleanT]
  | .down :: p, .pen l c inner, h => by
    simp only [cleanT, Bool.and_eq_true] at h
    simp only [modT, cleanT, Bool.and_eq_true]
    exact ⟨h.1, clean_modT g hg p inner h.2⟩
  | .member m :: p, .pen l c inner, h => by
    simp only [cleanT, Bool.and_eq_true] at h
    simp only [modT, cleanT, Bool.and_eq_true]
    exact ⟨⟨h.1.1, clean_modC g hg m p c h.1.2⟩, h.2⟩
theorem clean_modC (g : PT R → PT R) (hg : ∀ s, cleanT s = true → cleanT (g s) = true) :
    ∀ (m : Nat) (p : List Step) (c : PC R), cleanC c = true → cleanC (modC g m p c) = true
  | _, _, .leaf i, _ => by simp only [modC, cleanC]
  | m, p, .not t c, h => by
    simp only [cleanC] at h
    simp only [modC, cleanC]; exact clean_modC g hg m p c h
  | m, p, .and ms, h => by
    simp only [cleanC] at h
    simp only [modC, cleanC]; exact clean_modL g hg m p ms h
  | 0, p, .or m0 ms, h => by
    simp only [cleanC, Bool.and_eq_true] at h
    simp only [modC, cleanC, Bool.and_eq_true]; exact ⟨clean_modT g hg p m0 h.1, h.2⟩
  | m + 1, p, .or m0 ms, h => by
    simp only [cleanC, Bool.and_eq_true] at h
    simp only [modC, cleanC, Bool.and_eq_true]; exact ⟨h.1, clean_modL g hg m p ms h.2⟩
theorem clean_modL (g : PT R → PT R) (hg : ∀ s, cleanT s = true → cleanT (g s) = true) :
    ∀ (m : Nat) (p : List Step) (ms : PL R), cleanL ms = true → cleanL (modL g m p ms) = true
  | _, _, .nil, _ => by simp only [modL, cleanL]
  | 0, p, .cons m rest, h => by
    simp only [cleanL, Bool.and_eq_true] at h
    simp only [modL, cleanL, Bool.and_eq_true]; exact ⟨clean_modT g hg p m h.1, h.2⟩
  | k + 1, p, .cons m rest, h => by
    simp only [cleanL, Bool.and_eq_true] at h
    simp only [modL, cleanL, Bool.and_eq_true]; exact ⟨h.1, clean_modL g hg k p rest h.2⟩
end

mutual
theorem clean_getT : ∀ (p : List Step) (t s : PT R), cleanT t = true → getT p t = some s → cleanT s = true
  | [], t, s, h, hg => by simp only [getT, Option.some.injEq] at hg; exact hg ▸ h
  | _ :: _, .base f, s, _, hg => by simp only [getT] at hg; cases hg
  | .down :: p, .pen l c inner, s, h, hg => by
    simp only [cleanT, Bool.and_eq_true] at h
    simp only [getT] at hg; exact clean_getT p inner s h.2 hg
  | .member m :: p, .pen l c inner, s, h, hg => by
    simp only [cleanT, Bool.and_eq_true] at h
    simp only [getT] at hg; exact clean_getC m p c s h.1.2 hg
theorem clean_getC : ∀ (m : Nat) (p : List Step) (c : PC R) (s : PT R), cleanC c = true → getC m p c = some s → cleanT s = true
  | _, _, .leaf i, s, _, hg => by simp only [getC] at hg; cases hg
  | m, p, .not t c, s, h, hg => by
    simp only [cleanC] at h
    simp only [getC] at hg; exact clean_getC m p c s h hg
  | m, p, .and ms, s, h, hg => by
    simp only [cleanC] at h
    simp only [getC] at hg; exact clean_getL m p ms s h hg
  | 0, p, .or m0 ms, s, h, hg => by
    simp only [cleanC, Bool.and_eq_true] at h
    simp only [getC] at hg; exact clean_getT p m0 s h.1 hg
  | m + 1, p, .or m0 ms, s, h, hg => by
    simp only [cleanC, Bool.and_eq_true] at h
    simp only [getC] at hg; exact clean_getL m p ms s h.2 hg
theorem clean_getL : ∀ (m : Nat) (p : List Step) (ms : PL R) (s : PT R), cleanL ms = true → getL m p ms = some s → cleanT s = true
  | _, _, .nil, s, _, hg => by simp only [getL] at hg; cases hg
  | 0, p, .cons m rest, s, h, hg => by
    simp only [cleanL, Bool.and_eq_true] at h
    simp only [getL] at hg; exact clean_getT p m s h.1 hg
  | k + 1, p, .cons m rest, s, h, hg => by
    simp only [cleanL, Bool.and_eq_true] at h
    simp only [getL] at hg; exact clean_getL k p rest s h.2 hg
end

theorem clean_TOp (o : TOp R) (t : PT R) (h : cleanT t = true) : cleanT (o.apply t) = true := by
  cases o with
  | iter p i => exact clean_modT _ (fun s hs => by rw [(skel_clean_iterT i s).2]; exact hs) p t h
  | clear p => exact clean_modT _ clean_clearT p t h
  | store p env i => exact clean_modT _ (fun s hs => by rw [(skel_clean_storeT env s i).2]; exact hs) p t h

/-- the penalty side of a session is the session with the caller's own list handling removed -/
theorem runS_tree (os : List (SOp R)) (s : Sess R) :
    (runS os s).t = (treeOps os).foldl (fun t o => o.apply t) s.t := by
  induction os generalizing s with
  | nil => rfl
  | cons o os ih => cases o <;> exact ih _

theorem clean_fold (os : List (TOp R)) (t : PT R) (h : cleanT t = true) :
    cleanT (os.foldl (fun t o => o.apply t) t) = true := by
  induction os generalizing t with
  | nil => exact h
  | cons o os ih => exact ih _ (clean_TOp o t h)

end ops

end MysticVerif.C15
