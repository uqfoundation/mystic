/- the closed loop is a prefix of the open loop; what C01-C05 prove therefore holds wherever `Solve` stops -/
import MysticVerif.Model.ClosedLoop
import MysticVerif.Model.Checkpoint
import MysticVerif.Proofs.Solver
import MysticVerif.Props.C05

namespace MysticVerif.Closed
open MysticVerif.Solver

variable {S : Type}

/-- the counter deltas one `Step` of the closed loop reads off the algorithm's state -/
def stepDelta (a : Alg S) (c : Ctl) (s : S) (k : Nat) : Delta :=
  { dEvals := a.nlog (a.step s k) - a.nlog s, dGens := if c.nstep = 0 then 0 else 1,
    dStep := a.nrec (a.step s k) - a.nrec s }

theorem stepOnce_eq (a : Alg S) (c : Ctl) (s : S) (k : Nat) :
    stepOnce a c s k =
      ((c.step (a.term s c.pre) (a.term (a.step s k) (c.after (stepDelta a c s k))) (stepDelta a c s k)).1,
       (if (c.step (a.term s c.pre) (a.term (a.step s k) (c.after (stepDelta a c s k))) (stepDelta a c s k)).2.2 = true
          then a.step s k else s),
       (c.step (a.term s c.pre) (a.term (a.step s k) (c.after (stepDelta a c s k))) (stepDelta a c s k)).2.1,
       (c.step (a.term s c.pre) (a.term (a.step s k) (c.after (stepDelta a c s k))) (stepDelta a c s k)).2.2) := rfl

theorem stepOnce_state (a : Alg S) (c : Ctl) (s : S) (k : Nat) :
    (stepOnce a c s k).2.1 = (if (stepOnce a c s k).2.2.2 = true then a.step s k else s) := by
  unfold stepOnce
  simp only

theorem iterate_add (a : Alg S) : ∀ (j m : Nat) (s : S) (k : Nat),
    iterate a (j + m) s k = iterate a m (iterate a j s k) (k + j) := by
  intro j
  induction j with
  | zero => intro m s k; rw [Nat.zero_add]; rfl
  | succ j ih =>
    intro m s k
    -- j+1+m = (j+m)+1; unfold one iteration; k+1+j = k+(j+1)
    rw [Nat.add_right_comm, iterate, ih m (a.step s k) (k + 1), Nat.add_assoc, Nat.add_comm 1 j]
    rfl

theorem iterate_succ_last (a : Alg S) (n : Nat) (s : S) (k : Nat) :
    iterate a (n + 1) s k = a.step (iterate a n s k) (k + n) :=
  iterate_add a n 1 s k

theorem solve_of_some (a : Alg S) (fuel : Nat) (c : Ctl) (s : S) (k n : Nat) {m : Msg}
    (h : (stepOnce a c s k).2.2.1 = some m) :
    solve a (fuel + 1) c s k n =
      { ctl := (stepOnce a c s k).1, st := (stepOnce a c s k).2.1, msg := some m,
        iters := if (stepOnce a c s k).2.2.2 = true then k + 1 else k, steps := n + 1 } := by
  simp only [solve, h]

theorem solve_of_none (a : Alg S) (fuel : Nat) (c : Ctl) (s : S) (k n : Nat)
    (h : (stepOnce a c s k).2.2.1 = none) :
    solve a (fuel + 1) c s k n =
      solve a fuel (stepOnce a c s k).1 (stepOnce a c s k).2.1
        (if (stepOnce a c s k).2.2.2 = true then k + 1 else k) (n + 1) := by
  simp only [solve, h]

/-- induction over the `Step`s of `solve` -/
theorem solve_induction (a : Alg S) (P : Ctl → S → Nat → Out S → Prop)
    (h0 : ∀ c s k n, P c s k { ctl := c, st := s, msg := none, iters := k, steps := n })
    (hstop : ∀ c s k n m, (stepOnce a c s k).2.2.1 = some m →
      P c s k { ctl := (stepOnce a c s k).1, st := (stepOnce a c s k).2.1, msg := some m,
                iters := if (stepOnce a c s k).2.2.2 = true then k + 1 else k, steps := n + 1 })
    (hgo : ∀ c s k out, (stepOnce a c s k).2.2.1 = none →
      P (stepOnce a c s k).1 (stepOnce a c s k).2.1 (if (stepOnce a c s k).2.2.2 = true then k + 1 else k) out →
      P c s k out) :
    ∀ (fuel : Nat) (c : Ctl) (s : S) (k n : Nat), P c s k (solve a fuel c s k n) := by
  intro fuel
  induction fuel with
  | zero => exact h0
  | succ fuel ih =>
    intro c s k n
    cases hm : (stepOnce a c s k).2.2.1 with
    | some m => rw [solve_of_some a fuel c s k n hm]; exact hstop c s k n m hm
    | none => rw [solve_of_none a fuel c s k n hm]; exact hgo c s k _ hm (ih _ _ _ _)

theorem stepOnce_iterate (a : Alg S) (c : Ctl) (s : S) (k : Nat) :
    ∃ j, (if (stepOnce a c s k).2.2.2 = true then k + 1 else k) = k + j ∧ (stepOnce a c s k).2.1 = iterate a j s k := by
  rw [stepOnce_state]
  cases (stepOnce a c s k).2.2.2
  · exact ⟨0, rfl, rfl⟩
  · exact ⟨1, rfl, rfl⟩

/-- **`Solve` performs some number of iterations of the algorithm and nothing else to its state** -/
theorem solve_is_iterate (a : Alg S) : ∀ (fuel : Nat) (c : Ctl) (s : S) (k n : Nat),
    ∃ m, (solve a fuel c s k n).iters = k + m ∧ (solve a fuel c s k n).st = iterate a m s k :=
  solve_induction a (fun _ s k out => ∃ m, out.iters = k + m ∧ out.st = iterate a m s k)
    (fun _ _ _ _ => ⟨0, rfl, rfl⟩)
    (fun c s k _ _ _ => stepOnce_iterate a c s k)
    (fun c s k out _ ih => by
      obtain ⟨j, e1, e2⟩ := stepOnce_iterate a c s k
      obtain ⟨m, h1, h2⟩ := ih
      rw [e1] at h1
      rw [e1, e2] at h2
      exact ⟨j + m, by rw [h1, Nat.add_assoc], by rw [h2, iterate_add]⟩)

theorem solve_st_mem (a : Alg S) (P : S → Prop) (fuel : Nat) (c : Ctl) (s : S)
    (h : ∀ m, (solve a fuel c s 0 0).iters = m → P (iterate a m s 0)) : P (solve a fuel c s 0 0).st := by
  obtain ⟨m, hi, e⟩ := solve_is_iterate a fuel c s 0 0
  rw [e]
  exact h m (hi.trans (Nat.zero_add m))

/-- the message `Solve` returns is true of the control state it returns -/
theorem solve_msg_truthful (a : Alg S) : ∀ (fuel : Nat) (c : Ctl) (s : S) (k n : Nat) (m : Msg),
    (solve a fuel c s k n).msg = some m →
      (m = .lim → (solve a fuel c s k n).ctl.maxfun.reached (solve a fuel c s k n).ctl.evals = true ∨
                  (solve a fuel c s k n).ctl.maxiter.reached (solve a fuel c s k n).ctl.gens = true) ∧
      (m = .sig → (solve a fuel c s k n).ctl.earlyExit = true) :=
  solve_induction a (fun _ _ _ out => ∀ m, out.msg = some m →
      (m = .lim → out.ctl.maxfun.reached out.ctl.evals = true ∨ out.ctl.maxiter.reached out.ctl.gens = true) ∧
      (m = .sig → out.ctl.earlyExit = true))
    (fun _ _ _ _ _ h => nomatch h)
    (fun c _ _ _ _ hm m h => C05.step_message_truthful c _ _ _ m ((Option.some.inj h) ▸ hm))
    (fun _ _ _ _ _ ih => ih)

theorem stepOnce_of_none (a : Alg S) (c : Ctl) (s : S) (k : Nat) (hp : c.powell = false)
    (hm : (stepOnce a c s k).2.2.1 = none) :
    stepOnce a c s k = (c.after (stepDelta a c s k), a.step s k, none, true) := by
  rw [stepOnce_eq] at hm ⊢
  rcases C05.step_cases c (a.term s c.pre) (a.term (a.step s k) (c.after (stepDelta a c s k))) (stepDelta a c s k)
    with ⟨m', _, h1⟩ | ⟨_, m', hmm, h1⟩ | ⟨_, _, h1⟩
  · rw [h1] at hm; cases hm
  · rw [h1, C05.finalize_message _ _ (by simpa using hp), hmm] at hm; cases hm
  · rw [h1]; rfl

theorem stepOnce_msg_of_limit (a : Alg S) (c : Ctl) (s : S) (k g : Nat) (hlim : c.maxiter = .val g) (hn : c.nstep ≠ 0)
    (hg : g ≤ c.gens) : (stepOnce a c s k).2.2.1 ≠ none := by
  intro hm
  have hstop : c.pre.maxfun.reached c.evals = true ∨ c.pre.maxiter.reached c.gens = true ∨ c.earlyExit = true
      ∨ a.term s c.pre = true := by
    right; left
    rw [C05.pre_maxiter_val c g hlim]
    simpa [Lim.reached] using hg
  have h0 := (C05.no_step_when_stopped c (a.term s c.pre)
    (a.term (a.step s k) (c.after (stepDelta a c s k))) (stepDelta a c s k) hn hstop).2.1
  rw [show (c.step (a.term s c.pre) (a.term (a.step s k) (c.after (stepDelta a c s k))) (stepDelta a c s k)).2.1 = none
    from hm] at h0
  cases h0

/-- `Solve` returns (a message is produced) within `limit - generations + 1` calls of `Step` when a numeric
generation limit is installed, whatever the algorithm and the termination condition do -/
theorem solve_returns (a : Alg S) (g : Nat) : ∀ (j : Nat) (c : Ctl) (s : S) (k n : Nat),
    c.maxiter = .val g → c.powell = false → c.nstep ≠ 0 → g ≤ c.gens + j →
      (solve a (j + 1) c s k n).msg.isSome = true := by
  intro j
  induction j with
  | zero =>
    intro c s k n hlim _ hn hg
    cases hm : (stepOnce a c s k).2.2.1 with
    | some m => rw [solve_of_some a 0 c s k n hm]; rfl
    | none => exact absurd hm (stepOnce_msg_of_limit a c s k g hlim hn hg)
  | succ j ih =>
    intro c s k n hlim hp hn hg
    cases hm : (stepOnce a c s k).2.2.1 with
    | some m => rw [solve_of_some a (j + 1) c s k n hm]; rfl
    | none =>
      -- no message: the iteration ran and added one generation
      rw [solve_of_none a (j + 1) c s k n hm, stepOnce_of_none a c s k hp hm]
      refine ih _ _ _ _ (C05.after_maxiter_val c _ g hlim) ((C05.after_powell c _).trans hp) ?_ ?_
      · rw [C05.after_nstep]; exact fun h0 => hn (Nat.eq_zero_of_add_eq_zero_right h0)
      · rw [C05.after_gens c _ hp]
        simp only [stepDelta, if_neg hn]
        rw [Nat.add_assoc, Nat.add_comm 1 j]; exact hg

theorem stepOnce_evals_at (a : Alg S) (c : Ctl) (s : S) (k : Nat) (h : a.nlog s ≤ a.nlog (a.step s k)) :
    (stepOnce a c s k).1.evals + a.nlog s = c.evals + a.nlog (stepOnce a c s k).2.1 := by
  rw [stepOnce_eq]
  have he := C05.step_evals c (a.term s c.pre) (a.term (a.step s k) (c.after (stepDelta a c s k))) (stepDelta a c s k)
  cases hran : (c.step (a.term s c.pre) (a.term (a.step s k) (c.after (stepDelta a c s k))) (stepDelta a c s k)).2.2
  · rw [hran] at he
    exact congrArg (· + a.nlog s) he
  · rw [hran] at he
    show _ + a.nlog s = c.evals + a.nlog (a.step s k)
    rw [he]
    exact (Nat.add_assoc _ _ _).trans (congrArg (c.evals + ·) (Nat.sub_add_cancel h))

/-- **evaluation counter = evaluation log**: after `Solve`, `evaluations` has grown by exactly the number of records
appended to the evaluation log, for algorithms whose log only grows on the states a run reaches (invariant `I`) -/
theorem solve_evals_eq_log_inv (a : Alg S) (I : S → Nat → Prop) (hI : ∀ s k, I s k → I (a.step s k) (k + 1))
    (hmono : ∀ s k, I s k → a.nlog s ≤ a.nlog (a.step s k)) :
    ∀ (fuel : Nat) (c : Ctl) (s : S) (k n : Nat), I s k →
      (solve a fuel c s k n).ctl.evals + a.nlog s = c.evals + a.nlog (solve a fuel c s k n).st :=
  solve_induction a (fun c s k out => I s k → out.ctl.evals + a.nlog s = c.evals + a.nlog out.st)
    (fun _ _ _ _ _ => rfl)
    (fun c s k _ _ _ hi => stepOnce_evals_at a c s k (hmono s k hi))
    (fun c s k out _ ih hi => by
      have h1 := stepOnce_evals_at a c s k (hmono s k hi)
      have hi' : I (stepOnce a c s k).2.1 (if (stepOnce a c s k).2.2.2 = true then k + 1 else k) := by
        rw [stepOnce_state]
        cases (stepOnce a c s k).2.2.2
        · exact hi
        · exact hI s k hi
      have h2 := ih hi'
      omega)

theorem solve_evals_eq_log (a : Alg S) (hmono : ∀ s k, a.nlog s ≤ a.nlog (a.step s k)) (fuel : Nat) (c : Ctl) (s : S)
    (k n : Nat) : (solve a fuel c s k n).ctl.evals + a.nlog s = c.evals + a.nlog (solve a fuel c s k n).st :=
  solve_evals_eq_log_inv a (fun _ _ => True) (fun _ _ _ => trivial) (fun s k _ => hmono s k) fuel c s k n trivial

/-- one `Step` of the closed loop advances `generations` by one exactly when an iteration ran after the initial
evaluation (`generations = len(stepmon) - 1`) -/
theorem stepOnce_gens (a : Alg S) (c : Ctl) (s : S) (k : Nat) (hp : c.powell = false) :
    (stepOnce a c s k).1.gens =
      c.gens + (if (stepOnce a c s k).2.2.2 = true then (if c.nstep = 0 then 0 else 1) else 0) ∧
    (stepOnce a c s k).1.powell = false := by
  unfold stepOnce
  simp only
  exact C05.step_gens c _ _ _ hp

theorem run_eq_run1 {X E : Type} [LinearOrder E] (two : Bool) (o : Obj X E) (tss : List (List X)) (s : DE X E) :
    Checkpoint.DE.run two o tss s = DE.run1 o tss s := by
  unfold Checkpoint.DE.run DE.run1
  congr 1
  funext s ts
  cases two
  · rfl
  · exact DE.step2_eq_step1 o ts s

section DE
variable {R : Type} [Add R] [Sub R] [Mul R] [Div R] [Neg R] [LT R] [DecidableLT R] [LE R] [DecidableLE R]
  [BEq R] [OfNat R 0] [OfNat R 2]

theorem iterate_deAlg (two : Bool) (o : Obj (List R) R) (cond : Term.Cond R) (pop0 : List (List R))
    (trialss : List (List (List R))) : ∀ (m : Nat) (s : DE (List R) R) (k : Nat),
    ∃ tss : List (List (List R)), iterate (deAlg two o cond pop0 trialss) m s k = Checkpoint.DE.run two o tss s := by
  intro m
  induction m with
  | zero => intro _ _; exact ⟨[], rfl⟩
  | succ m ih =>
    intro s k
    obtain ⟨tss, hr⟩ := ih ((deAlg two o cond pop0 trialss).step s k) (k + 1)
    exact ⟨(if k = 0 then pop0 else trialss.getD (k - 1) []) :: tss, hr⟩

end DE

end MysticVerif.Closed
