/- python's `max` and the convergence test built on it (Model/NMInit.lean): when the test succeeds -/
import MysticVerif.Model.NMInit
import MysticVerif.Proofs.ListFacts
import Mathlib.Tactic.SplitIfs
import Mathlib.Order.Basic
import Mathlib.Order.Lattice

namespace MysticVerif.Solver

variable {R E : Type}

theorem pyMax_isSome [LT R] [DecidableLT R] (l : List R) : (pyMax l).isSome = true ↔ l ≠ [] := by
  cases l <;> simp [pyMax]

/-- the value python's `max` returns is one of the items -/
theorem pyMax_mem [LT R] [DecidableLT R] (l : List R) (m : R) (h : pyMax l = some m) : m ∈ l := by
  cases l with
  | nil => cases h
  | cons a as =>
    obtain rfl := Option.some.inj h
    exact List.foldlRecOn (motive := (· ∈ a :: as)) as _ List.mem_cons_self fun b hb x hx => by
      split
      · exact List.mem_cons_of_mem _ hx
      · exact hb

/-- `max(l) <= t` with the `ValueError` of an empty `l` counted as failure -/
theorem pyMax_some_le [LinearOrder R] : ∀ (l : List R) (t : R),
    (∃ m, pyMax l = some m ∧ m ≤ t) ↔ l ≠ [] ∧ ∀ b ∈ l, b ≤ t
  | [], _ => ⟨fun ⟨_, h, _⟩ => (nomatch h), fun h => absurd rfl h.1⟩
  | a :: as, t => by
    rw [List.forall_mem_cons, ← foldl_pyMax_le_iff]
    exact ⟨fun ⟨_, h, hle⟩ => ⟨List.cons_ne_nil _ _, Option.some.inj h ▸ hle⟩, fun h => ⟨_, rfl, h.2⟩⟩

theorem crtConv_cons [LinearOrder R] [Sub R] [LinearOrder E] [Sub E] (absR : R → R) (absE : E → E) (xtol : R) (ftol : E)
    (x0 : Pt R) (f0 : E) (rest : List (Pt R × E)) :
    crtConv absR absE xtol ftol ((x0, f0) :: rest) = true ↔
      (∃ dx, pyMax (crtDx absR x0 rest) = some dx ∧ dx ≤ xtol) ∧
      ∃ df, pyMax (crtDf absE f0 rest) = some df ∧ df ≤ ftol := by
  unfold crtConv
  dsimp only
  cases hx : pyMax (crtDx absR x0 rest) with
  | none => exact ⟨fun h => (nomatch h), fun ⟨⟨_, h, _⟩, _⟩ => nomatch h⟩
  | some dx =>
    cases hf : pyMax (crtDf absE f0 rest) with
    | none => exact ⟨fun h => (nomatch h), fun ⟨_, _, h, _⟩ => nomatch h⟩
    | some df => simp only [Bool.and_eq_true, decide_eq_true_eq, Option.some.injEq, exists_eq_left']

end MysticVerif.Solver
