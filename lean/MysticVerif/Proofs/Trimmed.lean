/-
Lemmas for the trimmed / winsorised statistics of C18 (Model/Trimmed.lean) over a linearly ordered field: CPython's compensated
`sum` is the plain sum; `_sort` sorts and commutes with strictly monotone maps of the samples, so the trimmed weights do not
change; `tmean` / `tvariance` are the weighted mean / variance of the sorted samples under the trimmed weights; at `k = 0`
(positive weights) `_k` returns the weights. Grouped, like Proofs/Measures.lean, by what a lemma needs of `K`.
-/
import MysticVerif.Model.Trimmed
import MysticVerif.Proofs.Measures

namespace MysticVerif.Meas

theorem pyPos_nat (n i : Nat) : pyPos n (i : Int) = i := by
  unfold pyPos; rw [if_neg (not_lt.mpr (Int.natCast_nonneg i))]; simp

theorem pyBound_nat (n i : Nat) : pyBound n (i : Int) = min i n := by
  unfold pyBound; rw [if_neg (not_lt.mpr (Int.natCast_nonneg i))]; simp

theorem pyBound_zero (n : Nat) : pyBound n 0 = 0 := (pyBound_nat n 0).trans (Nat.zero_min _)

theorem pyBound_last (n : Nat) : pyBound n ((n : Int) - 1 + 1) = n := by
  rw [sub_add_cancel, pyBound_nat, min_self]

section
variable {K : Type} [LinearOrder K]

theorem insertBy_length (p : K × K) (l : List (K × K)) : (insertBy p l).length = l.length + 1 := by
  induction l with
  | nil => rfl
  | cons q qs ih =>
    simp only [insertBy]
    split
    · simp [ih]
    · simp

theorem sortPairs_length (l : List (K × K)) : (sortPairs l).length = l.length := by
  induction l with
  | nil => rfl
  | cons p l ih => simp [sortPairs, insertBy_length, ih]

theorem insertBy_perm (p : K × K) (l : List (K × K)) : (insertBy p l).Perm (p :: l) := by
  induction l with
  | nil => exact List.Perm.refl _
  | cons q qs ih =>
    simp only [insertBy]
    split
    · exact (List.Perm.cons q ih).trans (List.Perm.swap p q qs)
    · exact List.Perm.refl _

theorem sortPairs_perm (l : List (K × K)) : (sortPairs l).Perm l := by
  induction l with
  | nil => exact List.Perm.refl _
  | cons p l ih => exact (insertBy_perm p _).trans (List.Perm.cons p ih)

theorem insertBy_sorted (p : K × K) (l : List (K × K)) (h : l.Pairwise fun a b => a.1 ≤ b.1) :
    (insertBy p l).Pairwise fun a b => a.1 ≤ b.1 := by
  induction l with
  | nil => exact List.pairwise_singleton _ _
  | cons q qs ih =>
    simp only [insertBy]
    rw [List.pairwise_cons] at h
    split
    · rename_i hlt
      rw [List.pairwise_cons]
      refine ⟨?_, ih h.2⟩
      intro a ha
      rcases List.mem_cons.mp ((insertBy_perm p qs).subset ha) with rfl | ha'
      · exact le_of_lt hlt
      · exact h.1 a ha'
    · rename_i hge
      rw [List.pairwise_cons]
      refine ⟨?_, List.pairwise_cons.mpr h⟩
      intro a ha
      rcases List.mem_cons.mp ha with rfl | ha'
      · exact not_lt.mp hge
      · exact le_trans (not_lt.mp hge) (h.1 a ha')

theorem sortPairs_sorted (l : List (K × K)) : (sortPairs l).Pairwise fun a b => a.1 ≤ b.1 := by
  induction l with
  | nil => exact List.Pairwise.nil
  | cons p l ih => exact insertBy_sorted p _ ih

end

section
variable {K : Type} [Field K]

theorem kCrop_length (w : List K) (lo hi : Int) : (kCrop w lo hi).length = w.length := by
  unfold kCrop; exact mapIdx_length _ _

theorem cumsumFrom_length (a : K) (l : List K) : (cumsumFrom a l).length = l.length := by
  induction l generalizing a with
  | nil => rfl
  | cons x xs ih => simp [cumsumFrom, ih]

theorem cumsum_head (l : List K) : (cumsumFrom 0 l).getD 0 0 = l.getD 0 0 := by
  cases l with
  | nil => rfl
  | cons x xs => exact zero_add x

theorem set_getD_self (l : List K) (i : Nat) : l.set i (l.getD i 0) = l := by
  by_cases h : i < l.length
  · rw [List.getD_eq_getElem?_getD, List.getElem?_eq_getElem h]; simp
  · exact List.set_eq_of_length_le (not_lt.mp h)

theorem kCrop_full (w : List K) : kCrop w 0 ((w.length : Int) - 1) = w := by
  unfold kCrop
  rw [pyBound_zero, pyBound_last]
  apply List.ext_getElem?
  intro i
  rw [mapIdx_getElem?]
  by_cases h : i < w.length
  · rw [List.getElem?_eq_getElem h]
    simp [h]
  · rw [List.getElem?_eq_none (not_lt.mp h)]; rfl

theorem reverse_getD_zero (w : List K) : w.reverse.getD 0 0 = w.getD (w.length - 1) 0 := by
  rw [List.getD_eq_getElem?_getD, List.getD_eq_getElem?_getD, ← List.head?_eq_getElem?, List.head?_reverse,
    List.getLast?_eq_getElem?]

theorem wsum_pairs (f : K → K) (l : List (K × K)) :
    wsum ((l.map (·.1)).map f) (l.map (·.2)) = (l.map fun p => f p.1 * p.2).sum := by
  unfold wsum
  rw [List.map_map, List.zipWith_map, List.zipWith_self]; rfl

theorem wsum_zip (f : K → K) (xs w : List K) :
    wsum (xs.map f) w = ((xs.zip w).map fun p => f p.1 * p.2).sum := by
  unfold wsum
  rw [List.zipWith_map_left, ← List.map_uncurry_zip_eq_zipWith]; rfl

theorem gmean_pairs (f : K → K) (xs : List K) (ws : Option (List K)) (h : ∀ w, ws = some w → xs.length = w.length) :
    ((pairsOf xs ws).map fun p => f p.1 * p.2).sum / ((pairsOf xs ws).map (·.2)).sum = gmean (xs.map f) ws := by
  cases ws with
  | none =>
    simp only [pairsOf, List.map_map, gmean, List.length_map]
    congr 1
    · congr 1; apply List.map_congr_left; intro x _; simp
    · have : ((fun x : K × K => x.2) ∘ fun x : K => (x, (1 : K))) = fun _ => (1 : K) := by funext x; rfl
      rw [this]; simp
  | some w =>
    simp only [pairsOf, gmean]
    rw [wsum_zip, show (xs.zip w).map (fun x => x.2) = w from List.map_snd_zip (le_of_eq (h w rfl).symm)]

end

section
variable {K : Type} [Field K] [LinearOrder K]

theorem neumaier_fold (l : List K) (f : K) : l.foldl neumaierStep (f, 0) = (f + l.sum, 0) := by
  induction l generalizing f with
  | nil => simp
  | cons x xs ih =>
    rw [List.foldl_cons]
    -- with exact arithmetic both compensation terms vanish
    simp only [neumaierStep, zero_add, sub_add_cancel_left, sub_add_cancel_right, neg_add_cancel, ite_self]
    rw [ih, List.sum_cons, add_assoc]

theorem pysum_eq (T : TConsts K) (l : List K) : pysum T l = l.sum := by
  unfold pysum
  rw [neumaier_fold]
  -- the compensation is 0, so either branch of `if c` returns the plain sum
  simp [truthy]

theorem kReset_length (w : List K) (klo khi : K) (lo hi : Int) (clip : Bool) :
    (kReset w klo khi lo hi clip).length = w.length := by
  simp only [kReset, apply_ite List.length, List.length_set, ite_self]

theorem kTrim_length (T : TConsts K) (ws : List K) (klo khi : K) (clip norm : Bool) :
    (kTrim T ws klo khi clip norm).length = ws.length := by
  unfold kTrim
  simp only
  split <;> simp [kCrop_length, kReset_length]

theorem trimW_length (T : TConsts K) (xs : List K) (ws : Option (List K)) (klo khi : K) (clip : Bool) :
    (trimW T xs ws klo khi clip).length = (sortedX xs ws).length := by
  unfold trimW sortedX
  rw [kTrim_length]; simp

theorem sortedX_map {f : K → K} (hf : StrictMono f) (xs : List K) (ws : Option (List K)) :
    sortedX (xs.map f) ws = (sortedX xs ws).map f := by
  unfold sortedX sortedOf; rw [pairsOf_map_fst, sortPairs_map hf, map_fst_map_prodMap]

theorem trimW_map (T : TConsts K) {f : K → K} (hf : StrictMono f) (xs : List K) (ws : Option (List K)) (klo khi : K)
    (clip : Bool) : trimW T (xs.map f) ws klo khi clip = trimW T xs ws klo khi clip := by
  unfold trimW sortedOf; rw [pairsOf_map_fst, sortPairs_map hf, map_snd_map_prodMap]

theorem tmean_eq (T : TConsts K) (xs : List K) (ws : Option (List K)) (klo khi : K) (clip : Bool) :
    tmean T xs ws klo khi clip = gmean (sortedX xs ws) (some (trimW T xs ws klo khi clip)) := by
  unfold tmean gmean wsum
  rw [lsum_eq, pysum_eq]

theorem trim_valid (T : TConsts K) (xs : List K) (ws : Option (List K)) (klo khi : K) (clip : Bool)
    (h : (trimW T xs ws klo khi clip).sum ≠ 0) : Valid (sortedX xs ws) (some (trimW T xs ws klo khi clip)) :=
  ⟨(trimW_length T xs ws klo khi clip).symm, h⟩

theorem trimW_map_sum_ne {T : TConsts K} {f : K → K} (hf : StrictMono f) {xs : List K} {ws : Option (List K)}
    {klo khi : K} {clip : Bool} (h : (trimW T xs ws klo khi clip).sum ≠ 0) :
    (trimW T (xs.map f) ws klo khi clip).sum ≠ 0 :=
  ne_of_eq_of_ne (congrArg List.sum (trimW_map T hf xs ws klo khi clip)) h

theorem pymax0_of_nonneg (x : K) (h : 0 ≤ x) : pymax0 x = x := by
  unfold pymax0; rw [if_neg (not_lt.mpr h)]

theorem filter_rnd_pos_length (T : TConsts K) (hr : ∀ x : K, 0 < T.rnd x ↔ 0 < x) (l : List K) (h : ∀ c ∈ l, 0 < c) :
    (l.filter fun c => decide (0 < T.rnd (c - 0))).length = l.length := by
  rw [List.filter_eq_self.mpr]
  intro c hc
  simp [hr, h c hc]

/-! ### the default cut `k = 0`: weighted means over the sorted pairs are those over the samples as given -/

/-- the inputs of the trimmed statistics at `k = 0`: a non-empty sample, and (if given) equally many strictly
positive weights -/
def PosValid (xs : List K) : Option (List K) → Prop
  | none => xs ≠ []
  | some w => xs.length = w.length ∧ xs ≠ [] ∧ ∀ x ∈ w, 0 < x

theorem pairsOf_ne_nil (xs : List K) (ws : Option (List K)) (h : PosValid xs ws) : pairsOf xs ws ≠ [] := by
  cases ws with
  | none =>
    have h' : xs ≠ [] := h
    simpa [pairsOf] using h'
  | some w =>
    obtain ⟨hl, hne, _⟩ := h
    cases xs with
    | nil => exact absurd rfl hne
    | cons x xs =>
      cases w with
      | nil => simp at hl
      | cons a w => simp [pairsOf]

theorem gmean_sorted (f : K → K) (xs : List K) (ws : Option (List K)) (h : ∀ w, ws = some w → xs.length = w.length) :
    gmean ((sortedX xs ws).map f) (some ((sortedOf xs ws).map (·.2))) = gmean (xs.map f) ws := by
  rw [← gmean_pairs f xs ws h]
  unfold sortedX
  simp only [gmean]
  rw [wsum_pairs]
  have hp := sortPairs_perm (pairsOf xs ws)
  unfold sortedOf
  rw [(hp.map _).sum_eq, (hp.map _).sum_eq]

end

variable {K : Type} [Field K] [LinearOrder K] [IsStrictOrderedRing K]

theorem meanL_eq (C : Consts K) (T : TConsts K) (ys w : List K) (h : w.sum ≠ 0) :
    meanL C T ys w = wsum ys w / w.sum := by
  unfold meanL wsum
  simp only [pysum_eq, lsum_eq, if_pos ((truthy_iff _).mpr h), cut_zero]

theorem tvariance_eq (C : Consts K) (T : TConsts K) (xs : List K) (ws : Option (List K)) (klo khi : K) (clip : Bool)
    (h : (trimW T xs ws klo khi clip).sum ≠ 0) :
    tvariance C T xs ws klo khi clip = gmom (sortedX xs ws) (some (trimW T xs ws klo khi clip)) 2 := by
  unfold tvariance gmom
  simp only [meanL_eq C T _ _ h, tmean_eq, gmean]
  congr 2
  apply List.map_congr_left; intro x _
  rw [powN_eq, absR_eq, sq_abs]

theorem tmean_shift (T : TConsts K) (c : K) (xs : List K) (ws : Option (List K)) (klo khi : K) (clip : Bool)
    (h : (trimW T xs ws klo khi clip).sum ≠ 0) :
    tmean T (xs.map (· + c)) ws klo khi clip = tmean T xs ws klo khi clip + c := by
  simp only [tmean_eq, trimW_map T (shift_strictMono c), sortedX_map (shift_strictMono c),
    gmean_map_add_const _ _ c (trim_valid T xs ws klo khi clip h)]

theorem tvariance_shift (C : Consts K) (T : TConsts K) (c : K) (xs : List K) (ws : Option (List K)) (klo khi : K)
    (clip : Bool) (h : (trimW T xs ws klo khi clip).sum ≠ 0) :
    tvariance C T (xs.map (· + c)) ws klo khi clip = tvariance C T xs ws klo khi clip := by
  simp only [tvariance_eq C T _ ws klo khi clip (trimW_map_sum_ne (shift_strictMono c) h),
    tvariance_eq C T xs ws klo khi clip h, trimW_map T (shift_strictMono c), sortedX_map (shift_strictMono c),
    gmom_map_add_const _ _ c 2 (trim_valid T xs ws klo khi clip h)]

theorem tvariance_scale (C : Consts K) (T : TConsts K) {s : K} (hs : 0 < s) (xs : List K) (ws : Option (List K))
    (klo khi : K) (clip : Bool) (h : (trimW T xs ws klo khi clip).sum ≠ 0) :
    tvariance C T (xs.map (· * s)) ws klo khi clip = s ^ 2 * tvariance C T xs ws klo khi clip := by
  simp only [tvariance_eq C T _ ws klo khi clip (trimW_map_sum_ne (scale_strictMono hs) h),
    tvariance_eq C T xs ws klo khi clip h, trimW_map T (scale_strictMono hs), sortedX_map (scale_strictMono hs),
    gmom_map_mul_const]

/-! ### `_k` with nothing to cut -/

theorem cumsumFrom_pos (a : K) (l : List K) (ha : 0 ≤ a) (hl : ∀ x ∈ l, 0 < x) : ∀ c ∈ cumsumFrom a l, 0 < c := by
  induction l generalizing a with
  | nil => intro c hc; cases hc
  | cons x xs ih =>
    intro c hc
    have hx := add_pos_of_nonneg_of_pos ha (hl x List.mem_cons_self)
    rcases List.mem_cons.mp hc with rfl | hc
    · exact hx
    · exact ih (a + x) hx.le (fun y hy => hl y (List.mem_cons_of_mem _ hy)) c hc

theorem kIdx_zero (T : TConsts K) (hr : ∀ x : K, 0 < T.rnd x ↔ 0 < x) (w : List K) (hw : ∀ x ∈ w, 0 < x)
    (hne : w ≠ []) : kIdx T w 0 0 = (0, (w.length : Int) - 1) := by
  unfold kIdx
  simp only
  rw [filter_rnd_pos_length T hr _ (cumsumFrom_pos 0 w (le_refl _) hw),
    filter_rnd_pos_length T hr _ (cumsumFrom_pos 0 w.reverse (le_refl _) (fun x hx => hw x (List.mem_reverse.mp hx))),
    cumsumFrom_length, cumsumFrom_length, List.length_reverse]
  have : 0 < w.length := List.length_pos_iff.mpr hne
  rw [if_neg (by omega)]
  simp

/-- with all normalised weights positive and nothing to cut, `_k` resets both boundary samples to themselves -/
theorem kReset_full (w : List K) (hw : ∀ x ∈ w, 0 < x) (hne : w ≠ []) (hsum : w.sum = 1) (clip : Bool) :
    kReset w 0 0 0 ((w.length : Int) - 1) clip = w := by
  have hn : 0 < w.length := List.length_pos_iff.mpr hne
  have hlast : ((w.length : Int) - 1) = ((w.length - 1 : Nat) : Int) := (Nat.cast_pred hn).symm
  have hget : ∀ i, i < w.length → pymax0 (w.getD i 0) = w.getD i 0 := fun i h => by
    rw [List.getD_eq_getElem?_getD, List.getElem?_eq_getElem h]
    exact pymax0_of_nonneg _ (hw _ (List.getElem_mem h)).le
  have p0 : pyPos w.length 0 = 0 := rfl
  have z : lsum ([] : List K) = 0 := rfl
  -- the "everything cut" guard `klo + khi == 1` (l.1578) is false
  have hk : ¬ (((0 : K) + 0 == 1) = true) :=
    fun h => zero_ne_one ((add_zero (0 : K)).symm.trans (of_decide_eq_true h))
  unfold kReset
  simp only
  rw [pyBound_zero, pyBound_last, hlast, pyPos_nat, p0]
  by_cases h1 : w.length = 1
  · -- `lo == hi` (l.1580, l.1587): a single sample, of weight 1
    have hcast : (0 : Int) = ((w.length - 1 : Nat) : Int) := by rw [h1]; rfl
    rw [if_pos hcast, if_pos hcast]
    obtain ⟨a, rfl⟩ : ∃ a, w = [a] := List.length_eq_one_iff.mp h1
    have ha : a = 1 := by simpa using hsum
    subst ha
    cases clip
    · rw [if_neg Bool.false_ne_true, if_neg hk, sub_zero, sub_zero, pymax0_of_nonneg _ zero_le_one]; rfl
    · rw [if_pos rfl, lsum_eq, List.sum_singleton]; rfl
  · have hcast : ¬ ((0 : Int) = ((w.length - 1 : Nat) : Int)) := by omega
    rw [if_neg hcast, if_neg hcast]
    cases clip
    · -- trimming: `max(cumsum - 0, 0)` at a boundary sample is its own weight
      simp only [if_neg Bool.false_ne_true, if_neg hk, sub_self, p0, cumsum_head, reverse_getD_zero, sub_zero]
      rw [hget 0 hn, set_getD_self, hget _ (Nat.sub_lt hn Nat.one_pos), set_getD_self]
    · -- winsorising: no weight lies beyond the boundary samples
      rw [if_pos rfl]
      simp only [List.take_zero, z, add_zero, set_getD_self, List.drop_length]

theorem sum_pos_of_pos (l : List K) (h : ∀ x ∈ l, 0 < x) (hne : l ≠ []) : 0 < l.sum := by
  induction l with
  | nil => exact absurd rfl hne
  | cons x xs ih =>
    rw [List.sum_cons]
    have hx := h x List.mem_cons_self
    by_cases hxs : xs = []
    · rw [hxs, List.sum_nil, add_zero]; exact hx
    · exact add_pos hx (ih (fun y hy => h y (List.mem_cons_of_mem _ hy)) hxs)

/-- **`_k` with nothing to cut** (`k = 0`, strictly positive weights; `round` keeps the sign): the weights are
returned unchanged, trimming or winsorising. -/
theorem kTrim_zero (T : TConsts K) (hr : ∀ x : K, 0 < T.rnd x ↔ 0 < x) (ws : List K) (hpos : ∀ x ∈ ws, 0 < x)
    (hne : ws ≠ []) (clip : Bool) : kTrim T ws 0 0 clip false = ws := by
  have htot := sum_pos_of_pos ws hpos hne
  have hw : ∀ x ∈ ws.map (· / ws.sum), 0 < x :=
    List.forall_mem_map.mpr fun y hy => div_pos (hpos y hy) htot
  have hne' : ws.map (· / ws.sum) ≠ [] := fun e => hne (List.map_eq_nil_iff.mp e)
  have hsum : (ws.map (· / ws.sum)).sum = 1 := by rw [sum_map_div_right]; exact div_self (ne_of_gt htot)
  unfold kTrim
  simp only [lsum_eq, mul_zero]
  rw [kIdx_zero T hr _ hw hne']
  simp only
  rw [kReset_full _ hw hne' hsum, kCrop_full, if_neg Bool.false_ne_true, List.map_map]
  conv_rhs => rw [← List.map_id ws]
  apply List.map_congr_left; intro x _
  exact div_mul_cancel₀ x (ne_of_gt htot)

theorem pairsOf_pos (xs : List K) (ws : Option (List K)) (h : PosValid xs ws) : ∀ p ∈ pairsOf xs ws, 0 < p.2 := by
  cases ws with
  | none =>
    intro p hp
    simp only [pairsOf, List.mem_map] at hp
    obtain ⟨x, _, rfl⟩ := hp
    exact one_pos
  | some w =>
    intro p hp
    exact h.2.2 p.2 (List.of_mem_zip hp).2

end MysticVerif.Meas
