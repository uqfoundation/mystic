/- Helper lemmas for the argument shapes of generate_penalty (model: Model/EmittedPShape.lean); the `ptype` mirror of
Proofs/EmittedShape.lean. -/
import MysticVerif.Model.EmittedPShape
import MysticVerif.Proofs.EmittedShape

namespace MysticVerif.Emitted

variable {α : Type}

/-- `ptype` has a type for each of `n` conditions: always for `None` / one type (they are sized by the flattened
length), for a list when its flattening is long enough -/
def PArg.covers (pt : PArg) (n : Nat) : Prop :=
  match pt with
  | .many ts => n ≤ (Nest.flatL ts).length
  | _ => True

instance (pt : PArg) (n : Nat) : Decidable (pt.covers n) := by
  cases pt <;> simp only [PArg.covers] <;> infer_instance

theorem ptypeList_length_of_covers (pt : PArg) (cs : List (Kind × α)) (h : pt.covers cs.length) :
    cs.length ≤ (ptypeList pt cs).length := by
  cases pt with
  | none => simp [ptypeList]
  | one p => simp [ptypeList]
  | many ts => simpa [ptypeList, PArg.covers] using h

theorem gpItems_snd (conds : Nest (Kind × α)) (pt : PArg) (h : pt.covers (Nest.flatL conds.top).length) :
    (gpItems conds pt).map (·.2) = Nest.flatL conds.top := by
  unfold gpItems
  exact List.map_snd_zip (ptypeList_length_of_covers pt _ h)

theorem gpItems_snd_mem (conds : Nest (Kind × α)) (pt : PArg) (w : PType × (Kind × α)) (h : w ∈ gpItems conds pt) :
    w.2 ∈ Nest.flatL conds.top := (List.of_mem_zip h).2

theorem gpItems_none (conds : Nest (Kind × α)) :
    gpItems conds .none = (Nest.flatL conds.top).map fun c => (c.1.default, c) := by
  unfold gpItems ptypeList
  rw [List.zip_map_left, List.zip_eq_zipWith, List.zipWith_self, List.map_map]; rfl

theorem gpItems_none_conform (conds : Nest (Kind × α)) : ∀ w ∈ gpItems conds .none, w.1.kind = w.2.1 := by
  intro w hw
  rw [gpItems_none] at hw
  obtain ⟨c, _, rfl⟩ := List.mem_map.mp hw
  exact default_kind c.1

theorem mem_stackOf {ws : List (PType × (Kind × α))} {te : PType × α} :
    te ∈ stackOf ws ↔ ∃ w ∈ ws, (w.1, w.2.2) = te := by
  unfold stackOf; exact List.mem_map

theorem gpItems_flat (conds : Nest (Kind × α)) (pt : PArg) :
    gpItems conds pt = gpItems (.node ((Nest.flatL conds.top).map .leaf)) pt := by
  unfold gpItems
  simp only [Nest.top, Nest.flatL_leaves]

theorem gpMembers_none (conds : Nest (Kind × α)) :
    gpMembers conds .none = some (conds.top.map fun c => gpItems c .none) := rfl

theorem gpMembers_one (conds : Nest (Kind × α)) (p : PType) :
    gpMembers conds (.one p) = some (conds.top.map fun c => gpItems c (.one p)) := rfl

theorem gpMembers_none_snd (conds : Nest (Kind × α)) :
    (conds.top.map fun c => gpItems c .none).map (fun g => g.map (·.2)) = conds.top.map fun c => Nest.flatL c.top := by
  rw [List.map_map]
  apply List.map_congr_left
  intro c _
  exact gpItems_snd c .none trivial

theorem zipMembersP_length : ∀ (cs : List (Nest (Kind × α))) (ts : List (Nest PType)) ms,
    zipMembersP cs ts = some ms → ms.length = cs.length
  | [], _, ms, h => by simp only [zipMembersP, Option.some.injEq] at h; rw [← h]; rfl
  | _ :: _, [], ms, h => by simp [zipMembersP] at h
  | c :: cs, t :: ts, ms, h => by
    simp only [zipMembersP, Option.map_eq_some_iff] at h
    obtain ⟨r, hr, rfl⟩ := h
    simp [zipMembersP_length cs ts r hr]

/-- fewer entries than members: `next(p)` raises inside the generator (python's RuntimeError) -/
theorem zipMembersP_short (cs : List (Nest (Kind × α))) (ts : List (Nest PType)) (h : ts.length < cs.length) :
    zipMembersP cs ts = none := by
  induction cs generalizing ts with
  | nil => simp at h
  | cons c cs ih =>
    cases ts with
    | nil => rfl
    | cons t ts =>
      simp only [zipMembersP, Option.map_eq_none_iff]
      exact ih ts (by simpa using h)

end MysticVerif.Emitted
