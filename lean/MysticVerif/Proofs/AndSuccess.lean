/- `constraints.and_` (Model/Combinators.lean) SUCCEEDS without a random draw when the first pass ends in a common
fixed point of all members; `constraints.or_` SUCCEEDS without a random draw when its first member does not raise at
the input and is idempotent (generic in the vector type). -/
import MysticVerif.Proofs.Combinators

namespace MysticVerif.Comb

variable {X D : Type}

/-- the states of the first pass: `x, c0 x, c1 (c0 x), ..` -/
def seqF (c : Nat → X → Option X) (n : Nat) (x : X) : Nat → X
  | 0 => x
  | k + 1 => (applyM (c (k % n)) (seqF c n x k)).1

/-- `[seq (i-1), .., seq 0]`: the history below the newest entry after `i` member calls -/
def histF (c : Nat → X → Option X) (n : Nat) (x : X) : Nat → List X
  | 0 => []
  | i + 1 => seqF c n x i :: histF c n x i

theorem histF_length (c : Nat → X → Option X) (n : Nat) (x : X) : ∀ i, (histF c n x i).length = i := by
  intro i
  induction i with
  | zero => rfl
  | succ i ih => exact congrArg (· + 1) ih

/-- once a first-pass state is a common fixed point `y` of the members, every later state is `y` -/
theorem histF_settled [BEq X] [LawfulBEq X] {c : Nat → X → Option X} {n : Nat} {x y : X}
    (hfix : ∀ j, c (j % n) y = some y) (i q : Nat) :
    (histF c n x i)[q]? = some y → lastAllEq q (histF c n x i) y = true ∧ seqF c n x i = y := by
  induction i generalizing q with
  | zero => intro h; cases h
  | succ i ih =>
    have hstep : seqF c n x i = y → seqF c n x (i + 1) = y := fun hs => by rw [seqF, hs, applyM_of_some (hfix i)]
    cases q with
    | zero => intro h; exact ⟨rfl, hstep (Option.some.inj h)⟩
    | succ q =>
      intro h
      obtain ⟨hw, hs⟩ := ih q h
      exact ⟨by rw [histF, lastAllEq_cons, hs, hw, beq_self_eq_true]; rfl, hstep hs⟩

theorem andFirst_seq (c : Nat → X → Option X) (n : Nat) (x : X)
    (hok : ∀ k, k < n → (applyM (c (k % n)) (seqF c n x k)).2 = false) :
    ∀ (k i : Nat) (links : Nat), i + k ≤ n →
      andFirst c n k i (histF c n x i) (seqF c n x i) false links =
        (histF c n x (i + k), seqF c n x (i + k), false, links + k) := by
  intro k
  induction k with
  | zero => intro i links _; rfl
  | succ k ih =>
    intro i links hik
    rw [andFirst, hok i (Nat.lt_of_lt_of_le (Nat.lt_add_of_pos_right (Nat.succ_pos k)) hik), Nat.add_comm k 1,
      ← Nat.add_assoc, ← Nat.add_assoc]
    exact ih (i + 1) (links + 1) (by rw [Nat.add_right_comm]; exact hik)

/-- one iteration at `s` copies of the fixed point `y`: success if the window below them is all `y`, else one more copy
(`hH`: the history stays at `y` once there, so a failed window test means no cycle hit) -/
theorem andCycle_fixed_step [BEq X] [LawfulBEq X] {c : Nat → X → Option X} (rand : D → X → X) {n cap : Nat}
    {y : X} {H : List X} (hcap : 2 * n ≤ cap) (hfix : ∀ j, c (j % n) y = some y)
    (hH : ∀ q, H[q]? = some y → lastAllEq q H y = true)
    {s : Nat} (hs : s < n) (fuel links : Nat) (draws : List D) (st : Stats) :
    andCycle c rand n cap (fuel + 1) (n + s) (List.replicate s y ++ H) y links draws st =
      if lastAllEq (n - 1 - (s + 1)) H y = true then
        (.success y (n + s) (links + 1), { st with calls := st.calls + 1 })
      else andCycle c rand n cap fuel (n + s + 1) (List.replicate (s + 1) y ++ H) y (links + 1) draws
        { st with calls := st.calls + 1 } := by
  have hlt : n + s < 2 * n := by rw [Nat.two_mul]; exact Nat.add_lt_add_left hs n
  rw [andCycle, if_neg (Nat.not_le.mpr (Nat.lt_of_lt_of_le hlt hcap)), applyM_of_some (hfix _)]
  dsimp only
  rw [show y :: (List.replicate s y ++ H) = List.replicate (s + 1) y ++ H from rfl, lastAllEq_replicate_append]
  by_cases hw : lastAllEq (n - 1 - (s + 1)) H y = true
  · rw [if_pos hw, hw]; rfl
  · have hpos : 0 < n - 1 - (s + 1) := Nat.pos_of_ne_zero fun h0 => hw (by rw [h0]; rfl)
    have hcyc : cycHit n (List.replicate (s + 1) y ++ H) y = false :=
      cycHit_replicate_append (Nat.lt_of_lt_pred (Nat.lt_of_sub_pos hpos)) fun hz => hw (hH _ hz)
    have hdrop : (n + s) % (2 * n) ≠ 0 := by
      rw [Nat.mod_eq_of_lt hlt]
      exact Nat.ne_of_gt (Nat.lt_of_lt_of_le (Nat.zero_lt_of_lt hs) (Nat.le_add_right n s))
    rw [if_neg hw, Bool.eq_false_iff.mpr hw, hcyc, dropOld, if_neg hdrop]
    rfl

theorem andCycle_fixed [BEq X] [LawfulBEq X] {c : Nat → X → Option X} (rand : D → X → X) {n cap : Nat}
    {y : X} {H : List X} (hcap : 2 * n ≤ cap) (hfix : ∀ j, c (j % n) y = some y)
    (hH : ∀ q, H[q]? = some y → lastAllEq q H y = true) :
    ∀ (fuel s links : Nat) (draws : List D) (st : Stats), s < n → n - 1 - s < fuel →
      ∃ t l st', andCycle c rand n cap fuel (n + s) (List.replicate s y ++ H) y links draws st
        = (.success y t l, st') ∧ st'.draws = st.draws := by
  intro fuel
  induction fuel with
  | zero => intro s links draws st _ hf; exact absurd hf (Nat.not_lt_zero _)
  | succ fuel ih =>
    intro s links draws st hs hf
    rw [andCycle_fixed_step rand hcap hfix hH hs]
    by_cases hw : lastAllEq (n - 1 - (s + 1)) H y = true
    · rw [if_pos hw]; exact ⟨_, _, _, rfl, rfl⟩
    · rw [if_neg hw]
      have hpos : 0 < n - 1 - (s + 1) := Nat.pos_of_ne_zero fun h0 => hw (by rw [h0]; rfl)
      exact ih (s + 1) _ draws _ (Nat.lt_of_lt_pred (Nat.lt_of_sub_pos hpos)) (by omega)

/-- **`and_` succeeds without a random draw** when no member raises during the first pass and the first pass ends in a
common fixed point `seq n` of all members; it returns that fixed point. -/
theorem and_succeeds [BEq X] [LawfulBEq X] (c : Nat → X → Option X) (rand : D → X → X) (n cap : Nat) (x : X)
    (draws : List D) (hn : 0 < n) (hcap : 2 * n ≤ cap)
    (hok : ∀ k, k < n → (applyM (c (k % n)) (seqF c n x k)).2 = false)
    (hfix : ∀ j, c (j % n) (seqF c n x n) = some (seqF c n x n)) :
    ∃ t l st, and_ c rand n cap x draws = (.success (seqF c n x n) t l, st) ∧ st.draws = 0 := by
  unfold and_
  rw [if_neg (Nat.ne_of_gt hn)]
  have hf := andFirst_seq c n x hok n 0 0 (Nat.le_of_eq (Nat.zero_add n))
  simp only [histF, seqF, Nat.zero_add] at hf
  simp only [hf]
  split
  · exact ⟨_, _, _, rfl, rfl⟩
  · exact andCycle_fixed (s := 0) rand hcap hfix (fun q hy => (histF_settled hfix n q hy).1)
      (cap - n) n draws { calls := n } hn (by omega)

theorem orFirst_none_hist [BEq X] (c : Nat → X → Option X) (x : X) {h' : List X} {calls' : Nat}
    (k i : Nat) (h : List X) (e : Bool) (calls : Nat) :
    orFirst c x k i h e calls = (none, h', calls') →
    ∃ l, h' = l ++ h ∧ l.length = k ∧ (0 < k → l[k - 1]? = some (applyM (c i) x).1) := by
  fun_induction orFirst c x k i h e calls with
  | case1 => intro hr; cases hr; exact ⟨[], rfl, rfl, fun h => absurd h (Nat.lt_irrefl 0)⟩
  | case2 => intro hr; cases hr
  | case3 k i =>
    rename_i ih
    intro hr
    obtain ⟨l, hl, hlen, _⟩ := ih hr
    refine ⟨l ++ [(applyM (c i) x).1], by rw [hl, List.append_assoc]; rfl, by rw [List.length_append, hlen]; rfl,
      fun _ => ?_⟩
    rw [List.getElem?_append_right (show l.length ≤ k + 1 - 1 from Nat.le_of_eq hlen), Nat.add_sub_cancel, hlen,
      Nat.sub_self]
    rfl

/-- **`or_` succeeds without a random draw** whenever its first member runs without raising at the input and is
idempotent there: either a member leaves the input unchanged (first pass), or the second application of the first
member reproduces its first output. -/
theorem or_succeeds [BEq X] [LawfulBEq X] (c : Nat → X → Option X) (pick : D → Nat) (n cap : Nat) (x : X)
    (draws : List D) (hn : 0 < n) (hcap : n < cap) (y1 : X) (h0 : c 0 x = some y1) (hid : c 0 y1 = some y1) :
    ∃ y t l st, or_ c pick n cap x draws = (.success y t l, st) ∧ st.draws = 0 := by
  unfold or_
  cases hf : orFirst c x n 0 [x] false 0 with
  | mk o r =>
  obtain ⟨h, calls⟩ := r
  cases o with
  | some y => exact ⟨_, _, _, _, rfl, rfl⟩
  | none =>
    obtain ⟨l, hl, hlen, hlast⟩ := orFirst_none_hist c x n 0 [x] false 0 hf
    have hsrc : h[n - 1]? = some y1 := by
      rw [hl, List.getElem?_append_left (by rw [hlen]; exact Nat.sub_lt hn Nat.one_pos), hlast hn, applyM_of_some h0]
    obtain ⟨fuel, hfuel⟩ : ∃ f, cap - n = f + 1 :=
      (Nat.exists_eq_add_of_lt hcap).imp fun k hk => by rw [hk, Nat.add_assoc, Nat.add_sub_cancel_left]
    cases h with
    | nil => cases hsrc
    | cons top rest =>
      dsimp only
      rw [hfuel, orCycle]
      simp only [if_neg (Nat.not_le.mpr hcap), hsrc, Nat.mod_self, applyM_of_some hid, beq_self_eq_true,
        Bool.not_false, Bool.and_self, if_true]
      exact ⟨_, _, _, _, rfl, rfl⟩

end MysticVerif.Comb
