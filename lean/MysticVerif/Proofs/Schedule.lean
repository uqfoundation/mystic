/- lemmas for C07 part 2 (Model/Schedule.lean): evaluation order of the map, member schedules of an ensemble -/
import MysticVerif.Model.Schedule
import MysticVerif.Proofs.Solver
import MysticVerif.Proofs.NelderMead
import Mathlib.Logic.Function.Iterate

namespace MysticVerif.Sched
open MysticVerif.Solver MysticVerif.Config

section
variable {X E : Type} (o : Obj X E) (ys : List X)

/-- what one evaluation appends to the evaluation monitor: nothing when the point is outside the strict ranges -/
def logged (o : Obj X E) (y : X) : Option (X × E) :=
  if (o.useRange && !o.inBox y) = true then none else some (y, o.raw y)

theorem objAt_snd (y : X) (log : List (X × E)) :
    (o.objAt y log).2 = log ++ (logged o y).toList := by
  unfold Obj.objAt Obj.evalB logged
  split <;> simp

/-- the value the map computes for position `i` -/
def valAt (o : Obj X E) (ys : List X) (i : Nat) : Option (Nat × E) := (ys[i]?).map (fun y => (i, o.energy y))

/-- what evaluating position `i` logs -/
def logAt (o : Obj X E) (ys : List X) (i : Nat) : Option (X × E) := (ys[i]?).bind (logged o)

theorem evalOrder_eq (π : List Nat) (log : List (X × E)) :
    evalOrder o ys π log = (π.filterMap (valAt o ys), log ++ π.filterMap (logAt o ys)) := by
  fun_induction evalOrder o ys π log with
  | case1 log => simp
  | case2 i π log h ih => simp only [ih, valAt, logAt, h, List.filterMap_cons, Option.map_none, Option.bind_none]
  | case3 i π log y h ih =>
    rw [ih]
    simp only [objAt_fst, objAt_snd, valAt, logAt, h, List.filterMap_cons, Option.map_some, Option.bind_some]
    cases logged o y <;> simp

theorem evalAll_eq (ts : List X) (log : List (X × E)) :
    DE.evalAll o ts log = ((ts.map o.K).map (fun y => (y, o.energy y)), log ++ (ts.map o.K).filterMap (logged o)) := by
  fun_induction DE.evalAll o ts log with
  | case1 log => simp
  | case2 t ts log y r rest ih =>
    cases hy : logged o (o.K t) <;> simp [rest, r, y, ih, objAt_fst, objAt_snd, hy]

theorem find?_filterMap_valAt (i : Nat) (y : X) (hy : ys[i]? = some y) :
    ∀ π : List Nat, i ∈ π → (∀ j ∈ π, j < ys.length) →
      (π.filterMap (valAt o ys)).find? (fun p => p.1 == i) = some (i, o.energy y) := by
  intro π
  induction π with
  | nil => intro h; cases h
  | cons j π ih =>
    intro hi hlt
    have hj : j < ys.length := hlt j (by simp)
    have hv : valAt o ys j = some (j, o.energy ys[j]) := by simp [valAt, List.getElem?_eq_getElem hj]
    simp only [List.filterMap_cons, hv]
    rw [List.find?_cons]
    by_cases hji : j = i
    · subst hji
      rw [List.getElem?_eq_getElem hj] at hy
      cases hy
      simp
    · have hi' : i ∈ π := by
        rcases List.mem_cons.mp hi with h | h
        · exact absurd h.symm hji
        · exact h
      have hb : (j == i) = false := by simp [hji]
      simp only [hb]
      exact ih hi' (fun k hk => hlt k (by simp [hk]))

/-- the map returns exactly the energies of its work items, whatever the order of evaluation -/
theorem gather_perm (π : List Nat) (hπ : π.Perm (List.range ys.length)) :
    gather o.top ys.length (π.filterMap (valAt o ys)) = ys.map o.energy := by
  apply List.ext_getElem
  · simp [gather]
  · intro i h1 h2
    have hi : i < ys.length := by simpa [gather] using h1
    have hmem : i ∈ π := hπ.mem_iff.mpr (List.mem_range.mpr hi)
    have hlt : ∀ j ∈ π, j < ys.length := fun j hj => List.mem_range.mp (hπ.mem_iff.mp hj)
    have := find?_filterMap_valAt o ys i ys[i] (List.getElem?_eq_getElem hi) π hmem hlt
    simp only [gather, List.getElem_map, List.getElem_range, this]

theorem zip_map_self (f : X → E) : ∀ ys : List X, ys.zip (ys.map f) = ys.map (fun y => (y, f y)) := by
  intro ys
  induction ys with
  | nil => rfl
  | cons y ys ih => simp [ih]

theorem selectAll_log_irrel [LT E] [DecidableLT E] : ∀ (ps : List (X × E)) (i : Nat) (s : DE X E) (L : List (X × E)),
    DE.selectAll ps i { s with log := L } = { DE.selectAll ps i s with log := L } := by
  intro ps
  induction ps with
  | nil => intro i s L; rfl
  | cons p ps ih =>
    intro i s L
    obtain ⟨y, e⟩ := p
    simp only [DE.selectAll]
    rw [DE.select_withLog]
    exact ih _ _ _

theorem selectAll_log [LT E] [DecidableLT E] : ∀ (ps : List (X × E)) (i : Nat) (s : DE X E),
    (DE.selectAll ps i s).log = s.log :=
  fun ps i s => (congrArg DE.log (selectAll_log_irrel ps i s s.log) :)

theorem step2With_eq [LT E] [DecidableLT E] (π : List Nat) (trials : List X) (s : DE X E)
    (hπ : π.Perm (List.range trials.length)) :
    step2With o π trials s =
      { DE.selectAll ((trials.map o.K).map (fun y => (y, o.energy y))) 0 s with
        log := s.log ++ π.filterMap (logAt o (trials.map o.K)),
        stepLog := (DE.selectAll ((trials.map o.K).map (fun y => (y, o.energy y))) 0 s).stepLog ++
          [((DE.selectAll ((trials.map o.K).map (fun y => (y, o.energy y))) 0 s).best,
            (DE.selectAll ((trials.map o.K).map (fun y => (y, o.energy y))) 0 s).bestE)] } := by
  have hπ' : π.Perm (List.range (trials.map o.K).length) := by simpa using hπ
  unfold step2With
  simp only [evalOrder_eq, gather_perm o _ π hπ', zip_map_self, selectAll_log_irrel]

theorem filterMap_logAt_take : ∀ n : Nat,
    (List.range n).filterMap (logAt o ys) = (ys.take n).filterMap (logged o) := by
  intro n
  induction n with
  | zero => rfl
  | succ n ih =>
    rw [List.range_succ, List.filterMap_append, ih, List.take_add_one, List.filterMap_append]
    congr 1
    cases h : ys[n]? <;>
      simp only [logAt, h, Option.bind_none, Option.bind_some, Option.toList_none, Option.toList_some,
        List.filterMap_cons, List.filterMap_nil]

theorem step2With_range [LT E] [DecidableLT E] (trials : List X) (s : DE X E) :
    step2With o (List.range trials.length) trials s = DE.step2 o trials s := by
  rw [step2With_eq o _ trials s (List.Perm.refl _), ← List.length_map (f := o.K), filterMap_logAt_take,
    List.take_length]
  unfold DE.step2
  simp only [evalAll_eq, selectAll_log_irrel]

/-- the same observable part, and the same evaluations up to order -/
def Sim (s s' : DE X E) : Prop := obs s = obs s' ∧ s.log.Perm s'.log

theorem step2With_sim [LT E] [DecidableLT E] (π π' : List Nat) (trials : List X) (s s' : DE X E)
    (hπ : π.Perm (List.range trials.length)) (hπ' : π'.Perm (List.range trials.length)) (h : Sim s s') :
    Sim (step2With o π trials s) (step2With o π' trials s') := by
  rw [step2With_eq o π trials s hπ, step2With_eq o π' trials s' hπ']
  constructor
  · -- the two states differ in their evaluation logs only, which selection does not read
    have e : s = { s' with log := s.log } := by
      have := h.1
      cases s; cases s'
      simp only [obs, Prod.mk.injEq] at this
      obtain ⟨rfl, rfl, rfl, rfl, rfl⟩ := this
      rfl
    rw [e, selectAll_log_irrel]
    rfl
  · exact List.Perm.append h.2 ((hπ.filterMap _).trans (hπ'.filterMap _).symm)

theorem run2With_sim [LT E] [DecidableLT E] {D : Type} (strat : List X → List E → X → D → List X)
    (n : Nat) (hlen : ∀ pop popE best d, (strat pop popE best d).length = n) :
    ∀ (gens gens' : List (D × List Nat)) (s s' : DE X E), gens.map Prod.fst = gens'.map Prod.fst →
      (∀ g ∈ gens, g.2.Perm (List.range n)) → (∀ g ∈ gens', g.2.Perm (List.range n)) → Sim s s' →
      Sim (run2With o strat gens s) (run2With o strat gens' s') := by
  intro gens
  induction gens with
  | nil =>
    intro gens' s s' hd _ _ h
    cases gens' with
    | nil => exact h
    | cons _ _ => cases hd
  | cons g gens ih =>
    intro gens' s s' hd hg hg' h
    cases gens' with
    | nil => cases hd
    | cons g' gens' =>
      obtain ⟨d, π⟩ := g
      obtain ⟨d', π'⟩ := g'
      rw [List.map_cons, List.map_cons, List.cons.injEq] at hd
      obtain ⟨rfl, hd⟩ : d = d' ∧ _ := hd
      refine ih gens' _ _ hd (fun g hm => hg g (List.mem_cons_of_mem _ hm))
        (fun g hm => hg' g (List.mem_cons_of_mem _ hm)) ?_
      -- the strategy reads the observable part only
      have ht : strat s.pop s.popE s.best d = strat s'.pop s'.popE s'.best d := by
        have e := h.1
        simp only [obs, Prod.mk.injEq] at e
        rw [e.1, e.2.1, e.2.2.1]
      rw [ht]
      exact step2With_sim o π π' _ s s' (by rw [hlen]; exact hg _ List.mem_cons_self)
        (by rw [hlen]; exact hg' _ List.mem_cons_self) h

/-! ### mutable work items -/

theorem decorated2_val (K : X → X) (useRange : Bool) (inBox : X → Bool) (top : E) (add : E → E → E)
    (cost pen : Proc X E) (y : X) :
    (decorated2 useRange inBox top add cost pen y).1 = (objOfProcs K inBox useRange top add cost pen).energy y := by
  unfold decorated2 wrapPenaltyP wrapBoundsP objOfProcs Obj.energy
  by_cases h : (useRange && !inBox y) = true
  · simp only [h, if_true]
  · simp only [h]
    rfl

theorem itemsAfter_id (f : Proc X E) (sh : Nat → Bool) (hf : ∀ y, (f y).2 = y) : ∀ ys : List X,
    itemsAfter f sh ys = ys := by
  intro ys
  unfold itemsAfter
  apply List.ext_getElem
  · simp
  · intro i h1 h2
    simp [hf]

theorem evalOrderP_eq (f : Proc X E) (hf : ∀ y, (f y).1 = o.energy y) (ys : List X) (π : List Nat) :
    evalOrderP f ys π = π.filterMap (valAt o ys) := by
  fun_induction evalOrderP f ys π with
  | case1 => rfl
  | case2 i π h ih => simp only [ih, valAt, h, List.filterMap_cons, Option.map_none]
  | case3 i π y h ih => simp only [ih, valAt, h, hf, List.filterMap_cons, Option.map_some]

/-- with the pinned `wrap_penalty` the step on mutable work items IS the step of Model/Schedule `step2With`,
    for every procedure pair, sharing discipline and evaluation order (a permutation or not) -/
theorem step2Proc_eq [LT E] [DecidableLT E] (K : X → X) (inBox : X → Bool) (useRange : Bool) (top : E)
    (add : E → E → E) (cost pen : Proc X E) (sh : Nat → Bool) (π : List Nat) (trials : List X) (s : DE X E) :
    step2Proc K inBox useRange top add cost pen sh π trials s =
      step2With (objOfProcs K inBox useRange top add cost pen) π trials s := by
  unfold step2Proc step2ProcWith step2With
  simp only [evalOrder_eq]
  -- `wrap_penalty` hands its callees a copy: the decorated objective leaves the vector it was handed as it was
  rw [itemsAfter_id _ sh fun _ => rfl,
    evalOrderP_eq (objOfProcs K inBox useRange top add cost pen) _
      (decorated2_val K useRange inBox top add cost pen)]
  rfl

end

theorem iterate_map {α : Type} (f : α → α) : ∀ (k : Nat) (l : List α), (List.map f)^[k] l = l.map f^[k] := by
  intro k
  induction k with
  | zero => intro l; exact (List.map_id l).symm
  | succ k ih => intro l; rw [Function.iterate_succ_apply, ih, List.map_map, Function.iterate_succ]

/-! ### member schedules: any interleaving = run to completion -/

section
variable {M : Type} (step : M → M) (done : M → Bool)

theorem runToEnd_iter (n : Nat) (m : M) : runToEnd step done n m = (stepIfLive step done)^[n] m := by
  fun_induction runToEnd step done n m with
  | case1 m => rfl
  | case2 n m ih => rw [ih, Function.iterate_succ_apply]

/-- once a member has terminated, further `Step` calls leave it alone -/
theorem iter_stable (m : M) (T : Nat)
    (h : done ((stepIfLive step done)^[T] m) = true) :
    ∀ k, T ≤ k → (stepIfLive step done)^[k] m = (stepIfLive step done)^[T] m := by
  intro k hk
  obtain ⟨d, rfl⟩ := Nat.exists_eq_add_of_le hk
  rw [Nat.add_comm, Function.iterate_add_apply]
  exact Function.iterate_fixed (by rw [stepIfLive, if_pos h]) d

theorem getElem?_iter_eq_runToEnd (ms : List M) (T : Nat → Nat)
    (hT : ∀ i (h : i < ms.length), done ((stepIfLive step done)^[T i] ms[i]) = true) (i k fuel : Nat)
    (hk : i < ms.length → T i ≤ k) (hf : i < ms.length → T i ≤ fuel) :
    (ms[i]?).map (stepIfLive step done)^[k] = (ms[i]?).map (runToEnd step done fuel) := by
  rcases Nat.lt_or_ge i ms.length with hi | hi
  · rw [List.getElem?_eq_getElem hi, Option.map_some, Option.map_some, runToEnd_iter,
      iter_stable step done _ (T i) (hT i hi) _ (hk hi), iter_stable step done _ (T i) (hT i hi) _ (hf hi)]
  · rw [List.getElem?_eq_none hi]; rfl

theorem getElem?_stepAt (ms : List M) (j i : Nat) :
    (stepAt step done ms j)[i]? = if i = j then (ms[i]?).map (stepIfLive step done) else ms[i]? := by
  unfold stepAt
  cases h : ms[j]? with
  | none =>
    show ms[i]? = _
    by_cases hij : i = j
    · rw [if_pos hij, hij, h]; rfl
    · rw [if_neg hij]
  | some m =>
    show (ms.set j (stepIfLive step done m))[i]? = _
    rw [List.getElem?_set]
    by_cases hij : j = i
    · subst hij
      obtain ⟨hl, _⟩ := List.getElem?_eq_some_iff.mp h
      rw [if_pos rfl, if_pos hl, if_pos rfl, h]
      rfl
    · rw [if_neg hij, if_neg (Ne.symm hij)]

theorem getElem?_runSched : ∀ (sched : List Nat) (ms : List M) (i : Nat),
    (runSched step done ms sched)[i]? = (ms[i]?).map ((stepIfLive step done)^[sched.count i]) := by
  intro sched
  induction sched with
  | nil => intro ms i; simp [runSched]
  | cons j sched ih =>
    intro ms i
    show (runSched step done (stepAt step done ms j) sched)[i]? = _
    rw [ih, getElem?_stepAt]
    by_cases hij : i = j
    · subst hij
      simp only [if_true, List.count_cons_self, Option.map_map]
      congr 1
    · have : (j == i) = false := by simp; exact fun e => hij e.symm
      simp [hij, List.count_cons, this]

theorem ensembleStep_iter (k : Nat) (ms : List M) :
    (ensembleStep step done)^[k] ms = ms.map ((stepIfLive step done)^[k]) :=
  iterate_map (stepIfLive step done) k ms

end

/-! ### ensembles: the `_live` flag and the deferred decoration -/

section
variable {S : Type} (a : MAlg S) (m : Mem S)

/-- an iteration that stops leaves a step record -/
def StopRecords : Prop := ∀ s, a.term (a.iter s) = true → a.started (a.fin (a.iter s)) = true

/-- an iteration that stops leaves a step record, and `Finalize` does not revoke the stop -/
def StopStays : Prop :=
  ∀ s, a.term (a.iter s) = true → a.term (a.fin (a.iter s)) = true ∧ a.started (a.fin (a.iter s)) = true

theorem bootstrapM_live : (bootstrapM a m).live = true := by
  unfold bootstrapM; split <;> simp_all

theorem bootstrapM_of_live (h : m.live = true) : bootstrapM a m = m := by
  simp [bootstrapM, h]

theorem mStep_of_stopped (hl : m.live = true) (hs : a.started m.st = true)
    (ht : a.term m.st = true) : mStep a m = (m, true) := by
  simp [mStep, bootstrapM_of_live a m hl, hs, ht]

/-- **a finished member is left alone by the ensemble's mapped `_step` and `_solve`** - whatever a decoration would
    do: the toggle hands the call a live member, which stops at its own stop test -/
theorem toggled_finished (call : Mem S → Mem S × Bool) (m : Mem S) (h : Finished a m)
    (hc : call { m with live := true } = ({ m with live := true }, true)) : toggled a call m = (m, true) := by
  obtain ⟨hl, ht, -⟩ := h
  unfold toggled
  rw [hc, hl, ht]
  cases m
  subst hl
  rfl

theorem ensMemberStep_finished (h : Finished a m) : ensMemberStep a m = m :=
  congrArg Prod.fst (toggled_finished a (mStep a) m h (mStep_of_stopped a _ rfl h.2.2 h.2.1))

theorem ensMemberSolve_finished (fuel : Nat) (m : Mem S) (h : Finished a m) :
    ensMemberSolve a (fuel + 1) m = (m, true) :=
  toggled_finished a (mSolve a (fuel + 1)) m h
    (by rw [mSolve, mStep_of_stopped a { m with live := true } rfl h.2.2 h.2.1, if_pos rfl])

/-- the toggle does not fire: the member is live or not terminated -/
def Plain (a : MAlg S) (m : Mem S) : Prop := (!m.live && a.term m.st) = false

/-- the members an ensemble call may meet: the toggle does not fire, or the member is finished -/
def Regular (a : MAlg S) (m : Mem S) : Prop := Plain a m ∨ Finished a m

theorem ensMemberStep_plain (h : Plain a m) : ensMemberStep a m = (mStep a m).1 := by
  unfold Plain at h
  simp [ensMemberStep, toggled, h]

theorem ensMemberSolve_plain (fuel : Nat) (m : Mem S) (h : Plain a m) :
    ensMemberSolve a fuel m = mSolve a fuel m := by
  unfold Plain at h
  simp [ensMemberSolve, toggled, h]

theorem mStep_cases :
    (mStep a m = (bootstrapM a m, true) ∧ a.started (bootstrapM a m).st = true ∧ a.term (bootstrapM a m).st = true) ∨
    (mStep a m = ({ bootstrapM a m with st := a.fin (a.iter (bootstrapM a m).st), live := false,
                                        niter := (bootstrapM a m).niter + 1 },
                  a.term (a.fin (a.iter (bootstrapM a m).st))) ∧ a.term (a.iter (bootstrapM a m).st) = true) ∨
    (mStep a m = ({ bootstrapM a m with st := a.iter (bootstrapM a m).st, niter := (bootstrapM a m).niter + 1 }, false) ∧
      a.term (a.iter (bootstrapM a m).st) = false) := by
  unfold mStep
  by_cases h1 : (a.started (bootstrapM a m).st && a.term (bootstrapM a m).st) = true
  · left
    simp only [h1, if_true, true_and]
    simpa using h1
  · by_cases h2 : a.term (a.iter (bootstrapM a m).st) = true
    · right; left
      simp [h1, h2]
    · right; right
      simp [h1, h2]

theorem mStep_stop_fixed (hrec : StopRecords a)
    (m : Mem S) (h : (mStep a m).2 = true) : ensMemberStep a (mStep a m).1 = (mStep a m).1 := by
  rcases mStep_cases a m with ⟨e, hs, ht⟩ | ⟨e, ht⟩ | ⟨e, _⟩
  · rw [e]
    have hl := bootstrapM_live a m
    rw [ensMemberStep_plain a _ (by simp [Plain, hl]), mStep_of_stopped a _ hl hs ht]
  · rw [e] at h ⊢
    exact ensMemberStep_finished a _ ⟨rfl, h, hrec _ ht⟩
  · rw [e] at h; cases h

theorem mStep_go_plain (h : (mStep a m).2 = false) : Plain a (mStep a m).1 := by
  rcases mStep_cases a m with ⟨e, _, _⟩ | ⟨e, _⟩ | ⟨e, _⟩
  · rw [e] at h; cases h
  · rw [e] at h ⊢
    simp only at h
    simp [Plain, h]
  · rw [e]
    simp [Plain, bootstrapM_live a m]

/-- `Solve` on a member on which the toggle does not fire = as many ensemble `Step`s as one likes, once `Solve` has
    come back with a message -/
theorem plain_steps_eq_solve (hrec : StopRecords a) :
    ∀ (fuel : Nat) (m : Mem S), Plain a m → (mSolve a fuel m).2 = true →
      ∀ k, fuel ≤ k → (ensMemberStep a)^[k] m = (mSolve a fuel m).1 := by
  intro fuel
  induction fuel with
  | zero => intro m _ h; simp [mSolve] at h
  | succ fuel ih =>
    intro m hp h k hk
    obtain ⟨k', rfl⟩ := Nat.exists_eq_add_of_le' (Nat.le_trans (Nat.succ_pos fuel) hk)
    rw [Function.iterate_succ_apply, ensMemberStep_plain a m hp]
    by_cases hs : (mStep a m).2 = true
    · simp only [mSolve, hs, if_true]
      exact Function.iterate_fixed (mStep_stop_fixed a hrec m hs) k'
    · have hs' : (mStep a m).2 = false := by simpa using hs
      simp only [mSolve, hs', Bool.false_eq_true, if_false] at h ⊢
      exact ih _ (mStep_go_plain a m hs') h k' (Nat.le_of_succ_le_succ hk)

theorem member_steps_eq_solve (hrec : StopRecords a)
    (fuel : Nat) (m : Mem S) (hr : Regular a m) (h : (ensMemberSolve a fuel m).2 = true) (k : Nat) (hk : fuel ≤ k) :
    (ensMemberStep a)^[k] m = (ensMemberSolve a fuel m).1 := by
  rcases hr with hp | hf
  · rw [ensMemberSolve_plain a fuel m hp] at h ⊢
    exact plain_steps_eq_solve a hrec fuel m hp h k hk
  · cases fuel with
    | zero =>
      exfalso
      obtain ⟨hl, ht, _⟩ := hf
      simp [ensMemberSolve, toggled, hl, ht, mSolve] at h
    | succ fuel =>
      rw [ensMemberSolve_finished a fuel m hf]
      exact Function.iterate_fixed (ensMemberStep_finished a m hf) k

theorem regular_step (hrec : StopRecords a) (m : Mem S) (hr : Regular a m) : Regular a (ensMemberStep a m) := by
  rcases hr with hp | hf
  · rw [ensMemberStep_plain a m hp]
    rcases mStep_cases a m with ⟨e, _, _⟩ | ⟨e, ht⟩ | ⟨e, _⟩
    · rw [e]; left; simp [Plain, bootstrapM_live a m]
    · rw [e]
      by_cases h2 : a.term (a.fin (a.iter (bootstrapM a m).st)) = true
      · right; exact ⟨rfl, h2, hrec _ ht⟩
      · left; simp [Plain, h2]
    · rw [e]; left; simp [Plain, bootstrapM_live a m]
  · rw [ensMemberStep_finished a m hf]; exact Or.inr hf

theorem regular_steps (hrec : StopRecords a)
    (m : Mem S) (hr : Regular a m) (j : Nat) : Regular a ((ensMemberStep a)^[j] m) :=
  Function.Iterate.rec _ hr (regular_step a hrec) j

theorem ensStepL_iter (k : Nat) (ms : List (Mem S)) :
    (ensStepL a)^[k] ms = ms.map ((ensMemberStep a)^[k]) :=
  iterate_map (ensMemberStep a) k ms

/-- live, or finished: the states in which no decoration is pending -/
def Settled (a : MAlg S) (m : Mem S) : Prop := m.live = true ∨ Finished a m

theorem mStep_settled (hfin : StopStays a)
    (m : Mem S) : Settled a (mStep a m).1 ∧ (mStep a m).1.ndec = (bootstrapM a m).ndec := by
  rcases mStep_cases a m with ⟨e, _, _⟩ | ⟨e, ht⟩ | ⟨e, _⟩ <;> rw [e]
  · exact ⟨Or.inl (bootstrapM_live a m), rfl⟩
  · exact ⟨Or.inr ⟨rfl, (hfin _ ht).1, (hfin _ ht).2⟩, rfl⟩
  · exact ⟨Or.inl (bootstrapM_live a m), rfl⟩

theorem settled_step (hfin : StopStays a)
    (m : Mem S) (h : Settled a m) : Settled a (ensMemberStep a m) ∧ (ensMemberStep a m).ndec = m.ndec := by
  rcases h with hl | hf
  · rw [ensMemberStep_plain a m (by simp [Plain, hl])]
    have h := mStep_settled a hfin m
    rwa [bootstrapM_of_live a m hl] at h
  · rw [ensMemberStep_finished a m hf]; exact ⟨Or.inr hf, rfl⟩

theorem settled_steps (hfin : StopStays a) (m : Mem S) (h : Settled a m) (k : Nat) :
    Settled a ((ensMemberStep a)^[k] m) ∧ ((ensMemberStep a)^[k] m).ndec = m.ndec :=
  Function.Iterate.rec (fun x => Settled a x ∧ x.ndec = m.ndec) ⟨h, rfl⟩
    (fun x hx => ⟨(settled_step a hfin x hx.1).1, (settled_step a hfin x hx.1).2.trans hx.2⟩) k

theorem fresh_step (hfin : StopStays a) (m : Mem S) (hl : m.live = false) (ht : a.term m.st = false) :
    Settled a (ensMemberStep a m) ∧ (ensMemberStep a m).ndec = m.ndec + 1 := by
  rw [ensMemberStep_plain a m (by simp [Plain, ht])]
  have h := mStep_settled a hfin m
  rwa [show (bootstrapM a m).ndec = m.ndec + 1 by simp [bootstrapM, hl]] at h

end

end MysticVerif.Sched
