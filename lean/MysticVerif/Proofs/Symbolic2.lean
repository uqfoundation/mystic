/-
Helper lemmas for C12 on absolute values and product divisors (Model/Symbolic2.lean).
-/
import MysticVerif.Model.Symbolic2
import MysticVerif.Proofs.Symbolic

namespace MysticVerif.Sym

section field
variable {K : Type} [Field K]

theorem affine1_eval (a b : K) (i : Nat) (x : Nat → K) : (affine1 a b i).eval x = a * x i + b := by
  simp only [affine1, Form.eval, dot_single, Nat.zero_add]

theorem prodForm_eval (a b : K) (i : Nat) (c d : K) (j m : Nat) (x : Nat → K) (h : x m = x i * x j) :
    (prodForm a b i c d j m).eval x = (a * x i + b) * (c * x j + d) := by
  simp only [prodForm, Form.eval_add, affine1_eval, h]
  ring

end field

section fieldOrder
variable {K : Type} [Field K] [LinearOrder K]

theorem absK_of_nonneg {a : K} (h : 0 ≤ a) : absK a = a := if_neg (not_lt.mpr h)

theorem absK_of_nonpos {a : K} (h : a ≤ 0) : absK a = -a := by
  rcases h.lt_or_eq with h | rfl
  · exact if_pos h
  · rw [absK_of_nonneg le_rfl, neg_zero]

theorem absK_cases (P : K → Prop) (a : K) : P (absK a) ↔ (0 ≤ a ∧ P a) ∨ (a ≤ 0 ∧ P (-a)) := by
  constructor
  · intro h
    rcases le_total 0 a with ha | ha
    · exact Or.inl ⟨ha, absK_of_nonneg ha ▸ h⟩
    · exact Or.inr ⟨ha, absK_of_nonpos ha ▸ h⟩
  · rintro (⟨ha, h⟩ | ⟨ha, h⟩)
    · rwa [absK_of_nonneg ha]
    · rwa [absK_of_nonpos ha]

theorem Item.satPlus_zero (it : Item K) (x : Nat → K) : it.satPlus 0 x ↔ it.sat x := by
  cases it <;> simp only [Item.satPlus, add_zero, Item.sat, Line.sat]

theorem Item.addL_satPlus (it : Item K) (f : Form K) (d : K) (x : Nat → K) :
    (it.addL f).satPlus d x ↔ it.satPlus (f.eval x + d) x := by
  cases it <;> simp only [Item.addL, Item.satPlus, Form.eval_add, add_assoc]

theorem exists_mem_map_cons_left (ln : Line K) (L : List (List (Line K) × Item K)) (x : Nat → K) :
    (∃ p ∈ L.map (fun p => (ln :: p.1, p.2)), (∀ l ∈ p.1, l.sat x) ∧ p.2.sat x) ↔
      ln.sat x ∧ ∃ p ∈ L, (∀ l ∈ p.1, l.sat x) ∧ p.2.sat x := by
  constructor
  · rintro ⟨_, hm, hc, hi⟩
    obtain ⟨q, hq, rfl⟩ := List.mem_map.mp hm
    rw [List.forall_mem_cons] at hc
    exact ⟨hc.1, q, hq, hc.2, hi⟩
  · rintro ⟨h0, q, hq, hc, hi⟩
    exact ⟨_, List.mem_map.mpr ⟨q, hq, rfl⟩, List.forall_mem_cons.mpr ⟨h0, hc⟩, hi⟩

theorem absExpand_sound (ts : List (K × Form K)) (it : Item K) (x : Nat → K) :
    it.satPlus (absSum ts x) x ↔ ∃ p ∈ absExpand ts it, (∀ ln ∈ p.1, ln.sat x) ∧ p.2.sat x := by
  induction ts generalizing it with
  | nil =>
    simp only [absSum, Item.satPlus_zero, absExpand, List.mem_singleton, exists_eq_left, List.not_mem_nil,
      false_imp_iff, implies_true, true_and]
  | cons t ts ih =>
    -- the two cases of `abs(a)` are the two halves of the list
    rw [absSum, absK_cases (fun y => it.satPlus (t.1 * y + absSum ts x) x)]
    -- the condition leaves the map, the shifted item folds
    simp only [absExpand, List.mem_append, or_and_right, exists_or, exists_mem_map_cons_left, ← ih, Item.addL_satPlus,
      Form.eval_smul, neg_mul, mul_neg]
    simp only [Line.sat, Form.eval_zero]
    exact Iff.rfl

end fieldOrder

section orderedField
variable {K : Type} [Field K] [LinearOrder K] [IsStrictOrderedRing K]

theorem expandXItem_sound (it : XItem K) (x : Nat → K) (hy : it.hyp x) :
    it.sat x ↔ ∃ s ∈ expandXItem it, ∀ ln ∈ s, ln.sat x := by
  cases it with
  | absl ts it =>
    have h := exists_mem_flatMap_append (fun ln : Line K => ln.sat x) (absExpand ts it) Prod.fst
      fun p => expandItem p.2
    simp only [← expandItem_sound] at h
    exact (absExpand_sound ts it x).trans h.symm
  | rat2 p a b i c d j m cmp r =>
    have hQ := prodForm_eval a b i c d j m x hy
    simp only [XItem.sat, expandXItem]
    split
    · rename_i hc
      simp only [List.mem_cons, List.mem_nil_iff, or_false, exists_eq_left, forall_eq_or_imp, forall_eq,
        Line.sat, Form.eval_zero, Form.eval_smul, affine1_eval, hQ]
      exact (and_congr_right (Cmp.div_iff_of_eq_or_ne cmp hc _ _ _)).trans
        ((and_congr_left' mul_ne_zero_iff).trans and_assoc)
    · rw [Cmp.signcase_mul_iff]
      simp only [List.mem_cons, List.mem_nil_iff, or_false, exists_eq_or_imp, exists_eq_left, forall_eq_or_imp,
        forall_eq, Line.sat, Form.eval_zero, Form.eval_smul, affine1_eval, hQ]
      exact Iff.rfl

theorem expandX_sound (items : List (XItem K)) (x : Nat → K) (hy : ∀ it ∈ items, it.hyp x) :
    (∀ it ∈ items, it.sat x) ↔ ∃ s ∈ expandX items, ∀ ln ∈ s, ln.sat x := by
  induction items with
  | nil => exact iff_of_true (fun _ h => nomatch h) ⟨[], List.mem_singleton_self _, fun _ h => nomatch h⟩
  | cons it rest ih =>
    rw [List.forall_mem_cons] at hy
    simp only [List.forall_mem_cons, expandX, exists_mem_product, ← ih hy.2, ← expandXItem_sound it x hy.1]

end orderedField

end MysticVerif.Sym
