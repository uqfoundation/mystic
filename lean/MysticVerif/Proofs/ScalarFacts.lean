/- the one fact about scalars that every numeric model family needs: each model writes `abs` as
`if x < 0 then -x else x` (its own `absR` / `absK`), and over an ordered field that is `|x|` -/
import Mathlib.Algebra.Order.Ring.Abs
import Mathlib.Algebra.Order.Field.Basic

namespace MysticVerif

theorem ite_neg_eq_abs {K : Type} [Field K] [LinearOrder K] [IsStrictOrderedRing K] (x : K) :
    (if x < 0 then -x else x) = |x| := by
  split
  · exact (abs_of_neg ‹_›).symm
  · exact (abs_of_nonneg (not_lt.mp ‹_›)).symm

end MysticVerif
