/- invariants of the Nelder-Mead model (used by Props/C01-C04) -/
import MysticVerif.Model.NelderMead
import MysticVerif.Proofs.Solver

namespace MysticVerif.Solver

variable {X E R : Type}

/-- the energy the decorated objective assigns to an already constrained point (independent of the log) -/
def Obj.energy (o : Obj X E) (y : X) : E :=
  o.add (if (o.useRange && !o.inBox y) = true then o.top else o.raw y) (o.pen y)

theorem objAt_fst (o : Obj X E) (y : X) (log : List (X × E)) : (o.objAt y log).1 = o.energy y := by
  unfold Obj.objAt Obj.evalB Obj.energy
  split <;> rfl

theorem energy_of_inBox (o : Obj X E) {y : X} (hb : o.useRange = true → o.inBox y = true) :
    o.energy y = o.add (o.raw y) (o.pen y) := by
  unfold Obj.energy
  rw [if_neg]
  intro hc
  rw [Bool.and_eq_true] at hc
  rw [hb hc.1] at hc
  exact absurd hc.2 (by decide)

/-- a (stored vertex, energy) pair is legitimate: the energy is the objective at `K vertex`, which was evaluated -/
def GoodK (o : Obj X E) (log : List (X × E)) (p : X × E) : Prop :=
  p.2 ≠ o.top → p.2 = o.energy (o.K p.1) ∧ (o.K p.1, o.raw (o.K p.1)) ∈ log ∧
    (o.useRange = true → o.inBox (o.K p.1) = true)

theorem good_goodK {o : Obj X E} {log : List (X × E)} {y : X} {e : E} (hg : Good o log y e) :
    GoodK o log (y, e) := by
  intro he
  obtain ⟨h1, h2, h3, h4⟩ := hg he
  simp only [h3]
  exact ⟨h1.trans (energy_of_inBox o h4).symm, h2, h4⟩

theorem GoodK.mono {o : Obj X E} {log log' : List (X × E)} {p : X × E}
    (h : GoodK o log p) (hsub : ∀ q ∈ log, q ∈ log') : GoodK o log' p := by
  intro he
  obtain ⟨h1, h2, h3⟩ := h he
  exact ⟨h1, hsub _ h2, h3⟩

theorem GoodK.applyK [LinearOrder E] {o : Obj X E} (h : Hyp o) {log : List (X × E)} {x : X} {e : E}
    (hg : GoodK o log (x, e)) : GoodK o log (o.K x, e) := by
  intro he
  have := hg he
  simp only [h.idem] at this ⊢
  exact this

/-- evaluating at `x` and storing `st x` (`st = id`, or `st = K` for in-place constraints) is legitimate -/
theorem objK_good [LinearOrder E] {o : Obj X E} (h : Hyp o) (st : X → X) (hst : ∀ x, o.K (st x) = o.K x)
    (x : X) (log : List (X × E)) : GoodK o (o.objK x log).2 (st x, (o.objK x log).1) := by
  intro he
  have hg := objAt_good h x log he
  simp only [hst]
  exact ⟨objAt_fst o _ log, hg.2.1, hg.2.2.2⟩

theorem mem_insertByE [LinearOrder E] (p q : Pt R × E) (l : List (Pt R × E)) :
    q ∈ insertByE p l ↔ q = p ∨ q ∈ l := by
  induction l with
  | nil => simp [insertByE]
  | cons a l ih =>
    unfold insertByE
    by_cases hlt : p.2 < a.2
    · rw [if_pos hlt]; exact List.mem_cons
    · rw [if_neg hlt]
      simp only [List.mem_cons, ih]
      exact or_left_comm

theorem mem_foldl_insert [LinearOrder E] (l acc : List (Pt R × E)) (q : Pt R × E) :
    q ∈ l.foldl (fun acc p => insertByE p acc) acc ↔ q ∈ l ∨ q ∈ acc := by
  induction l generalizing acc with
  | nil => simp
  | cons a l ih =>
    simp only [List.foldl_cons, ih, mem_insertByE, List.mem_cons]
    exact or_left_comm.trans or_assoc.symm

theorem mem_sortByE [LinearOrder E] (l : List (Pt R × E)) (q : Pt R × E) : q ∈ sortByE l ↔ q ∈ l := by
  unfold sortByE
  rw [mem_foldl_insert]; simp

def SortedE [LinearOrder E] (l : List (Pt R × E)) : Prop := l.Pairwise (fun a b => a.2 ≤ b.2)

theorem sorted_insertByE [LinearOrder E] (p : Pt R × E) (l : List (Pt R × E)) (hl : SortedE l) :
    SortedE (insertByE p l) := by
  induction l with
  | nil => exact List.pairwise_singleton _ _
  | cons a l ih =>
    unfold insertByE
    unfold SortedE at hl ih ⊢
    rw [List.pairwise_cons] at hl
    by_cases hlt : p.2 < a.2
    · rw [if_pos hlt, List.pairwise_cons]
      refine ⟨?_, List.pairwise_cons.mpr hl⟩
      intro b hb
      rcases List.mem_cons.mp hb with rfl | hb
      · exact le_of_lt hlt
      · exact le_trans (le_of_lt hlt) (hl.1 b hb)
    · rw [if_neg hlt, List.pairwise_cons]
      refine ⟨?_, ih hl.2⟩
      intro b hb
      rcases (mem_insertByE p b l).mp hb with rfl | hb
      · exact not_lt.mp hlt
      · exact hl.1 b hb

theorem sorted_sortByE [LinearOrder E] (l : List (Pt R × E)) : SortedE (sortByE l) := by
  unfold sortByE
  suffices ∀ acc : List (Pt R × E), SortedE acc → SortedE (l.foldl (fun acc p => insertByE p acc) acc) from
    this [] List.Pairwise.nil
  induction l with
  | nil => intro acc h; exact h
  | cons a l ih => intro acc h; exact ih _ (sorted_insertByE a acc h)

theorem sortByE_head_le [LinearOrder E] (l : List (Pt R × E)) (b : Pt R × E) (rest : List (Pt R × E))
    (hs : sortByE l = b :: rest) : ∀ q ∈ l, b.2 ≤ q.2 := by
  intro q hq
  have hq' : q ∈ sortByE l := (mem_sortByE l q).mpr hq
  have hsorted := sorted_sortByE l
  rw [hs] at hq' hsorted
  unfold SortedE at hsorted
  rw [List.pairwise_cons] at hsorted
  rcases List.mem_cons.mp hq' with rfl | h
  · exact le_refl _
  · exact hsorted.1 q h

theorem NM.finish_eq [LinearOrder E] (s : NM R E) {sx : List (Pt R × E)} (log : List (Pt R × E)) (hne : sx ≠ []) :
    ∃ bst rest, sortByE sx = bst :: rest ∧
      NM.finish s sx log = { simplex := bst :: rest, log := log, stepLog := s.stepLog ++ [bst] } := by
  unfold NM.finish
  cases hsort : sortByE sx with
  | nil =>
    cases sx with
    | nil => exact absurd rfl hne
    | cons a t =>
      have : a ∈ sortByE (a :: t) := (mem_sortByE _ a).mpr List.mem_cons_self
      rw [hsort] at this
      cases this
  | cons bst rest => exact ⟨bst, rest, rfl, rfl⟩

/-- `histLe`, `lastIsBest` speak of `head?`: the model allows an empty simplex -/
structure NMInv [LinearOrder E] (o : Obj (Pt R) E) (s : NM R E) : Prop where
  good : ∀ p ∈ s.simplex, GoodK o s.log p
  logOK : LogOK o s.log
  sorted : SortedE s.simplex
  hist : (s.stepLog.map Prod.snd).Pairwise (· ≥ ·)
  histLe : ∀ b ∈ s.simplex.head?, ∀ e ∈ s.stepLog.map Prod.snd, b.2 ≤ e
  lastIsBest : s.stepLog.getLast? = s.simplex.head?

theorem shrinkAll_appended [Add R] [Sub R] [Mul R] (o : Obj (Pt R) E) (c : Coef R) (st : Pt R → Pt R) (x0 : Pt R) :
    ∀ (l : List (Pt R × E)) (log : List (Pt R × E)), Appended o log (shrinkAll o c st x0 l log).2 := by
  intro l
  induction l with
  | nil => intro log; exact Appended.refl o log
  | cons a l ih => intro log; exact (objK_appended o (shrinkPt c x0 a.1) log).trans (ih _)

theorem shrinkAll_good [Add R] [Sub R] [Mul R] [LinearOrder E] {o : Obj (Pt R) E} (h : Hyp o) (c : Coef R)
    (st : Pt R → Pt R) (hst : ∀ x, o.K (st x) = o.K x) (x0 : Pt R) :
    ∀ (l : List (Pt R × E)) (log : List (Pt R × E)),
      ∀ p ∈ (shrinkAll o c st x0 l log).1, GoodK o (shrinkAll o c st x0 l log).2 p := by
  intro l
  induction l with
  | nil => intro _ _ hp; cases hp
  | cons a l ih =>
    intro log p hp
    rcases List.mem_cons.mp hp with rfl | hp
    · exact (objK_good h st hst (shrinkPt c x0 a.1) log).mono (shrinkAll_appended o c st x0 l _).subset
    · exact ih _ p hp

theorem buildRows_appended (o : Obj (Pt R) E) (x0 : Pt R) :
    ∀ (vs : List R) (k : Nat) (log : List (Pt R × E)), Appended o log (buildRows o x0 vs k log).2 := by
  intro vs
  induction vs with
  | nil => intro _ log; exact Appended.refl o log
  | cons v vs ih => intro k log; exact (objK_appended o (x0.set k v) log).trans (ih (k + 1) _)

theorem buildRows_good [LinearOrder E] {o : Obj (Pt R) E} (h : Hyp o) (x0 : Pt R) :
    ∀ (vs : List R) (k : Nat) (log : List (Pt R × E)),
      ∀ p ∈ (buildRows o x0 vs k log).1, GoodK o (buildRows o x0 vs k log).2 p := by
  intro vs
  induction vs with
  | nil => intro _ _ _ hp; cases hp
  | cons v vs ih =>
    intro k log p hp
    rcases List.mem_cons.mp hp with rfl | hp
    · exact (objK_good h id (fun _ => rfl) (x0.set k v) log).mono (buildRows_appended o x0 vs (k + 1) _).subset
    · exact ih (k + 1) _ p hp

/-- the update step either replaces the worst vertex by a point it has just evaluated, or shrinks the simplex towards
the best vertex; `lg` is the log at the moment of that evaluation / before the shrink -/
theorem core_cases [Add R] [Sub R] [Mul R] [Div R] [LinearOrder E] (o : Obj (Pt R) E) (c : Coef R)
    (st : Pt R → Pt R) (x0 : Pt R) (f0 : E) (tl : List (Pt R × E)) (xw : Pt R) (fw fsw : E) (log : List (Pt R × E)) :
    ∃ sx L b, NM.core o c st x0 f0 tl xw fw fsw log = (sx, L, b) ∧
      ((∃ y lg, Appended o log lg ∧ Appended o (o.objK y lg).2 L ∧
          sx = ((x0, f0) :: tl).dropLast ++ [(st y, (o.objK y lg).1)]) ∨
       (∃ lg, Appended o log lg ∧ sx = (x0, f0) :: (shrinkAll o c st x0 tl lg).1 ∧ L = (shrinkAll o c st x0 tl lg).2)) := by
  unfold NM.core
  extract_lets sx0 xbar xr rr xe re xc rc sh xcc rc' sh'
  have a1 : Appended o log rr.2 := objK_appended o xr log
  have a2 : ∀ y, Appended o log (o.objK y rr.2).2 := fun y => a1.trans (objK_appended o y rr.2)
  by_cases h1 : rr.1 < f0
  · rw [if_pos h1]
    by_cases h2 : re.1 < rr.1
    · rw [if_pos h2]
      exact ⟨_, _, _, rfl, Or.inl ⟨xe, rr.2, a1, Appended.refl o _, rfl⟩⟩
    · rw [if_neg h2]
      exact ⟨_, _, _, rfl, Or.inl ⟨xr, log, Appended.refl o log, objK_appended o xe rr.2, rfl⟩⟩
  · rw [if_neg h1]
    by_cases h3 : rr.1 < fsw
    · rw [if_pos h3]
      exact ⟨_, _, _, rfl, Or.inl ⟨xr, log, Appended.refl o log, Appended.refl o _, rfl⟩⟩
    · rw [if_neg h3]
      by_cases h4 : rr.1 < fw
      · rw [if_pos h4]
        by_cases h5 : rc.1 ≤ rr.1
        · rw [if_pos h5]
          exact ⟨_, _, _, rfl, Or.inl ⟨xc, rr.2, a1, Appended.refl o _, rfl⟩⟩
        · rw [if_neg h5]
          exact ⟨_, _, _, rfl, Or.inr ⟨rc.2, a2 xc, rfl, rfl⟩⟩
      · rw [if_neg h4]
        by_cases h5 : rc'.1 < fw
        · rw [if_pos h5]
          exact ⟨_, _, _, rfl, Or.inl ⟨xcc, rr.2, a1, Appended.refl o _, rfl⟩⟩
        · rw [if_neg h5]
          exact ⟨_, _, _, rfl, Or.inr ⟨rc'.2, a2 xcc, rfl, rfl⟩⟩

theorem core_appended [Add R] [Sub R] [Mul R] [Div R] [LinearOrder E] (o : Obj (Pt R) E) (c : Coef R)
    (st : Pt R → Pt R) (x0 : Pt R) (f0 : E) (tl : List (Pt R × E)) (xw : Pt R) (fw fsw : E) (log : List (Pt R × E)) :
    Appended o log (NM.core o c st x0 f0 tl xw fw fsw log).2.1 := by
  obtain ⟨sx, L, b, e, h⟩ := core_cases o c st x0 f0 tl xw fw fsw log
  rw [e]
  rcases h with ⟨y, lg, a1, a2, _⟩ | ⟨lg, a1, _, e2⟩
  · exact (a1.trans (objK_appended o y lg)).trans a2
  · exact e2 ▸ a1.trans (shrinkAll_appended o c st x0 tl lg)

/-- the second conjunct (the old best pair survives) is what `finish_inv` asks for as `hkeep` -/
theorem core_spec [Add R] [Sub R] [Mul R] [Div R] [LinearOrder E] {o : Obj (Pt R) E} (h : Hyp o) (c : Coef R)
    (st : Pt R → Pt R) (hst : ∀ x, o.K (st x) = o.K x) (x0 : Pt R) (f0 : E) (tl : List (Pt R × E))
    (xw : Pt R) (fw fsw : E) (log : List (Pt R × E))
    (hgood : ∀ p ∈ (x0, f0) :: tl, GoodK o log p) (hne : tl ≠ []) :
    (∀ p ∈ (NM.core o c st x0 f0 tl xw fw fsw log).1, GoodK o (NM.core o c st x0 f0 tl xw fw fsw log).2.1 p) ∧
    (x0, f0) ∈ (NM.core o c st x0 f0 tl xw fw fsw log).1 := by
  have hhead : (x0, f0) ∈ ((x0, f0) :: tl).dropLast := by
    cases tl with
    | nil => exact absurd rfl hne
    | cons a t => exact List.mem_cons_self
  have hall := core_appended o c st x0 f0 tl xw fw fsw log
  obtain ⟨sx, L, b, e0, hc⟩ := core_cases o c st x0 f0 tl xw fw fsw log
  rw [e0] at hall ⊢
  rcases hc with ⟨y, lg, _, a2, e⟩ | ⟨lg, a1, e1, e2⟩
  · rw [e]
    refine ⟨fun p hp => ?_, List.mem_append_left _ hhead⟩
    rcases List.mem_append.mp hp with hp | hp
    · exact (hgood p (List.dropLast_subset _ hp)).mono hall.subset
    · rw [List.mem_singleton.mp hp]
      exact (objK_good h st hst y lg).mono a2.subset
  · rw [e1]
    refine ⟨fun p hp => ?_, List.mem_cons_self⟩
    rcases List.mem_cons.mp hp with rfl | hp
    · exact (hgood _ List.mem_cons_self).mono hall.subset
    · rw [e2]; exact shrinkAll_good h c st hst x0 tl lg p hp

/-- `finish` re-establishes the invariant from an unsorted legitimate simplex that still contains a pair
whose energy bounds the history from below -/
theorem finish_inv [LinearOrder E] {o : Obj (Pt R) E} {s : NM R E} (hs : NMInv o s)
    (sx log : List (Pt R × E)) (hgood : ∀ p ∈ sx, GoodK o log p) (hlog : LogOK o log)
    (hkeep : ∀ b ∈ s.simplex.head?, ∃ q ∈ sx, q.2 ≤ b.2) (hne : sx ≠ []) :
    NMInv o (NM.finish s sx log) := by
  obtain ⟨bst, rest, hsort, e⟩ := NM.finish_eq s log hne
  rw [e]
  -- the new best is at most the previous best, which bounds the history
  have hbound : ∀ a ∈ s.stepLog.map Prod.snd, bst.2 ≤ a := by
    intro a ha
    cases hh : s.simplex.head? with
    | none =>
      -- no previous best: the history is empty by `lastIsBest`
      rw [List.getLast?_eq_none_iff.mp (hs.lastIsBest.trans hh)] at ha
      cases ha
    | some b0 =>
      obtain ⟨q, hq, hqle⟩ := hkeep b0 hh
      exact le_trans (le_trans (sortByE_head_le sx bst rest hsort q hq) hqle) (hs.histLe b0 hh a ha)
  have hh := hist_snoc hs.hist hbound
  refine ⟨fun p hp => hgood p ((mem_sortByE sx p).mp (hsort ▸ hp)), hlog, hsort ▸ sorted_sortByE sx, ?_, ?_, ?_⟩
  · rw [List.map_append]; exact hh.1
  · intro b hb
    cases hb
    rw [List.map_append]; exact hh.2
  · exact List.getLast?_concat

theorem NM.update_inv [Add R] [Sub R] [Mul R] [Div R] [LinearOrder E] {o : Obj (Pt R) E} (h : Hyp o) (c : Coef R)
    (st : Pt R → Pt R) (hst : ∀ x, o.K (st x) = o.K x) (s : NM R E) (hs : NMInv o s) :
    NMInv o (NM.update o c st s).1 := by
  unfold NM.update
  cases hsx : s.simplex with
  | nil => exact hs
  | cons p tl =>
    obtain ⟨x0', f0⟩ := p
    dsimp only
    cases ((o.K x0', f0) :: tl).getLast? with
    | none => exact hs
    | some w =>
      cases hl2 : ((o.K x0', f0) :: tl).dropLast.getLast? with
      | none => exact hs
      | some w2 =>
        dsimp only
        have htl : tl ≠ [] := by
          intro hnil; subst hnil
          cases hl2
        have hgood0 : ∀ p ∈ (o.K x0', f0) :: tl, GoodK o s.log p := by
          intro p hp
          rcases List.mem_cons.mp hp with rfl | hp
          · exact (hs.good (x0', f0) (hsx ▸ List.mem_cons_self)).applyK h
          · exact hs.good p (hsx ▸ List.mem_cons_of_mem _ hp)
        obtain ⟨c1, c4⟩ := core_spec h c st hst (o.K x0') f0 tl w.1 w.2 w2.2 s.log hgood0 htl
        refine finish_inv hs _ _ c1 ((core_appended o c st _ f0 tl w.1 w.2 w2.2 s.log).logOK h hs.logOK) ?_
          (List.ne_nil_of_mem c4)
        intro b hb
        rw [hsx] at hb
        cases hb
        exact ⟨(o.K x0', f0), c4, le_refl _⟩

theorem NM.gen0_inv [LinearOrder E] {o : Obj (Pt R) E} (h : Hyp o) (zero : R) (x0 : Pt R) :
    NMInv o (NM.gen0 o zero x0) := by
  unfold NM.gen0
  simp only
  refine ⟨?_, (objK_appended o (o.K x0) []).logOK h (fun _ hp => nomatch hp), ?_, List.pairwise_singleton _ _, ?_, rfl⟩
  · intro p hp
    rcases List.mem_cons.mp hp with rfl | hp
    · -- the guess was constrained before it was stored: K (K x0) = K x0
      exact objK_good h id (fun _ => rfl) (o.K x0) []
    · simp only [List.mem_map] at hp
      obtain ⟨_, _, rfl⟩ := hp
      intro hne; exact absurd rfl hne
  · unfold SortedE
    rw [List.pairwise_cons]
    refine ⟨?_, ?_⟩
    · intro b hb
      simp only [List.mem_map] at hb
      obtain ⟨_, _, rfl⟩ := hb
      exact h.leTop _
    · rw [List.pairwise_map]
      exact List.pairwise_of_forall (fun _ _ => le_refl _)
  · intro b hb e he
    cases hb
    rw [List.mem_singleton.mp he]

theorem NM.gen1_inv [LinearOrder E] {o : Obj (Pt R) E} (h : Hyp o) (clip0 mkVal : Pt R → Pt R)
    (s : NM R E) (hs : NMInv o s)
    (hhead : ∀ x0' f0 tl, s.simplex = (x0', f0) :: tl → f0 ≠ o.top → clip0 x0' = x0') :
    NMInv o (NM.gen1 o clip0 mkVal s) := by
  unfold NM.gen1
  cases hsx : s.simplex with
  | nil => exact hs
  | cons p tl =>
    obtain ⟨x0', f0⟩ := p
    dsimp only
    have ha := buildRows_appended o (clip0 x0') (mkVal (clip0 x0')) 0 s.log
    refine finish_inv hs _ _ ?_ (ha.logOK h hs.logOK) ?_ (List.cons_ne_nil _ _)
    · intro p hp
      rcases List.mem_cons.mp hp with rfl | hp
      · intro he
        have := (hs.good (x0', f0) (hsx ▸ List.mem_cons_self)).mono ha.subset he
        rw [hhead x0' f0 tl hsx he] at this ⊢
        exact this
      · exact buildRows_good h (clip0 x0') (mkVal (clip0 x0')) 0 s.log p hp
    · intro b hb
      rw [hsx] at hb
      cases hb
      exact ⟨(clip0 x0', f0), List.mem_cons_self, le_refl _⟩

theorem NM.gen1_gen0_inv [LinearOrder E] {o : Obj (Pt R) E} (h : Hyp o) (zero : R) (x0 : Pt R) (clip0 mkVal : Pt R → Pt R)
    (hclip : ∀ x, (o.useRange = true → o.inBox x = true) → clip0 x = x) :
    NMInv o (NM.gen1 o clip0 mkVal (NM.gen0 o zero x0)) := by
  refine NM.gen1_inv h clip0 mkVal _ (NM.gen0_inv h zero x0) ?_
  intro x0' f0 tl hsx hne
  -- the head vertex of generation 0 is `K x0`, evaluated; a finite energy means it lies in the box
  unfold NM.gen0 at hsx
  simp only [List.cons.injEq, Prod.mk.injEq] at hsx
  obtain ⟨⟨rfl, rfl⟩, _⟩ := hsx
  have hg := objK_good h id (fun _ => rfl) (o.K x0) [] hne
  simp only [id, h.idem] at hg
  exact hclip _ hg.2.2

end MysticVerif.Solver
