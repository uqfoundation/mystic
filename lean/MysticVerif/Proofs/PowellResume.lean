/- helper lemmas for the Powell part of C06: the two bookkeeping fields of the Powell-in-S model
   (`reqs`: requested line searches, output only; `nls`: index into the Brent oracle) are framed out of every
   function of `Model/PowellS.lean`, and the dispatching step `stepAt` is related to `gen1` / `genN` / `reach`. -/
import MysticVerif.Model.PowellResume
import MysticVerif.Proofs.PowellS

namespace MysticVerif.PowellS
open MysticVerif.Solver

variable {R E : Type}

theorem dirStep_setReqs (o : Obj (Pt R) E) (c : PwCfg R E) (ls : Nat → Pt R → Pt R → LsRec R) (d : Pt R) (i : Nat)
    (s : Pw R E) (r : List (Pt R × Pt R)) :
    dirStep o c ls d i (setReqs r s) = setReqs (r ++ [(s.x, d)]) (dirStep o c ls d i s) := rfl

/-- `f` appends to the requested line searches and reads nothing of them -/
def ReqsFramed (f : Pw R E → Pw R E) : Prop := ∀ s, ∃ t, ∀ r, f (setReqs r s) = setReqs (r ++ t) (f s)

theorem ReqsFramed.of_eq {f : Pw R E → Pw R E} (h : ∀ r s, f (setReqs r s) = setReqs r (f s)) : ReqsFramed f :=
  fun s => ⟨[], fun r => by rw [List.append_nil]; exact h r s⟩

theorem ReqsFramed.comp {f g : Pw R E → Pw R E} (hf : ReqsFramed f) (hg : ReqsFramed g) :
    ReqsFramed (fun s => g (f s)) := by
  intro s
  obtain ⟨t1, h1⟩ := hf s
  obtain ⟨t2, h2⟩ := hg (f s)
  exact ⟨t1 ++ t2, fun r => by show g (f (setReqs r s)) = _; rw [h1, h2, List.append_assoc]⟩

theorem dirLoop_framed (o : Obj (Pt R) E) (c : PwCfg R E) (ls : Nat → Pt R → Pt R → LsRec R) :
    ∀ (ds : List (Pt R)) (i : Nat), ReqsFramed (dirLoop o c ls ds i) := by
  intro ds
  induction ds with
  | nil => intro _; exact .of_eq fun _ _ => rfl
  | cons d ds ih =>
    intro i
    exact ReqsFramed.comp (f := dirStep o c ls d i) (fun s => ⟨[(s.x, d)], fun r => dirStep_setReqs o c ls d i s r⟩)
      (ih (i + 1))

theorem sweep_framed (o : Obj (Pt R) E) (c : PwCfg R E) (ls : Nat → Pt R → Pt R → LsRec R) :
    ReqsFramed (sweep o c ls) := by
  intro s
  obtain ⟨t, ht⟩ := dirLoop_framed o c ls s.direc 0 { s with fx := s.fval, bigind := 0, delta := c.zeroE }
  refine ⟨t, fun r => ?_⟩
  have := ht r
  unfold sweep
  simp only [setReqs] at this ⊢
  rw [this]

theorem extrapolate_framed [Sub R] [Mul R] [LT E] [DecidableLT E] (o : Obj (Pt R) E) (c : PwCfg R E)
    (ls : Nat → Pt R → Pt R → LsRec R) : ReqsFramed (extrapolate o c ls) := by
  intro s
  rcases extrapolate_cases o c ls s with ⟨hc, e⟩ | ⟨hc, e⟩
  · refine ⟨[], fun r => ?_⟩
    rcases extrapolate_cases o c ls (setReqs r s) with ⟨_, e'⟩ | ⟨hc', _⟩
    · rw [e, e', List.append_nil]; rfl
    · exact absurd hc' hc
  · refine ⟨[(s.x, vsub s.x s.x1)], fun r => ?_⟩
    rcases extrapolate_cases o c ls (setReqs r s) with ⟨hc', _⟩ | ⟨_, e'⟩
    · exact absurd hc hc'
    · rw [e, e']; rfl

theorem stepAt_framed [Sub R] [Mul R] [LT E] [DecidableLT E] (o : Obj (Pt R) E) (c : PwCfg R E)
    (ls : Nat → Pt R → Pt R → LsRec R) : ReqsFramed (stepAt o c ls) := by
  intro s
  -- `generations` does not read the requests, so both states take the same branch
  by_cases h : s.generations = 0
  · obtain ⟨t, ht⟩ := (ReqsFramed.of_eq (f := fun s => { s with x1 := s.x }) fun _ _ => rfl).comp (sweep_framed o c ls) s
    exact ⟨t, fun r => by rw [stepAt, stepAt, if_pos h, if_pos (show (setReqs r s).generations = 0 from h)]; exact ht r⟩
  · obtain ⟨t, ht⟩ := (extrapolate_framed o c ls).comp (sweep_framed o c ls) s
    exact ⟨t, fun r => by rw [stepAt, stepAt, if_neg h, if_neg (show ¬ (setReqs r s).generations = 0 from h)]; exact ht r⟩

theorem steps_framed [Sub R] [Mul R] [LT E] [DecidableLT E] (o : Obj (Pt R) E) (c : PwCfg R E)
    (ls : Nat → Pt R → Pt R → LsRec R) : ∀ n : Nat, ReqsFramed (steps o c ls n) := by
  intro n
  induction n with
  | zero => exact .of_eq fun _ _ => rfl
  | succ n ih => exact (stepAt_framed o c ls).comp ih

theorem setReqs_self (s : Pw R E) : setReqs s.reqs s = s := rfl

theorem setReqs_setReqs (a b : List (Pt R × Pt R)) (s : Pw R E) : setReqs a (setReqs b s) = setReqs a s := rfl

theorem save_setReqs (r : List (Pt R × Pt R)) (s : Pw R E) : PwSnap.save (setReqs r s) = PwSnap.save s := rfl

theorem restore_save (s : Pw R E) : (PwSnap.save s).restore = setReqs [] s := rfl

theorem save_restore (p : PwSnap R E) : PwSnap.save p.restore = p := rfl

/-- two states with the same snapshot differ in the output field only -/
theorem eq_of_save_eq {s s' : Pw R E} (h : PwSnap.save s = PwSnap.save s') : s' = setReqs s'.reqs s := by
  have h2 := congrArg PwSnap.restore h
  rw [restore_save, restore_save] at h2
  have h3 := congrArg (setReqs s'.reqs) h2
  rw [setReqs_setReqs, setReqs_setReqs, setReqs_self] at h3
  exact h3.symm

theorem dirStep_addNls (o : Obj (Pt R) E) (c : PwCfg R E) (ls : Nat → Pt R → Pt R → LsRec R) (k : Nat) (d : Pt R) (i : Nat)
    (s : Pw R E) : dirStep o c ls d i (addNls k s) = addNls k (dirStep o c (shift k ls) d i s) := by
  have h : s.nls + k + 1 = s.nls + 1 + k := Nat.add_right_comm _ _ _
  simp only [dirStep, addNls, shift, h]
  rfl

theorem dirLoop_addNls (o : Obj (Pt R) E) (c : PwCfg R E) (ls : Nat → Pt R → Pt R → LsRec R) (k : Nat) :
    ∀ (ds : List (Pt R)) (i : Nat) (s : Pw R E),
      dirLoop o c ls ds i (addNls k s) = addNls k (dirLoop o c (shift k ls) ds i s) := by
  intro ds
  induction ds with
  | nil => intro i s; rfl
  | cons d ds ih => intro i s; simp only [dirLoop, dirStep_addNls, ih]

theorem sweep_addNls (o : Obj (Pt R) E) (c : PwCfg R E) (ls : Nat → Pt R → Pt R → LsRec R) (k : Nat) (s : Pw R E) :
    sweep o c ls (addNls k s) = addNls k (sweep o c (shift k ls) s) := by
  have := dirLoop_addNls o c ls k s.direc 0 { s with fx := s.fval, bigind := 0, delta := c.zeroE }
  unfold sweep
  simp only [addNls] at this ⊢
  rw [this]

theorem extrapolate_addNls [Sub R] [Mul R] [LT E] [DecidableLT E] (o : Obj (Pt R) E) (c : PwCfg R E)
    (ls : Nat → Pt R → Pt R → LsRec R) (k : Nat) (s : Pw R E) :
    extrapolate o c ls (addNls k s) = addNls k (extrapolate o c (shift k ls) s) := by
  rcases extrapolate_cases o c (shift k ls) s with ⟨hc, e⟩ | ⟨hc, e⟩
  · rcases extrapolate_cases o c ls (addNls k s) with ⟨_, e'⟩ | ⟨hc', _⟩
    · rw [e, e']; rfl
    · exact absurd hc' hc
  · rcases extrapolate_cases o c ls (addNls k s) with ⟨hc', _⟩ | ⟨_, e'⟩
    · exact absurd hc hc'
    · rw [e, e']
      simp only [addNls, shift, Nat.add_right_comm]

theorem stepAt_addNls [Sub R] [Mul R] [LT E] [DecidableLT E] (o : Obj (Pt R) E) (c : PwCfg R E)
    (ls : Nat → Pt R → Pt R → LsRec R) (k : Nat) (s : Pw R E) :
    stepAt o c ls (addNls k s) = addNls k (stepAt o c (shift k ls) s) := by
  have hg : (addNls k s).generations = s.generations := rfl
  unfold stepAt
  rw [hg]
  split
  · exact sweep_addNls o c ls k { s with x1 := s.x }
  · unfold genN
    rw [extrapolate_addNls, sweep_addNls]

theorem steps_addNls [Sub R] [Mul R] [LT E] [DecidableLT E] (o : Obj (Pt R) E) (c : PwCfg R E)
    (ls : Nat → Pt R → Pt R → LsRec R) (k : Nat) :
    ∀ (n : Nat) (s : Pw R E), steps o c ls n (addNls k s) = addNls k (steps o c (shift k ls) n s) := by
  intro n
  induction n with
  | zero => intro s; rfl
  | succ n ih => intro s; simp only [steps, stepAt_addNls, ih]

theorem steps_add [Sub R] [Mul R] [LT E] [DecidableLT E] (o : Obj (Pt R) E) (c : PwCfg R E)
    (ls : Nat → Pt R → Pt R → LsRec R) :
    ∀ (m n : Nat) (s : Pw R E), steps o c ls (m + n) s = steps o c ls n (steps o c ls m s) := by
  intro m
  induction m with
  | zero => intro n s; rw [Nat.zero_add]; rfl
  | succ m ih => intro n s; rw [Nat.add_right_comm]; exact ih n _

theorem hist_length (s : Pw R E) : s.hist.length = s.stepLog.length + (if s.pending then 1 else 0) := by
  unfold Pw.hist
  cases s.pending <;> simp

theorem sweep_generations (o : Obj (Pt R) E) (c : PwCfg R E) (ls : Nat → Pt R → Pt R → LsRec R) (s : Pw R E) :
    (sweep o c ls s).generations = s.stepLog.length := by
  unfold Pw.generations
  rw [hist_length, (sweep_stepLog o c ls s).1, (sweep_stepLog o c ls s).2]
  simp

theorem genN_generations [Sub R] [Mul R] [LinearOrder E] (o : Obj (Pt R) E) (c : PwCfg R E)
    (ls : Nat → Pt R → Pt R → LsRec R) (s : Pw R E) : (genN o c ls s).generations = s.stepLog.length + 1 := by
  unfold genN
  rw [sweep_generations, (extrapolate_stepLog_length o c ls s).1]

theorem genN_stepLog_length [Sub R] [Mul R] [LinearOrder E] (o : Obj (Pt R) E) (c : PwCfg R E)
    (ls : Nat → Pt R → Pt R → LsRec R) (s : Pw R E) : (genN o c ls s).stepLog.length = s.stepLog.length + 1 := by
  unfold genN
  rw [(sweep_stepLog o c ls _).1, (extrapolate_stepLog_length o c ls s).1]

/-- once one iteration has been completed, `_Step` is always the `else` branch -/
theorem steps_eq_run [Sub R] [Mul R] [LinearOrder E] (o : Obj (Pt R) E) (c : PwCfg R E)
    (ls : Nat → Pt R → Pt R → LsRec R) :
    ∀ (n : Nat) (s : Pw R E), 0 < s.generations → steps o c ls n s = run o c ls n s := by
  intro n
  induction n with
  | zero => intro s _; rfl
  | succ n ih =>
    intro s hs
    have hstep : stepAt o c ls s = genN o c ls s := if_neg (Nat.ne_of_gt hs)
    show steps o c ls n (stepAt o c ls s) = run o c ls n (genN o c ls s)
    rw [hstep]
    exact ih _ (by rw [genN_generations]; exact Nat.succ_pos _)

end MysticVerif.PowellS
