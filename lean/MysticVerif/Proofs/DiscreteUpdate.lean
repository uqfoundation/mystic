/- helper lemmas for Props/C19: `unflatten` / `update` for EVERY parameter length and every shape (short parameter
   vectors, shapes with empty factors), and the values of `scenario.update` -/
import MysticVerif.Proofs.Discrete
import Mathlib.Algebra.BigOperators.Group.List.Basic

namespace MysticVerif.Discrete

variable {α : Type}

theorem truncParams_eq_take (params : List α) (ns : List Nat) :
    truncParams params ns = params.take (2 * ns.sum) := by
  unfold truncParams
  split
  · rfl
  · rw [List.take_of_length_le (by omega)]

/-- what `unflatten(params, npts)` builds for ANY parameter length: factor `i` pairs the weights block
    `params[o:o+n]` with the positions block `params[o+n:o+2n]` (`o = 2*sum(npts[:i])`), as far as the positions go -/
def unflat (params : List α) : List Nat → PM α
  | [] => []
  | n :: ns =>
    List.zipWith (fun w x => (⟨w, x⟩ : PtMass α)) (params.take n) ((params.drop n).take n)
      :: unflat (params.drop (n + n)) ns

theorem zipMeasure_eq_zipWith (xs ws : List α) (h : xs.length ≤ ws.length) :
    zipMeasure xs ws = some (List.zipWith (fun w x => (⟨w, x⟩ : PtMass α)) ws xs) := by
  induction xs generalizing ws with
  | nil => cases ws <;> rfl
  | cons x xs ih =>
    cases ws with
    | nil => simp at h
    | cons w ws => simp [zipMeasure, ih ws (Nat.le_of_succ_le_succ h)]

/-- `unflatten` never raises -/
theorem unflatten_eq (params : List α) (npts : List Nat) : unflatten params npts = some (unflat params npts) := by
  induction npts generalizing params with
  | nil => rfl
  | cons n ns ih =>
    have h := ih (params.drop (n + n))
    simp only [unflatten, compose] at h
    simp only [unflatten, compose, nestedSplit, listOfMeasures, unflat]
    have hle : ((params.drop n).take n).length ≤ (params.take n).length := by
      rw [List.length_take, List.length_take, List.length_drop]
      exact Nat.le_min.mpr ⟨Nat.min_le_left _ _, Nat.le_trans (Nat.min_le_right _ _) (Nat.sub_le _ _)⟩
    rw [zipMeasure_eq_zipWith _ _ hle, h]

theorem unflat_length (params : List α) (npts : List Nat) : (unflat params npts).length = npts.length := by
  induction npts generalizing params with
  | nil => rfl
  | cons n ns ih => simp [unflat, ih]

theorem unflat_take_params (params : List α) (ns : List Nat) :
    unflat (params.take (2 * ns.sum)) ns = unflat params ns := by
  induction ns generalizing params with
  | nil => rfl
  | cons n ns ih =>
    -- write the bound as `n + n + 2 * ns.sum`
    have h1 : n ≤ n + n + 2 * ns.sum := Nat.le_trans (Nat.le_add_right n n) (Nat.le_add_right _ _)
    have h2 : n ≤ n + n + 2 * ns.sum - n := Nat.le_sub_of_add_le (Nat.le_add_right (n + n) _)
    rw [List.sum_cons, Nat.mul_add, Nat.two_mul n, unflat, unflat]
    rw [List.take_take, List.drop_take, List.take_take, List.drop_take, Nat.add_sub_cancel_left, ih,
      Nat.min_eq_left h1, Nat.min_eq_left h2]

theorem unflat_take (params : List α) (ns : List Nat) (j : Nat) :
    (unflat params ns).take j = unflat params (ns.take j) := by
  induction ns generalizing params j with
  | nil => simp [unflat]
  | cons n ns ih => cases j <;> simp [unflat, ih]

theorem unflat_cover (params : List α) (ns : List Nat) (hlen : 2 * ns.sum ≤ params.length) :
    pts (unflat params ns) = ns ∧ flatten (unflat params ns) = params.take (2 * ns.sum) := by
  -- the measure carrying the first `2 * ns.sum` parameters is what `unflatten` builds
  obtain ⟨c, hp, hf⟩ := exists_flatten_eq (params.take (2 * ns.sum)) ns (List.length_take_of_le hlen)
  have h := unflatten_flatten c []
  rw [List.append_nil, hp, hf, unflatten_eq, unflat_take_params] at h
  cases h
  exact ⟨hp, hf⟩

theorem unflat_nil (ns : List Nat) : ∀ m ∈ unflat ([] : List α) ns, m = [] := by
  induction ns with
  | nil => simp [unflat]
  | cons n ns ih => simpa [unflat] using ih

/-- the cut: in a shape of non-empty factors the parameters build `k` non-empty factors followed by empty ones -/
theorem unflat_cut (params : List α) (ns : List Nat) (hpos : ∀ n ∈ ns, 0 < n) :
    ∃ k, k ≤ ns.length ∧
      (∀ m ∈ (unflat params ns).take k, m ≠ []) ∧ (∀ m ∈ (unflat params ns).drop k, m = []) ∧
      ∀ i (hi : i < ns.length), (i < k ↔ 2 * (ns.take i).sum + ns[i] < params.length) := by
  induction ns generalizing params with
  | nil =>
    exact ⟨0, Nat.le_refl _, fun _ hm => absurd hm List.not_mem_nil, fun _ hm => absurd hm List.not_mem_nil,
      fun i hi => absurd hi (Nat.not_lt_zero i)⟩
  | cons n ns ih =>
    have hn : 0 < n := hpos n List.mem_cons_self
    by_cases h : n < params.length
    · obtain ⟨k, hk, hA, hB, hI⟩ := ih (params.drop (n + n)) fun m hm => hpos m (List.mem_cons_of_mem _ hm)
      refine ⟨k + 1, Nat.succ_le_succ hk, ?_, hB, ?_⟩
      · intro m hm
        rcases List.mem_cons.mp hm with rfl | hm
        · apply List.ne_nil_of_length_pos
          rw [List.length_zipWith, List.length_take, List.length_take, List.length_drop]
          exact Nat.lt_min.mpr ⟨Nat.lt_min.mpr ⟨hn, Nat.zero_lt_of_lt h⟩, Nat.lt_min.mpr ⟨hn, Nat.sub_pos_of_lt h⟩⟩
        · exact hA m hm
      · intro i hi
        cases i with
        | zero =>
          rw [List.take_zero, List.sum_nil, Nat.mul_zero, Nat.zero_add, List.getElem_cons_zero]
          exact iff_of_true (Nat.succ_pos k) h
        | succ i =>
          rw [Nat.succ_lt_succ_iff, hI i (Nat.lt_of_succ_lt_succ hi), List.length_drop, List.take_succ_cons,
            List.sum_cons, List.getElem_cons_succ]
          -- the first factor's two blocks shift every later offset by `n + n`
          rw [Nat.lt_sub_iff_add_lt, Nat.mul_add, Nat.two_mul n, Nat.add_assoc (n + n), Nat.add_comm (n + n)]
    · -- the parameters end inside the first weights block
      refine ⟨0, Nat.zero_le _, fun _ hm => absurd hm List.not_mem_nil, ?_, ?_⟩
      · intro m hm
        have h2 : params.length ≤ n + n := Nat.le_trans (Nat.le_of_not_lt h) (Nat.le_add_right n n)
        rw [List.drop_zero, unflat, List.drop_eq_nil_of_le (Nat.le_of_not_lt h), List.take_nil,
          List.zipWith_nil_right, List.drop_eq_nil_of_le h2] at hm
        rcases List.mem_cons.mp hm with rfl | hm
        · rfl
        · exact unflat_nil ns m hm
      · intro i hi
        refine iff_of_false (Nat.not_lt_zero i) ?_
        cases i with
        | zero =>
          rw [List.take_zero, List.sum_nil, Nat.mul_zero, Nat.zero_add, List.getElem_cons_zero]
          exact h
        | succ i =>
          rw [List.take_succ_cons, List.sum_cons, List.getElem_cons_succ]
          omega

theorem countP_isEmpty_eq_count_pts (c : PM α) : c.countP List.isEmpty = (pts c).count 0 := by
  rw [pts, List.count, List.countP_map]
  exact List.countP_congr fun m _ => by simp

/-- the measure `update` builds from the parameters before splicing -/
def updU (self : PM α) (params : List α) : PM α := unflat (truncParams params (pts self)) (pts self)

theorem updU_eq (self : PM α) (params : List α) : updU self params = unflat params (pts self) := by
  rw [updU, truncParams_eq_take, unflat_take_params]

theorem updU_length (self : PM α) (params : List α) : (updU self params).length = self.length := by
  rw [updU_eq, unflat_length, pts, List.length_map]

/-- `update` never raises (`countP isEmpty` is the code's `zo = pm.count([])`) -/
theorem update_eq (self : PM α) (params : List α) :
    update self params = some
      ((updU self params).take (self.length - (updU self params).countP List.isEmpty)
        ++ self.drop (self.length - (updU self params).countP List.isEmpty)) := by
  have h := updU_length self params
  simp only [update, unflatten_eq, Option.map_some]
  unfold updU at h ⊢
  rw [h]

/-- without surplus parameters `v = []` and the values stay: the code's `if` is not a case distinction -/
theorem supdate_eq (self : Scen α) (params : List α) :
    supdate self params = (update self.pm params).map fun pm =>
      ⟨pm, (params.drop (2 * (pts self.pm).sum)).take self.values.length
        ++ self.values.drop (params.drop (2 * (pts self.pm).sum)).length⟩ := by
  by_cases h : params.length > 2 * (pts self.pm).sum
  · simp only [supdate, extraParams, if_pos h]
  · simp [supdate, if_neg h, List.drop_eq_nil_of_le (Nat.le_of_not_lt h)]

/-- python `v[:len(o)] + o[len(v):]`: `o` overlaid by `v` -/
theorem length_overlay (v o : List α) : (v.take o.length ++ o.drop v.length).length = o.length := by
  rw [List.length_append, List.length_take, List.length_drop]
  rcases Nat.le_total o.length v.length with h | h
  · rw [Nat.min_eq_left h, Nat.sub_eq_zero_of_le h, Nat.add_zero]
  · rw [Nat.min_eq_right h, Nat.add_sub_cancel' h]

theorem getElem?_overlay (v o : List α) (i : Nat) :
    (v.take o.length ++ o.drop v.length)[i]? = if i < v.length ∧ i < o.length then v[i]? else o[i]? := by
  rcases Nat.le_total o.length v.length with h | h
  · -- at least as many surplus parameters as values
    rw [List.drop_eq_nil_of_le h, List.append_nil, List.getElem?_take]
    by_cases hi : i < o.length
    · rw [if_pos hi, if_pos ⟨Nat.lt_of_lt_of_le hi h, hi⟩]
    · rw [if_neg hi, if_neg fun hc => hi hc.2, List.getElem?_eq_none (Nat.le_of_not_lt hi)]
  · rw [List.take_of_length_le h]
    by_cases hi : i < v.length
    · rw [if_pos ⟨hi, Nat.lt_of_lt_of_le hi h⟩, List.getElem?_append_left hi]
    · rw [if_neg fun hc => hi hc.1, List.getElem?_append_right (Nat.le_of_not_lt hi), List.getElem?_drop,
        Nat.add_sub_cancel' (Nat.le_of_not_lt hi)]

end MysticVerif.Discrete
