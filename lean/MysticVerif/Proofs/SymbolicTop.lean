/-
Helper lemmas for the top level of `simplify` (Model/SymbolicTop.lean; `l.N`: mystic/symbolic.py).
-/
import MysticVerif.Model.SymbolicTop

namespace MysticVerif.Sym

variable {T U : Type}

/-- both branches of l.807-809 compute the same thing: the elements of `simple ci` for every case text, in order -/
theorem topEqns_eq_flatMap (cons : Ret T) (simple : T → Ret U) :
    topEqns cons simple = cons.texts.flatMap fun c => (simple c).elems := by
  cases cons with
  | none => simp [topEqns, Ret.texts]
  | many cs => simp [topEqns, Ret.texts]
  | one c =>
    simp only [topEqns, Ret.texts, List.flatMap_cons, List.flatMap_nil, List.append_nil]
    cases simple c <;> simp [Ret.elems]

/-- with `all=True` nothing is selected away -/
theorem selectTop_all_cases (r : Nat) (eqns : List (Option U)) : (selectTop true r eqns).cases = eqns := by
  match eqns with
  | [] => rfl
  | [a] => rfl
  | a :: b :: l => rfl

/-- whatever is selected is an element of the list, or `None` -/
theorem selectTop_cases_sub (all : Bool) (r : Nat) (eqns : List (Option U)) :
    ∀ u, some u ∈ (selectTop all r eqns).cases → some u ∈ eqns := by
  intro u hu
  match eqns, all with
  | [], _ => cases hu
  | [a], _ => exact hu
  | a :: b :: l, true => exact hu
  | a :: b :: l, false =>
    have e : some u = (a :: b :: l)[r]?.getD none :=
      (List.mem_singleton.mp hu).trans List.getD_eq_getElem?_getD
    cases hg : (a :: b :: l)[r]? with
    | none => rw [hg] at e; cases e
    | some v => rw [hg] at e; exact e ▸ List.mem_of_getElem? hg

/-- with `all=False` and a proper draw the answer is ONE element of the list -/
theorem selectTop_single (r : Nat) (eqns : List (Option U)) (hr : r < eqns.length) :
    ∃ a ∈ eqns, selectTop false r eqns = .single a := by
  match eqns with
  | [] => cases hr
  | [a] => exact ⟨a, List.mem_cons_self, rfl⟩
  | a :: b :: l =>
    refine ⟨(a :: b :: l)[r], List.getElem_mem hr, ?_⟩
    show TopRet.single ((a :: b :: l).getD r none) = _
    rw [List.getD_eq_getElem?_getD, List.getElem?_eq_getElem hr]; rfl

end MysticVerif.Sym
