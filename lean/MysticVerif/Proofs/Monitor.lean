/- Facts about the monitor model for Props/C20*.lean, one block per definition; defines `Call`, `Mon.calls`, `Mon.WF`,
`cur`, `Rect`.  Core Lean only. -/
import MysticVerif.Model.MonitorViews

namespace MysticVerif.Mon

variable {R : Type} {α : Type}

theorem PV.map_map (f g : R → R) (y : PV R) : (y.map f).map g = y.map (fun v => g (f v)) := by
  cases y <;> simp [PV.map, Function.comp_def]

theorem PV.map_eq_self (f : R → R) (hf : ∀ v, f v = v) (y : PV R) : y.map f = y := by
  have : f = fun v => v := funext hf
  subst this
  cases y <;> simp [PV.map]

theorem PV.at_map (f : R → R) (best : Int) (y : PV R) :
    (y.map f).at best = (y.at best).map (PV.map f) := by
  cases y with
  | sc v => rfl
  | vec l | mat l =>
    simp only [PV.map, PV.at, List.length_map, List.getElem?_map]
    cases pyIdx l.length best with
    | none => rfl
    | some j => dsimp only; cases l[j]? <;> rfl

/-- one call of the monitor -/
structure Call (R : Type) where
  x : PV R
  y : PV R
  id : Option Int

/-- `for c in calls: m(c.x, c.y, c.id)` -/
def Mon.calls [Mul R] (m : Mon R) (cs : List (Call R)) : Mon R := cs.foldl (fun m c => m.call c.x c.y c.id) m

/-- the three lists have one length -/
def Mon.WF (m : Mon R) : Prop := m.y.length = m.x.length ∧ m.id.length = m.x.length

theorem calls_eq [Mul R] (cs : List (Call R)) : ∀ (m : Mon R), m.calls cs =
    { m with x := m.x ++ cs.map (·.x), y := m.y ++ cs.map (fun c => cmul m.k c.y), id := m.id ++ cs.map (·.id) } := by
  induction cs with
  | nil => intro m; cases m; simp [Mon.calls]
  | cons c cs ih =>
    intro m
    have := ih (m.call c.x c.y c.id)
    simp only [Mon.calls, List.foldl_cons] at this ⊢
    rw [this]
    simp [Mon.call]

theorem hitIv_iff (len : Nat) (iv : Option Nat) :
    hitIv len iv = true ↔ ∃ n, iv = some n ∧ 0 < n ∧ len % n = 0 := by
  cases iv with
  | none => simp [hitIv]
  | some n => simp [hitIv, Nat.pos_iff_ne_zero]

theorem logOf_eq [Mul R] [Div R] (m : Mon R) (x y : PV R) (id : Option Int) :
    m.logOf x y id = if hitIv m.len m.interval = true then
      some { step := m.len, id := id, y := cdiv m.k (cmul m.k y), x := logX x } else none := by
  unfold Mon.logOf
  cases m.interval with
  | none => rfl
  | some n =>
    by_cases h0 : n = 0
    · simp [hitIv, h0]
    · by_cases h1 : m.len % n = 0 <;> simp [hitIv, h0, h1]

theorem getElem?_append_map {β : Type} {l : List β} {n : Nat} (hl : l.length = n) (f : α → β) (cs : List α) (i : Nat)
    (hi : i < cs.length) : (l ++ cs.map f)[n + i]? = some (f cs[i]) := by
  subst hl
  rw [List.getElem?_append_right (Nat.le_add_right _ _), Nat.add_sub_cancel_left, List.getElem?_map,
    List.getElem?_eq_getElem hi]
  rfl

theorem pyIdx_natCast (n j : Nat) : pyIdx n (j : Int) = if j < n then some j else none := by
  rw [pyIdx, if_pos (Int.natCast_nonneg j), Int.toNat_natCast]

theorem pyIdx_sub_len {n j : Nat} (h : j < n) : pyIdx n ((j : Int) - n) = some j := by
  have hneg : (j : Int) - n < 0 := Int.sub_neg_of_lt (Int.ofNat_lt.mpr h)
  have e : (-((j : Int) - n)).toNat = n - j := by rw [Int.neg_sub, Int.toNat_sub]
  rw [pyIdx, if_neg (Int.not_le.mpr hneg), e, if_pos (Nat.sub_le n j), Nat.sub_sub_self (Nat.le_of_lt h)]

theorem pyIdx_lt {n : Nat} {i : Int} {j : Nat} (h : pyIdx n i = some j) : j < n := by
  unfold pyIdx at h
  by_cases h0 : 0 ≤ i
  · rw [if_pos h0] at h
    split at h
    · cases h; assumption
    · cases h
  · rw [if_neg h0] at h
    split at h
    · rename_i hle
      cases h
      have hk : 0 < (-i).toNat := Int.lt_toNat.mpr (Int.neg_pos_of_neg (Int.not_le.mp h0))
      exact Nat.sub_lt (Nat.lt_of_lt_of_le hk hle) hk
    · cases h

theorem pyIdx_isSome (n : Nat) (i : Int) : (pyIdx n i).isSome = true ↔ -(n : Int) ≤ i ∧ i < n := by
  unfold pyIdx
  by_cases h : 0 ≤ i
  · rw [if_pos h, Option.isSome_ite, Int.toNat_lt h]
    exact ⟨fun hi => ⟨Int.le_trans (Int.neg_nonpos_of_nonneg (Int.natCast_nonneg n)) h, hi⟩, fun hi => hi.2⟩
  · rw [if_neg h, Option.isSome_ite, Int.toNat_le, Int.neg_le_iff]
    exact ⟨fun hi => ⟨hi, Int.lt_of_lt_of_le (Int.not_le.mp h) (Int.natCast_nonneg n)⟩, fun hi => hi.1⟩

theorem getItem_natCast [Div R] (m : Mon R) (j : Nat) :
    m.getItem (j : Int) = (match m.x[j]?, m.getY[j]? with
      | some a, some b => some (a, b)
      | _, _ => none) := by
  unfold Mon.getItem
  rw [pyIdx_natCast]
  by_cases hj : j < m.len
  · rw [if_pos hj]; rfl
  · rw [if_neg hj, List.getElem?_eq_none (Nat.le_of_not_lt hj)]

theorem getItem_of_pyIdx [Div R] {m : Mon R} {i : Int} {j : Nat} (h : pyIdx m.len i = some j) :
    m.getItem i = m.getItem (j : Int) := by
  unfold Mon.getItem
  rw [h, pyIdx_natCast, if_pos (pyIdx_lt h)]

theorem adjBound_range (n : Nat) (step v : Int) :
    (if step < 0 then (-1 : Int) else 0) ≤ adjBound n step v ∧
    adjBound n step v ≤ (if step < 0 then (n : Int) - 1 else (n : Int)) := by
  -- clamping into `lo .. up`; the two signs of `step` are instances
  have clamp : ∀ lo up : Int, lo ≤ 0 → lo ≤ up → (n : Int) - 1 ≤ up →
      lo ≤ (if v < 0 then (if v + n < lo then lo else v + n) else (if v > up then up else v)) ∧
      (if v < 0 then (if v + n < lo then lo else v + n) else (if v > up then up else v)) ≤ up := by
    intro lo up h0 h1 h2
    by_cases hv : v < 0
    · rw [if_pos hv]
      by_cases hl : v + n < lo
      · rw [if_pos hl]; exact ⟨Int.le_refl _, h1⟩
      · have hn : v + n < 0 + n := Int.add_lt_add_right hv n
        rw [Int.zero_add] at hn
        rw [if_neg hl]; exact ⟨Int.not_lt.mp hl, Int.le_trans (Int.le_sub_one_of_lt hn) h2⟩
    · rw [if_neg hv]
      by_cases hu : v > up
      · rw [if_pos hu]; exact ⟨h1, Int.le_refl _⟩
      · rw [if_neg hu]; exact ⟨Int.le_trans h0 (Int.not_lt.mp hv), Int.not_lt.mp hu⟩
  unfold adjBound
  by_cases hs : step < 0
  · simp only [hs, if_true]
    exact clamp _ _ (by decide) (Int.sub_le_sub_right (Int.natCast_nonneg n) 1) (Int.le_refl _)
  · simp only [hs, if_false]
    exact clamp _ _ (Int.le_refl 0) (Int.natCast_nonneg n) (Int.sub_le_self _ (by decide))

theorem adjBound_natCast {n a : Nat} (h : a ≤ n) : adjBound n 1 (a : Int) = a := by
  unfold adjBound
  simp only [show ¬ ((1 : Int) < 0) by decide, if_false]
  rw [if_neg (Int.not_lt.mpr (Int.natCast_nonneg a)), if_neg (Int.not_lt.mpr (Int.ofNat_le.mpr h))]

theorem sliceStart_range (n : Nat) (s : Option Int) (step : Int) :
    (if step < 0 then (-1 : Int) else 0) ≤ sliceStart n s step ∧
    sliceStart n s step ≤ (if step < 0 then (n : Int) - 1 else (n : Int)) := by
  cases s with
  | none =>
    simp only [sliceStart]
    split
    · exact ⟨Int.sub_le_sub_right (Int.natCast_nonneg n) 1, Int.le_refl _⟩
    · exact ⟨Int.le_refl _, Int.natCast_nonneg n⟩
  | some v => exact adjBound_range n step v

theorem sliceStop_range (n : Nat) (s : Option Int) (step : Int) :
    (if step < 0 then (-1 : Int) else 0) ≤ sliceStop n s step ∧
    sliceStop n s step ≤ (if step < 0 then (n : Int) - 1 else (n : Int)) := by
  cases s with
  | none =>
    simp only [sliceStop]
    split
    · exact ⟨Int.le_refl _, Int.sub_le_sub_right (Int.natCast_nonneg n) 1⟩
    · exact ⟨Int.natCast_nonneg n, Int.le_refl _⟩
  | some v => exact adjBound_range n step v

theorem rangeUp_lt (n : Nat) (e step : Int) (hstep : 0 < step) (he : e ≤ n) (fuel : Nat) (s : Int) (hs : 0 ≤ s) :
    ∀ j ∈ rangeUp e step fuel s, j < n := by
  fun_induction rangeUp e step fuel s with
  | case1 => intro j hj; cases hj
  | case2 fuel s hlt ih =>
    intro j hj
    rcases List.mem_cons.mp hj with rfl | hj
    · exact (Int.toNat_lt hs).mpr (Int.lt_of_lt_of_le hlt he)
    · exact ih (Int.add_nonneg hs (Int.le_of_lt hstep)) j hj
  | case3 => intro j hj; cases hj

theorem rangeDown_lt (n : Nat) (e step : Int) (hstep : step < 0) (he : -1 ≤ e) (fuel : Nat) (s : Int) (hs : s ≤ (n : Int) - 1) :
    ∀ j ∈ rangeDown e step fuel s, j < n := by
  fun_induction rangeDown e step fuel s with
  | case1 => intro j hj; cases hj
  | case2 fuel s hlt ih =>
    intro j hj
    rcases List.mem_cons.mp hj with rfl | hj
    · have h0 : -1 + 1 ≤ s := Int.add_one_le_of_lt (Int.lt_of_le_of_lt he hlt)
      exact (Int.toNat_lt h0).mpr (Int.lt_of_le_sub_one hs)
    · have hle : s + step ≤ s + 0 := Int.add_le_add_left (Int.le_of_lt hstep) s
      rw [Int.add_zero] at hle
      exact ih (Int.le_trans hle hs) j hj
  | case3 => intro j hj; cases hj

/-- with enough fuel `range(a, b, 1)` is `[a, …, b-1]` -/
theorem rangeUp_one : ∀ (fuel a b : Nat), b - a ≤ fuel →
    rangeUp (b : Int) 1 fuel (a : Int) = List.range' a (b - a) := by
  intro fuel
  induction fuel with
  | zero => intro a b h; rw [Nat.le_zero.mp h]; rfl
  | succ fuel ih =>
    intro a b h
    unfold rangeUp
    by_cases hab : a < b
    · -- `b - (a + 1)` is `pred (b - a)` by definition
      have e : b - a = (b - (a + 1)) + 1 := (Nat.succ_pred_eq_of_pos (Nat.sub_pos_of_lt hab)).symm
      rw [if_pos (Int.ofNat_lt.mpr hab), e, List.range'_succ, Int.toNat_natCast]
      exact congrArg (a :: ·) (ih (a + 1) b (Nat.pred_le_pred h))
    · rw [if_neg (fun h' => hab (Int.ofNat_lt.mp h')), Nat.sub_eq_zero_of_le (Nat.le_of_not_lt hab)]; rfl

theorem gather_range' (l : List α) : ∀ (c a : Nat), a + c ≤ l.length →
    gather l (List.range' a c) = (l.drop a).take c := by
  intro c
  induction c with
  | zero => intro a _; rfl
  | succ c ih =>
    intro a h
    have ha : a < l.length := Nat.lt_of_lt_of_le (Nat.lt_add_of_pos_right (Nat.succ_pos c)) h
    have := ih (a + 1) (by rw [Nat.add_right_comm]; exact h)
    unfold gather at this ⊢
    rw [List.range'_succ, List.drop_eq_getElem_cons ha, List.take_succ_cons, List.filterMap_cons,
      List.getElem?_eq_getElem ha, this]

theorem mem_of_mem_gather {l : List α} {idx : List Nat} {a : α} (h : a ∈ gather l idx) : a ∈ l := by
  obtain ⟨k, _, hk⟩ := List.mem_filterMap.mp h
  exact List.mem_of_getElem? hk

theorem gather_slice {l : List α} {n a b : Nat} {s e : Option Int} (hl : l.length = n)
    (hs : sliceStart n s 1 = a) (he : sliceStop n e 1 = b) (hb : b ≤ n) :
    gather l (sliceIdx n s e 1) = (l.drop a).take (b - a) := by
  rw [sliceIdx, if_pos Int.one_pos, hs, he, rangeUp_one n a b (Nat.le_trans (Nat.sub_le b a) hb)]
  by_cases hab : a ≤ b
  · exact gather_range' l _ _ (by rw [Nat.add_sub_cancel' hab, hl]; exact hb)
  · rw [Nat.sub_eq_zero_of_le (Nat.le_of_not_le hab)]; rfl

theorem gather_all (l : List α) : gather l (sliceIdx l.length none none 1) = l := by
  rw [gather_slice (a := 0) (b := l.length) rfl rfl rfl (Nat.le_refl _), List.drop_zero, Nat.sub_zero, List.take_length]

theorem slice_step_one (m : Mon R) (hwf : m.WF) {a b : Nat} {s e : Option Int}
    (hs : sliceStart m.len s 1 = a) (he : sliceStop m.len e 1 = b) (hb : b ≤ m.len) :
    m.slice s e 1 = { m with x := (m.x.drop a).take (b - a), y := (m.y.drop a).take (b - a),
                             id := (m.id.drop a).take (b - a), info := [] } := by
  simp only [Mon.slice]
  rw [gather_slice (n := m.len) rfl hs he hb, gather_slice (n := m.len) hwf.1 hs he hb,
    gather_slice (n := m.len) hwf.2 hs he hb]

theorem insertAt_append (p l : List α) (v : α) : insertAt (p ++ l) p.length v = p ++ v :: l := by
  induction p with
  | nil => cases l <;> simp [insertAt]
  | cons h t ih => simp [insertAt, ih]

theorem insertAll_append (items : List α) : ∀ (p l : List α),
    insertAll (p ++ l) p.length items = p ++ items ++ l := by
  induction items with
  | nil => intro p l; simp [insertAll]
  | cons v vs ih =>
    intro p l
    unfold insertAll
    rw [insertAt_append]
    have := ih (p ++ [v]) l
    simp only [List.length_append, List.length_cons, List.length_nil, List.append_assoc,
      List.cons_append, List.nil_append] at this
    rw [this]
    simp

theorem insertAll_zero (items l : List α) : insertAll l 0 items = items ++ l := by
  have := insertAll_append items [] l
  simpa using this

theorem prepend_eq [Div R] [OfNat R 1] (a b : Mon R) : a.prepend b =
    { a with x := b.x ++ a.x, y := yFor a b ++ a.y, id := b.id ++ a.id, info := b.info ++ a.info } := by
  simp only [Mon.prepend, insertAll_zero]

/-- the text of the current piece, pending spaces included -/
def cur (nsp : Nat) (acc : List Char) : List Char := (List.replicate nsp sp ++ acc).reverse

theorem cur_succ (n : Nat) (acc : List Char) : cur (n + 1) acc = cur n acc ++ [sp] :=
  List.reverse_cons ..

theorem cur_push (n : Nat) (acc : List Char) (c : Char) : cur 0 (c :: (List.replicate n sp ++ acc)) = cur n acc ++ [c] :=
  List.reverse_cons ..

/-- while `scan` succeeds `splitGo` only extends the current piece by `s` -/
theorem splitGo_scan (rest : List Char) (s : List Char) (nsp : Nat) (acc : List Char) (k : Nat) (h : scan nsp s = some k) :
    ∃ acc', splitGo nsp acc (s ++ rest) = splitGo k acc' rest ∧ cur k acc' = cur nsp acc ++ s := by
  fun_induction scan nsp s generalizing acc with
  | case1 nsp => cases h; exact ⟨acc, rfl, (List.append_nil _).symm⟩
  | case2 t => cases h
  | case3 nsp t h2 ih =>
    obtain ⟨acc', h1, h3⟩ := ih acc h
    refine ⟨acc', ?_, ?_⟩
    · rw [List.cons_append, splitGo, if_pos rfl, if_neg h2]; exact h1
    · rw [h3, cur_succ, List.append_assoc]; rfl
  | case4 nsp c t hc ih =>
    obtain ⟨acc', h1, h3⟩ := ih (c :: (List.replicate nsp sp ++ acc)) h
    refine ⟨acc', ?_, ?_⟩
    · rw [List.cons_append, splitGo, if_neg hc]; exact h1
    · rw [h3, cur_push, List.append_assoc]; rfl

/-- a field before a separator: separator consumed, leading blanks kept -/
theorem splitGo_tok (t rest : List Char) (ht : scan 2 t = some 0) :
    splitGo 0 [] (sp :: sp :: (t ++ sp :: sp :: sp :: rest)) = (sp :: sp :: t) :: splitGo 0 [] rest := by
  obtain ⟨acc, h1, h2⟩ := splitGo_scan (sp :: sp :: sp :: rest) t 2 [] 0 ht
  have e : acc.reverse = sp :: sp :: t := by simpa [cur] using h2
  show splitGo 2 [] (t ++ _) = _
  rw [h1]
  show acc.reverse :: splitGo 0 [] rest = _
  rw [e]

theorem splitGo_tail (x : List Char) (hx : tailOK x = true) : splitGo 0 [] x = [x] := by
  obtain ⟨k, hk⟩ := Option.isSome_iff_exists.mp hx
  obtain ⟨acc, h1, h2⟩ := splitGo_scan [] x 0 [] k hk
  rw [List.append_nil] at h1
  -- `← cur` refolds the piece so that `h2` applies
  rw [h1, splitGo, ← cur, h2]
  rfl

theorem splitGo_ne_nil (s : List Char) (nsp : Nat) (acc : List Char) : splitGo nsp acc s ≠ [] := by
  fun_induction splitGo nsp acc s with
  | case1 => exact List.cons_ne_nil _ _
  | case2 => exact List.cons_ne_nil _ _
  | case3 _ _ _ _ ih => exact ih
  | case4 _ _ _ _ _ ih => exact ih

theorem intercalate_cons_of_ne_nil (sep a : List α) (l : List (List α)) (h : l ≠ []) :
    List.intercalate sep (a :: l) = a ++ sep ++ List.intercalate sep l := by
  cases l with
  | nil => exact absurd rfl h
  | cons b t => simp [List.intercalate]

theorem splitGo_join (s : List Char) (nsp : Nat) (acc : List Char) (hn : nsp ≤ 2) :
    List.intercalate [sp, sp, sp] (splitGo nsp acc s) = cur nsp acc ++ s := by
  fun_induction splitGo nsp acc s with
  | case1 nsp acc => simp [cur, List.intercalate]
  | case2 acc t ih =>
    rw [intercalate_cons_of_ne_nil _ _ _ (splitGo_ne_nil _ _ _), ih (Nat.zero_le 2), cur_succ, cur_succ]
    simp [cur]
  | case3 nsp acc t h2 ih =>
    rw [ih (Nat.succ_le_of_lt (Nat.lt_of_le_of_ne hn h2)), cur_succ, List.append_assoc]; rfl
  | case4 nsp acc c t hc ih => rw [ih (Nat.zero_le 2), cur_push, List.append_assoc]; rfl

theorem scan_append (a b : List Char) (n : Nat) : scan n (a ++ b) = (scan n a).bind (fun k => scan k b) := by
  fun_induction scan n a with
  | case1 => rfl
  | case2 t => rw [List.cons_append, scan, if_pos rfl, if_pos rfl]; rfl
  | case3 nsp t h2 ih => rw [List.cons_append, scan, if_pos rfl, if_neg h2]; exact ih
  | case4 nsp c t hc ih => rw [List.cons_append, scan, if_neg hc]; exact ih

theorem splitGo_pieces (s : List Char) (nsp : Nat) (acc : List Char) (h : scan 0 (cur nsp acc) = some nsp) :
    ∀ p ∈ splitGo nsp acc s, tailOK p = true := by
  fun_induction splitGo nsp acc s with
  | case1 nsp acc =>
    intro p hp
    cases List.mem_singleton.mp hp
    exact congrArg Option.isSome h
  | case2 acc t ih =>
    intro p hp
    rcases List.mem_cons.mp hp with rfl | hp
    · -- the piece is what was scanned before the two pending blanks
      rw [cur_succ, cur_succ, List.append_assoc, scan_append] at h
      cases hs : scan 0 (cur 0 acc) with
      | none => rw [hs] at h; cases h
      | some k => exact congrArg Option.isSome hs
    · exact ih rfl p hp
  | case3 nsp acc t h2 ih =>
    refine ih ?_
    rw [cur_succ, scan_append, h]
    simp [scan, h2]
  | case4 nsp acc c t hc ih =>
    refine ih ?_
    rw [cur_push, scan_append, h]
    simp [scan, hc]

/-- every row has length `c` -/
def Rect (M : List (List α)) (c : Nat) : Prop := ∀ r ∈ M, r.length = c

theorem column_getElem? (j : Nat) : ∀ (X : List (List α)), (∀ r ∈ X, j < r.length) →
    ∀ i : Nat, (X.filterMap (·[j]?))[i]? = (X[i]?).bind (·[j]?) := by
  intro X
  induction X with
  | nil => intro _ i; rfl
  | cons a t ih =>
    intro h i
    have hj : j < a.length := h a List.mem_cons_self
    have ha : a[j]? = some a[j] := List.getElem?_eq_getElem hj
    rw [List.filterMap_cons_some (f := (·[j]?)) ha]
    cases i with
    | zero => exact ha.symm
    | succ i => exact ih (fun r hr => h r (List.mem_cons_of_mem _ hr)) i

theorem heads?_drop (j : Nat) : ∀ (M : List (List α)), (∀ r ∈ M, j < r.length) →
    heads? (M.map (·.drop j)) = some (M.filterMap (·[j]?)) := by
  intro M
  induction M with
  | nil => intro _; rfl
  | cons r rs ih =>
    intro h
    have hr : j < r.length := h r List.mem_cons_self
    rw [List.map_cons, List.drop_eq_getElem_cons hr, heads?, ih (fun q hq => h q (List.mem_cons_of_mem _ hq)),
      List.filterMap_cons_some (f := (·[j]?)) (List.getElem?_eq_getElem hr)]
    rfl

theorem zipStarGo_drop (c : Nat) (M : List (List α)) (hM : Rect M c) :
    ∀ (f j : Nat), j + f ≤ c →
      zipStarGo f (M.map (·.drop j)) = (List.range' j f).map (fun j => M.filterMap (·[j]?)) := by
  intro f
  induction f with
  | zero => intro j _; rfl
  | succ f ih =>
    intro j hj
    have e : (M.map (·.drop j)).map List.tail = M.map (·.drop (j + 1)) := by
      rw [List.map_map]; exact List.map_congr_left (fun r _ => List.tail_drop)
    have hj' : j < c := Nat.lt_of_lt_of_le (Nat.lt_add_of_pos_right (Nat.succ_pos f)) hj
    rw [zipStarGo, heads?_drop j M (fun r hr => hM r hr ▸ hj'), e, ih (j + 1) (by rw [Nat.add_right_comm]; exact hj),
      List.range'_succ, List.map_cons]

theorem zipStar_rect (c : Nat) (M : List (List α)) (hM : Rect M c) (hne : M ≠ []) :
    zipStar M = (List.range c).map (fun j => M.filterMap (·[j]?)) := by
  cases M with
  | nil => exact absurd rfl hne
  | cons r rs =>
    have := zipStarGo_drop c (r :: rs) hM c 0 (Nat.le_of_eq (Nat.zero_add c))
    simp only [List.drop_zero, List.map_id'] at this
    rw [zipStar, hM r List.mem_cons_self, this, List.range_eq_range']

theorem zipStar_rect_involutive {c : Nat} {M : List (List α)} (hM : Rect M c) (hne : M ≠ []) (hc : 0 < c) :
    (zipStar M).length = c ∧ Rect (zipStar M) M.length ∧ zipStar (zipStar M) = M := by
  have h1 := zipStar_rect c M hM hne
  have hlen : (zipStar M).length = c := by rw [h1, List.length_map, List.length_range]
  have hrows : ∀ j < c, ∀ r ∈ M, j < r.length := fun j hj r hr => by rw [hM r hr]; exact hj
  have hT : Rect (zipStar M) M.length := by
    intro q hq
    rw [h1] at hq
    obtain ⟨j, hj, rfl⟩ := List.mem_map.mp hq
    exact List.filterMap_length_eq_length.mpr (fun r hr => by
      rw [List.getElem?_eq_getElem (hrows j (List.mem_range.mp hj) r hr)]; rfl)
  refine ⟨hlen, hT, ?_⟩
  rw [zipStar_rect M.length (zipStar M) hT (List.ne_nil_of_length_pos (hlen ▸ hc))]
  rw [h1] at hT ⊢
  apply List.ext_getElem
  · rw [List.length_map, List.length_range]
  · intro i hi _
    have hi : i < M.length := by rwa [List.length_map, List.length_range] at hi
    have hrow : (M[i]).length = c := hM _ (List.getElem_mem hi)
    rw [List.getElem_map, List.getElem_range]
    -- entry `i` of column `j` is `M[i][j]`
    apply List.ext_getElem?
    intro j
    rw [column_getElem? i _ (fun q hq => by rw [hT q hq]; exact hi), List.getElem?_map]
    by_cases hj : j < c
    · rw [List.getElem?_range hj, Option.map_some, Option.bind_some, column_getElem? j M (hrows j hj),
        List.getElem?_eq_getElem hi, Option.bind_some]
    · rw [List.getElem?_eq_none (by rw [List.length_range]; exact Nat.le_of_not_lt hj),
        List.getElem?_eq_none (by rw [hrow]; exact Nat.le_of_not_lt hj)]
      rfl

theorem heads?_map {β : Type} (f : α → β) : ∀ (M : List (List α)), heads? (M.map (·.map f)) = (heads? M).map (·.map f) := by
  intro M
  induction M with
  | nil => rfl
  | cons r rs ih =>
    cases r with
    | nil => rfl
    | cons a t =>
      rw [List.map_cons, List.map_cons, heads?, heads?, ih]
      cases heads? rs <;> rfl

theorem zipStarGo_map {β : Type} (f : α → β) : ∀ (n : Nat) (M : List (List α)),
    zipStarGo n (M.map (·.map f)) = (zipStarGo n M).map (·.map f) := by
  intro n
  induction n with
  | zero => intro M; rfl
  | succ n ih =>
    intro M
    have e : (M.map (·.map f)).map List.tail = (M.map List.tail).map (·.map f) := by
      rw [List.map_map, List.map_map]; exact List.map_congr_left (fun r _ => List.map_tail.symm)
    rw [zipStarGo, zipStarGo, heads?_map, e, ih]
    cases heads? M <;> rfl

theorem zipStar_map {β : Type} (f : α → β) (M : List (List α)) : zipStar (M.map (·.map f)) = (zipStar M).map (·.map f) := by
  cases M with
  | nil => rfl
  | cons r rs => rw [zipStar, ← zipStarGo_map, List.map_cons, zipStar, List.length_map]

theorem zipStar_singletons (l : List α) (h : l ≠ []) : zipStar (l.map ([·])) = [l] := by
  have hh : ∀ (l : List α), heads? (l.map ([·])) = some l := by
    intro l
    induction l with
    | nil => rfl
    | cons b s ihs => rw [List.map_cons, heads?, ihs]; rfl
  cases l with
  | nil => exact absurd rfl h
  | cons a t =>
    have := hh (a :: t)
    rw [List.map_cons] at this
    rw [List.map_cons, zipStar, List.length_singleton, zipStarGo, this]
    rfl

theorem appendOpt_length {V : Type} : ∀ (fs : List (List V)) (vals : List (Option V)),
    (appendOpt fs vals).length = fs.length := by
  intro fs
  induction fs with
  | nil => intro vals; rfl
  | cons f fs ih =>
    intro vals
    cases vals with
    | nil => rfl
    | cons o os => simp [appendOpt, ih]

theorem appendOpt_getD {V : Type} : ∀ (fs : List (List V)) (vals : List (Option V)) (f : Nat), f < fs.length →
    (appendOpt fs vals).getD f [] = fs.getD f [] ++ ((vals[f]?).join).toList := by
  intro fs
  induction fs with
  | nil => intro vals f h; cases h
  | cons g fs ih =>
    intro vals f h
    cases vals with
    | nil => exact (List.append_nil _).symm
    | cons o os =>
      cases f with
      | zero =>
        cases o with
        | none => exact (List.append_nil g).symm
        | some v => rfl
      | succ f => exact ih os f (Nat.lt_of_succ_lt_succ h)

end MysticVerif.Mon
