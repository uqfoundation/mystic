/- cost scaling by `k` over a field (exact arithmetic, see the header of Props/C20.lean) -/
import MysticVerif.Proofs.Monitor
import Mathlib.Tactic.FieldSimp

namespace MysticVerif.Mon

variable {K : Type} [Field K]

theorem cdiv_cmul (k : Option K) (hk : k ≠ some 0) (y : PV K) : cdiv k (cmul k y) = y := by
  cases k with
  | none => rfl
  | some n =>
    have hn : n ≠ 0 := fun h => hk (by rw [h])
    simp only [cdiv, cmul, PV.map_map]
    exact PV.map_eq_self _ (fun v => mul_div_cancel_right₀ v hn) y

theorem cdiv_eq (k : Option K) (y : PV K) : cdiv k y = y.map (· / k.getD 1) := by
  cases k with
  | none => exact (PV.map_eq_self _ (fun v => div_one v) y).symm
  | some n => rfl

theorem calls_getY (m : Mon K) (hk : m.k ≠ some 0) (cs : List (Call K)) :
    (m.calls cs).getY = m.getY ++ cs.map (·.y) := by
  simp only [Mon.getY, calls_eq, List.map_append, List.map_map]
  congr 1
  exact List.map_congr_left (fun c _ => cdiv_cmul m.k hk c.y)

theorem shownY_eq_shownX (m : Mon K) (hk : m.k ≠ some 0) (all : Bool) (best : Int) (y : PV K) :
    shownY m all best false y = shownX all best y := by
  unfold shownY shownX
  split
  · exact congrArg Except.ok (cdiv_cmul m.k hk y)
  · cases hkk : m.k with
    | none => simp only [cmul]; cases y.at best <;> rfl
    | some n =>
      simp only [cmul, PV.at_map]
      cases y.at best with
      | error e => rfl
      | ok v => exact congrArg Except.ok (cdiv_cmul (some n) (hkk ▸ hk) v)

theorem yFor_eq (a b : Mon K) : yFor a b = b.y.map (PV.map (· / (b.k.getD 1 / a.k.getD 1))) := by
  unfold yFor kdiv
  cases b.k <;> cases a.k
  · -- both `k` are `None`: the costs are divided by `1 / 1`
    have h1 : ∀ v : K, v / ((1 : K) / 1) = v := fun v => by rw [div_one, div_one]
    exact (List.map_id'' (fun y => PV.map_eq_self _ h1 y) _).symm
  all_goals rfl

theorem yFor_getY (a b : Mon K) (ha : a.k ≠ some 0) : (yFor a b).map (cdiv a.k) = b.getY := by
  have ha' : a.k.getD 1 ≠ 0 := by
    cases h : a.k with
    | none => exact one_ne_zero
    | some n => exact fun h0 => ha (h ▸ congrArg some h0)
  rw [yFor_eq, Mon.getY, List.map_map]
  apply List.map_congr_left
  intro y _
  simp only [Function.comp_apply, cdiv_eq, PV.map_map]
  congr 1
  funext v
  -- `v / (kb / ka) / ka = v / kb`, for `ka ≠ 0`
  rw [div_div_eq_mul_div, div_right_comm, mul_div_cancel_right₀ _ ha']

end MysticVerif.Mon
