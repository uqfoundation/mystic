/-
Lemmas for C18 about Model/Measures.lean: `max` / `min` folds, `spread`; sort and median selection under strictly monotone
maps; textbook sums, mean, moments under affine maps; the collapse loop; `mean`, `moment`, `normalize`, `impose_support`.
Grouped by need: any linear order, any type, `[LinearOrder K]`, `[Field K]`, both, `[IsStrictOrderedRing K]`.
-/
import MysticVerif.Model.Measures
import MysticVerif.Proofs.ListFacts
import MysticVerif.Proofs.ScalarFacts
import Mathlib.Tactic.Linarith
import Mathlib.Tactic.Ring
import Mathlib.Tactic.FieldSimp
import Mathlib.Algebra.Order.Field.Basic
import Mathlib.Algebra.BigOperators.Group.List.Basic
import Mathlib.Algebra.Order.Ring.Abs


namespace MysticVerif.Meas

section
variable {α β : Type} [LinearOrder α] [LinearOrder β]

theorem foldl_max_spec (m : α) (l : List α) : l.foldl max m ∈ m :: l ∧ ∀ y ∈ m :: l, y ≤ l.foldl max m := by
  induction l generalizing m with
  | nil => exact ⟨List.mem_cons_self, fun y hy => le_of_eq (List.mem_singleton.mp hy)⟩
  | cons x xs ih =>
    obtain ⟨hmem, hle⟩ := ih (max m x)
    have htop := hle _ List.mem_cons_self
    rw [List.foldl_cons]
    refine ⟨?_, ?_⟩
    · rcases List.mem_cons.mp hmem with h | h
      · rw [h]; rcases max_choice m x with e | e <;> simp [e]
      · exact List.mem_cons_of_mem _ (List.mem_cons_of_mem _ h)
    · intro y hy
      rcases List.mem_cons.mp hy with rfl | hy
      · exact le_trans (le_max_left _ _) htop
      · rcases List.mem_cons.mp hy with rfl | hy
        · exact le_trans (le_max_right _ _) htop
        · exact hle y (List.mem_cons_of_mem _ hy)

theorem foldl_max_map {f : α → β} (hf : Monotone f) (m : α) (l : List α) :
    (l.map f).foldl max (f m) = f (l.foldl max m) := by
  induction l generalizing m with
  | nil => rfl
  | cons x xs ih => simp only [List.map_cons, List.foldl_cons, ← hf.map_max, ih]

theorem foldl_min_map {f : α → β} (hf : Monotone f) (m : α) (l : List α) :
    (l.map f).foldl min (f m) = f (l.foldl min m) :=
  foldl_max_map (α := αᵒᵈ) (β := βᵒᵈ) hf.dual m l

end

section
variable {K : Type}

theorem mapIdx_length (ws : List K) (g : Nat → K → K) : (mapIdx ws g).length = ws.length := by
  simp [mapIdx]

theorem mapIdx_getElem? (ws : List K) (g : Nat → K → K) (i : Nat) :
    (mapIdx ws g)[i]? = (ws[i]?).map (g i) := by
  unfold mapIdx
  by_cases h : i < ws.length
  · have h1 : i < ((List.range ws.length).zip ws).length := by simp [h]
    rw [List.getElem?_map, List.getElem?_eq_getElem h1, List.getElem?_eq_getElem h]
    simp
  · have h1 : ¬ i < ((List.range ws.length).zip ws).length := by simp [h]
    rw [List.getElem?_map, List.getElem?_eq_none (not_lt.mp h1), List.getElem?_eq_none (not_lt.mp h)]
    simp

theorem mapIdx_map (ws : List K) (g : Nat → K → K) (h : K → K) :
    (mapIdx ws g).map h = mapIdx ws (fun i w => h (g i w)) := by
  simp [mapIdx, List.map_map, Function.comp]

theorem map_fst_map_prodMap (f : K → K) (l : List (K × K)) :
    (l.map (Prod.map f id)).map (·.1) = (l.map (·.1)).map f := by
  rw [List.map_map, List.map_map]; rfl

theorem map_snd_map_prodMap (f : K → K) (l : List (K × K)) : (l.map (Prod.map f id)).map (·.2) = l.map (·.2) := by
  rw [List.map_map]; rfl

/-- the mask selection `x[P(w)]` of `medianSel` -/
theorem sel_map (f : K → K) (P : K → Bool) (a b : List K) :
    ((((a.map f).zip b).filter (fun p => P p.2)).map (·.1)) =
      (((a.zip b).filter (fun p => P p.2)).map (·.1)).map f := by
  rw [List.zip_map_left, List.filter_map, List.map_map, List.map_map]; rfl

end

section
variable {K : Type} [LinearOrder K]

/-! builtin `max` / `min` are left folds; the `min` facts are the `max` facts of the dual order -/

theorem pymaxFrom_eq (m : K) (l : List K) : pymaxFrom m l = l.foldl max m := by
  induction l generalizing m with
  | nil => rfl
  | cons x xs ih =>
    simp only [pymaxFrom, List.foldl_cons, ih]
    congr 1
    split
    · exact (max_eq_right (le_of_lt ‹_›)).symm
    · exact (max_eq_left (not_lt.mp ‹_›)).symm

theorem pyminFrom_eq (m : K) (l : List K) : pyminFrom m l = l.foldl min m := by
  induction l generalizing m with
  | nil => rfl
  | cons x xs ih =>
    simp only [pyminFrom, List.foldl_cons, ih]
    congr 1
    split
    · exact (min_eq_right (le_of_lt ‹_›)).symm
    · exact (min_eq_left (not_lt.mp ‹_›)).symm

theorem pymax_spec (x : K) (l : List K) :
    pymaxFrom x l ∈ x :: l ∧ ∀ y ∈ x :: l, y ≤ pymaxFrom x l := by
  rw [pymaxFrom_eq]; exact foldl_max_spec x l

theorem pymin_spec (x : K) (l : List K) :
    pyminFrom x l ∈ x :: l ∧ ∀ y ∈ x :: l, pyminFrom x l ≤ y := by
  rw [pyminFrom_eq]; exact foldl_max_spec (α := Kᵒᵈ) x l

/-! a strictly monotone `f` on the samples changes no comparison of the insertion sort -/

theorem insertBy_map {f : K → K} (hf : StrictMono f) (p : K × K) (l : List (K × K)) :
    insertBy (Prod.map f id p) (l.map (Prod.map f id)) = (insertBy p l).map (Prod.map f id) := by
  induction l with
  | nil => rfl
  | cons q qs ih =>
    simp only [List.map_cons, insertBy, Prod.map_fst, hf.lt_iff_lt]
    split
    · rw [List.map_cons, ← ih]
    · rfl

theorem sortPairs_map {f : K → K} (hf : StrictMono f) (l : List (K × K)) :
    sortPairs (l.map (Prod.map f id)) = (sortPairs l).map (Prod.map f id) := by
  induction l with
  | nil => rfl
  | cons p l ih => simp only [List.map_cons, sortPairs, ih, insertBy_map hf]

end

section
variable {K : Type} [Field K]

/-- `∑ xᵢ wᵢ` -/
def wsum (xs ws : List K) : K := (List.zipWith (· * ·) xs ws).sum

/-- textbook mean: `(∑ xᵢ)/n` without weights, `(∑ xᵢ wᵢ)/(∑ wᵢ)` with weights -/
def gmean (xs : List K) : Option (List K) → K
  | none => xs.sum / (xs.length : K)
  | some w => wsum xs w / w.sum

/-- textbook central moment of order `n` -/
def gmom (xs : List K) (ws : Option (List K)) (n : Nat) : K :=
  gmean (xs.map fun x => (x - gmean xs ws) ^ n) ws

/-- the inputs for which the (weighted) statistics are defined -/
def Valid (xs : List K) : Option (List K) → Prop
  | none => xs ≠ []
  | some w => xs.length = w.length ∧ w.sum ≠ 0

theorem lsum_eq (l : List K) : lsum l = l.sum := List.sum_eq_foldl.symm

theorem powN_eq (x : K) (n : Nat) : powN x n = x ^ n := by
  induction n with
  | zero => exact (pow_zero x).symm
  | succ n ih => rw [powN, ih, pow_succ]

theorem Valid.map {xs : List K} {ws : Option (List K)} (h : Valid xs ws) (f : K → K) : Valid (xs.map f) ws := by
  cases ws with
  | none => exact fun e => h (List.map_eq_nil_iff.mp e)
  | some w => exact ⟨(List.length_map f).trans h.1, h.2⟩

theorem sum_map_add_const (xs : List K) (c : K) : (xs.map (· + c)).sum = xs.sum + (xs.length : K) * c := by
  induction xs with
  | nil => simp
  | cons x xs ih => rw [List.map_cons, List.sum_cons, ih, List.sum_cons, List.length_cons, Nat.cast_succ]; ring

theorem sum_map_mul_left (xs : List K) (f : K → K) (a : K) : (xs.map fun x => a * f x).sum = a * (xs.map f).sum := by
  induction xs with
  | nil => simp
  | cons x xs ih => rw [List.map_cons, List.sum_cons, ih, List.map_cons, List.sum_cons, mul_add]

theorem sum_map_div_right (xs : List K) (a : K) : (xs.map (· / a)).sum = xs.sum / a := by
  induction xs with
  | nil => simp
  | cons x xs ih => rw [List.map_cons, List.sum_cons, ih, List.sum_cons, add_div]

theorem sum_map_mul_div (xs : List K) (a b : K) : (xs.map fun x => a * x / b).sum = a * xs.sum / b := by
  simp only [mul_div_assoc, sum_map_mul_left xs (· / b) a, sum_map_div_right]

theorem wsum_map_add_const (xs ws : List K) (c : K) (h : xs.length = ws.length) :
    wsum (xs.map (· + c)) ws = wsum xs ws + c * ws.sum := by
  unfold wsum
  induction xs generalizing ws with
  | nil => cases ws with
    | nil => simp
    | cons w ws => simp at h
  | cons x xs ih => cases ws with
    | nil => simp at h
    | cons w ws =>
      simp only [List.length_cons, Nat.add_right_cancel_iff] at h
      simp only [List.map_cons, List.zipWith_cons_cons, List.sum_cons, ih ws h]; ring

theorem wsum_map_mul_left (xs ws : List K) (f : K → K) (a : K) :
    wsum (xs.map fun x => a * f x) ws = a * wsum (xs.map f) ws := by
  unfold wsum
  induction xs generalizing ws with
  | nil => simp
  | cons x xs ih => cases ws with
    | nil => simp
    | cons w ws => simp only [List.map_cons, List.zipWith_cons_cons, List.sum_cons, ih ws]; ring

theorem gmean_map_mul_left (xs : List K) (ws : Option (List K)) (f : K → K) (a : K) :
    gmean (xs.map fun x => a * f x) ws = a * gmean (xs.map f) ws := by
  cases ws with
  | none => simp only [gmean, sum_map_mul_left, List.length_map, mul_div_assoc]
  | some w => simp only [gmean, wsum_map_mul_left, mul_div_assoc]

theorem gmean_map_mul_const (xs : List K) (ws : Option (List K)) (s : K) :
    gmean (xs.map (· * s)) ws = gmean xs ws * s := by
  have h := gmean_map_mul_left xs ws (fun x => x) s
  rw [List.map_id'] at h
  simp only [mul_comm _ s, h]

theorem gmom_map_mul_const (xs : List K) (ws : Option (List K)) (s : K) (n : Nat) :
    gmom (xs.map (· * s)) ws n = s ^ n * gmom xs ws n := by
  unfold gmom
  rw [gmean_map_mul_const, List.map_map, ← gmean_map_mul_left]
  congr 1
  apply List.map_congr_left; intro x _
  simp only [Function.comp]
  rw [← sub_mul, mul_pow, mul_comm]

/-- the weights kept by `impose_support` before rescaling -/
def keptW (index : List Int) (ws : List K) : List K :=
  mapIdx ws fun i w => if inIndex ws.length index i = true then w else 0

/-- the weights kept by `impose_unweighted` before rescaling -/
def droppedW (index : List Int) (ws : List K) : List K :=
  mapIdx ws fun i w => if inIndex ws.length index i = true then 0 else w

theorem sum_set (l : List K) (k : Nat) (a : K) (h : k < l.length) :
    (l.set k a).sum = l.sum - l.getD k 0 + a := by
  rw [List.sum_set', dif_pos h, List.getD_eq_getElem?_getD, List.getElem?_eq_getElem h, Option.getD_some]; ring

theorem collapse_fold_length (i : Nat) (J : List Nat) (s : CState K) :
    (J.foldl (collapseStep i) s).ws.length = s.ws.length ∧ (J.foldl (collapseStep i) s).xs.length = s.xs.length := by
  induction J generalizing s with
  | nil => exact ⟨rfl, rfl⟩
  | cons k J ih =>
    rw [List.foldl_cons, (ih _).1, (ih _).2]
    exact ⟨List.length_set, List.length_set⟩

/-- the collapse loop of one group `i -> J` keeps `∑ w - wᵢ + v`: what leaves a member's weight enters `v` -/
theorem collapse_fold_inv (i : Nat) (J : List Nat) (s : CState K) (hJ : ∀ k ∈ J, k < s.ws.length ∧ k ≠ i) :
    (J.foldl (collapseStep i) s).ws.sum - (J.foldl (collapseStep i) s).ws.getD i 0 + (J.foldl (collapseStep i) s).v =
      s.ws.sum - s.ws.getD i 0 + s.v := by
  induction J generalizing s with
  | nil => rfl
  | cons k J ih =>
    have hk := hJ k List.mem_cons_self
    have hJ' : ∀ k' ∈ J, k' < (collapseStep i s k).ws.length ∧ k' ≠ i := fun k' hk' => by
      rw [show (collapseStep i s k).ws.length = s.ws.length from List.length_set]
      exact hJ k' (List.mem_cons_of_mem _ hk')
    rw [List.foldl_cons, ih _ hJ']
    show (s.ws.set k 0).sum - (s.ws.set k 0).getD i 0 + (s.v + s.ws.getD k 0) = _
    rw [sum_set _ _ _ hk.1, getD_set_ne _ _ _ hk.2]; ring

theorem collapseGroup_length (xw : List K × List K) (g : Nat × List Nat) :
    (collapseGroup xw g).1.length = xw.1.length ∧ (collapseGroup xw g).2.length = xw.2.length :=
  ⟨(collapse_fold_length _ _ _).2, List.length_set.trans (collapse_fold_length _ _ _).1⟩

/-- a group of `connected` that `impose_collapse` handles as intended: indices in range, key not a member -/
def GroupOK (n : Nat) (g : Nat × List Nat) : Prop := g.1 < n ∧ ∀ k ∈ g.2, k < n ∧ k ≠ g.1

theorem collapseGroup_sum (xw : List K × List K) (g : Nat × List Nat) (hok : GroupOK xw.2.length g) :
    (collapseGroup xw g).2.sum = xw.2.sum := by
  have h := collapse_fold_inv g.1 g.2 { v := xw.2.getD g.1 0, ws := xw.2, xs := xw.1 } hok.2
  unfold collapseGroup
  rw [sum_set _ _ _ (by rw [(collapse_fold_length _ _ _).1]; exact hok.1), h]
  exact sub_add_cancel _ _

theorem collapse_groups_length (gs : List (Nat × List Nat)) (xw : List K × List K) :
    (gs.foldl collapseGroup xw).1.length = xw.1.length ∧ (gs.foldl collapseGroup xw).2.length = xw.2.length := by
  induction gs generalizing xw with
  | nil => exact ⟨rfl, rfl⟩
  | cons g gs ih => rw [List.foldl_cons, (ih _).1, (ih _).2]; exact collapseGroup_length xw g

theorem collapse_groups_sum (gs : List (Nat × List Nat)) (xw : List K × List K)
    (hok : ∀ g ∈ gs, GroupOK xw.2.length g) : (gs.foldl collapseGroup xw).2.sum = xw.2.sum := by
  induction gs generalizing xw with
  | nil => rfl
  | cons g gs ih =>
    rw [List.foldl_cons, ih, collapseGroup_sum xw g (hok g List.mem_cons_self)]
    intro g' hg'
    rw [(collapseGroup_length xw g).2]
    exact hok g' (List.mem_cons_of_mem _ hg')

private theorem ite_mem_cons {α : Type} (t k : Nat) (J : List Nat) (a b : α) :
    (if t ∈ J then a else if t = k then a else b) = if t ∈ k :: J then a else b := by
  by_cases h1 : t ∈ J <;> by_cases h2 : t = k <;> simp [h1, h2]

/-- the collapse loop of one group `i -> J`: the running
weight collects the members' weights, exactly the members are zeroed and moved onto position `i` -/
theorem collapse_fold_spec (i n : Nat) (J : List Nat) (s : CState K)
    (hJ : ∀ k ∈ J, k < n ∧ k ≠ i) (hnd : J.Nodup) (hlen : s.ws.length = n) (hx : s.xs.length = n) :
    (J.foldl (collapseStep i) s).v = s.v + (J.map (s.ws.getD · 0)).sum ∧
    (∀ t, (J.foldl (collapseStep i) s).ws.getD t 0 = if t ∈ J then 0 else s.ws.getD t 0) ∧
    (∀ t, (J.foldl (collapseStep i) s).xs.getD t 0 = if t ∈ J then s.xs.getD i 0 else s.xs.getD t 0) := by
  induction J generalizing s with
  | nil =>
    exact ⟨(add_zero _).symm, fun t => (if_neg List.not_mem_nil).symm, fun t => (if_neg List.not_mem_nil).symm⟩
  | cons k J ih =>
    have hk := hJ k List.mem_cons_self
    have hnd' := List.nodup_cons.mp hnd
    obtain ⟨hv, hw, hxs⟩ := ih (collapseStep i s k) (fun k' hk' => hJ k' (List.mem_cons_of_mem _ hk')) hnd'.2
      (List.length_set.trans hlen) (List.length_set.trans hx)
    rw [List.foldl_cons]
    refine ⟨?_, fun t => ?_, fun t => ?_⟩
    · rw [hv, List.map_cons, List.sum_cons, ← add_assoc]
      congr 2
      apply List.map_congr_left; intro t ht
      exact getD_set_ne _ _ _ fun h => hnd'.1 (h ▸ ht)
    · rw [hw t, ← ite_mem_cons]
      show (if t ∈ J then 0 else (s.ws.set k 0).getD t 0) = _
      rw [getD_set _ _ _ _ (hlen ▸ hk.1)]
    · rw [hxs t, ← ite_mem_cons]
      show (if t ∈ J then (s.xs.set k _).getD i 0 else (s.xs.set k _).getD t 0) = _
      rw [getD_set_ne _ _ _ hk.2, getD_set _ _ _ _ (hx ▸ hk.1)]

theorem collapseGroup_spec (xs ws : List K) (g : Nat × List Nat) (hl : xs.length = ws.length)
    (hok : GroupOK ws.length g) (hnd : g.2.Nodup) :
    (collapseGroup (xs, ws) g).2.getD g.1 0 = ws.getD g.1 0 + (g.2.map (ws.getD · 0)).sum ∧
    (∀ k ∈ g.2, (collapseGroup (xs, ws) g).2.getD k 0 = 0 ∧ (collapseGroup (xs, ws) g).1.getD k 0 = xs.getD g.1 0) ∧
    (∀ t, t ≠ g.1 → t ∉ g.2 → (collapseGroup (xs, ws) g).2.getD t 0 = ws.getD t 0) ∧
    (∀ t, t ∉ g.2 → (collapseGroup (xs, ws) g).1.getD t 0 = xs.getD t 0) := by
  obtain ⟨hv, hw, hx⟩ :=
    collapse_fold_spec g.1 ws.length g.2 { v := ws.getD g.1 0, ws := ws, xs := xs } hok.2 hnd rfl hl
  unfold collapseGroup
  simp only at hv hw hx ⊢
  refine ⟨?_, fun k hk => ⟨?_, ?_⟩, fun t ht htJ => ?_, fun t htJ => ?_⟩
  · rw [getD_set _ _ _ _ (by rw [(collapse_fold_length _ _ _).1]; exact hok.1), if_pos rfl, hv]
  · rw [getD_set_ne _ _ _ (fun e => (hok.2 k hk).2 e.symm), hw k, if_pos hk]
  · rw [hx k, if_pos hk]
  · rw [getD_set_ne _ _ _ (fun e => ht e.symm), hw t, if_neg htJ]
  · rw [hx t, if_neg htJ]

/-- the nodes of a group -/
def gnodes (g : Nat × List Nat) : List Nat := g.1 :: g.2

theorem collapse_groups_untouched (gs : List (Nat × List Nat)) (xs ws : List K) (hl : xs.length = ws.length)
    (hok : ∀ g ∈ gs, GroupOK ws.length g) (hnd : ∀ g ∈ gs, g.2.Nodup) (t : Nat)
    (ht : ∀ g ∈ gs, t ∉ gnodes g) :
    (gs.foldl collapseGroup (xs, ws)).2.getD t 0 = ws.getD t 0 ∧
    (gs.foldl collapseGroup (xs, ws)).1.getD t 0 = xs.getD t 0 := by
  induction gs generalizing xs ws with
  | nil => exact ⟨rfl, rfl⟩
  | cons g gs ih =>
    have hg := ht g List.mem_cons_self
    simp only [gnodes, List.mem_cons, not_or] at hg
    obtain ⟨hl1, hl2⟩ := collapseGroup_length (xs, ws) g
    obtain ⟨_, _, hwOut, hxOut⟩ := collapseGroup_spec xs ws g hl (hok g List.mem_cons_self) (hnd g List.mem_cons_self)
    have := ih (collapseGroup (xs, ws) g).1 (collapseGroup (xs, ws) g).2 (hl1.trans (hl.trans hl2.symm))
      (fun g' hg' => hl2 ▸ hok g' (List.mem_cons_of_mem _ hg')) (fun g' hg' => hnd g' (List.mem_cons_of_mem _ hg'))
      (fun g' hg' => ht g' (List.mem_cons_of_mem _ hg'))
    rw [List.foldl_cons, this.1, this.2, hwOut t hg.1 hg.2, hxOut t hg.2]
    exact ⟨rfl, rfl⟩

/-- all groups of a collapse, pairwise without common nodes: every group's key carries the group's weight, every
other member is exactly zero and sits on the key's position (before `impose_mean`'s final shift) -/
theorem collapse_groups_spec (gs : List (Nat × List Nat)) (xs ws : List K) (hl : xs.length = ws.length)
    (hok : ∀ g ∈ gs, GroupOK ws.length g) (hnd : ∀ g ∈ gs, g.2.Nodup)
    (hdis : gs.Pairwise fun a b => ∀ t ∈ gnodes a, t ∉ gnodes b) :
    ∀ g ∈ gs,
      (gs.foldl collapseGroup (xs, ws)).2.getD g.1 0 = ws.getD g.1 0 + (g.2.map (ws.getD · 0)).sum ∧
      (gs.foldl collapseGroup (xs, ws)).1.getD g.1 0 = xs.getD g.1 0 ∧
      ∀ k ∈ g.2, (gs.foldl collapseGroup (xs, ws)).2.getD k 0 = 0 ∧
        (gs.foldl collapseGroup (xs, ws)).1.getD k 0 = xs.getD g.1 0 := by
  induction gs generalizing xs ws with
  | nil => exact fun g hg => absurd hg List.not_mem_nil
  | cons g0 gs ih =>
    intro g hg
    obtain ⟨hl1, hl2⟩ := collapseGroup_length (xs, ws) g0
    obtain ⟨hkeyW, hmem, hwOut, hxOut⟩ :=
      collapseGroup_spec xs ws g0 hl (hok g0 List.mem_cons_self) (hnd g0 List.mem_cons_self)
    have hd := List.pairwise_cons.mp hdis
    have hok' : ∀ g' ∈ gs, GroupOK (collapseGroup (xs, ws) g0).2.length g' :=
      fun g' hg' => hl2 ▸ hok g' (List.mem_cons_of_mem _ hg')
    have hl' : (collapseGroup (xs, ws) g0).1.length = (collapseGroup (xs, ws) g0).2.length :=
      hl1.trans (hl.trans hl2.symm)
    have hnd' : ∀ g' ∈ gs, g'.2.Nodup := fun g' hg' => hnd g' (List.mem_cons_of_mem _ hg')
    rw [List.foldl_cons]
    rcases List.mem_cons.mp hg with rfl | hg'
    · -- the first group: later groups do not touch its nodes
      have un := fun t ht => collapse_groups_untouched gs (collapseGroup (xs, ws) g).1 (collapseGroup (xs, ws) g).2
        hl' hok' hnd' t (fun g' hg' => hd.1 g' hg' t ht)
      have hkey : g.1 ∈ gnodes g := List.mem_cons_self
      refine ⟨?_, ?_, fun k hk => ?_⟩
      · rw [(un g.1 hkey).1, hkeyW]
      · rw [(un g.1 hkey).2, hxOut g.1 (fun h => ((hok g List.mem_cons_self).2 g.1 h).2 rfl)]
      · rw [(un k (List.mem_cons_of_mem _ hk)).1, (un k (List.mem_cons_of_mem _ hk)).2]
        exact hmem k hk
    · -- a later group: the first group did not touch its nodes
      have key := ih (collapseGroup (xs, ws) g0).1 (collapseGroup (xs, ws) g0).2 hl' hok' hnd' hd.2 g hg'
      have same : ∀ t ∈ gnodes g, (collapseGroup (xs, ws) g0).2.getD t 0 = ws.getD t 0 ∧
          (collapseGroup (xs, ws) g0).1.getD t 0 = xs.getD t 0 := by
        intro t ht
        have hn : t ∉ gnodes g0 := fun h0 => hd.1 g hg' t h0 ht
        simp only [gnodes, List.mem_cons, not_or] at hn
        exact ⟨hwOut t hn.1 hn.2, hxOut t hn.2⟩
      have hkey : g.1 ∈ gnodes g := List.mem_cons_self
      have e : g.2.map (fun t => (collapseGroup (xs, ws) g0).2.getD t 0) = g.2.map (fun t => ws.getD t 0) :=
        List.map_congr_left fun t ht => (same t (List.mem_cons_of_mem _ ht)).1
      refine ⟨?_, ?_, fun k hk => ?_⟩
      · rw [key.1, e, (same g.1 hkey).1]
      · rw [key.2.1, (same g.1 hkey).2]
      · rw [(key.2.2 k hk).1, (key.2.2 k hk).2, (same g.1 hkey).2]
        exact ⟨rfl, rfl⟩

theorem pairsOf_map_fst (f : K → K) (xs : List K) (ws : Option (List K)) :
    pairsOf (xs.map f) ws = (pairsOf xs ws).map (Prod.map f id) := by
  cases ws with
  | none => simp only [pairsOf, List.map_map]; rfl
  | some w => exact List.zip_map_left

end

section
variable {K : Type} [Field K] [LinearOrder K]

theorem truthy_iff (x : K) : truthy x = true ↔ x ≠ 0 := by
  unfold truthy; simp

theorem truthy_eq (x : K) : truthy x = decide (x ≠ 0) := by
  unfold truthy; by_cases h : x = 0 <;> simp [h]

theorem truthy_false_iff (x : K) : ¬ (truthy x = true) ↔ x = 0 := by
  rw [truthy_iff, not_not]

theorem imposeSupport_snd (C : Consts K) (index : List Int) (xs ws : List K) :
    (imposeSupport C index xs ws).2 = normalize C (keptW index ws) ws.sum false 1 := by
  unfold imposeSupport keptW
  simp only [lsum_eq]

/-- the `len(..) == 0` guard of `expectation` / `_expected_moment` fails for heavy weights of non-zero sum -/
theorem heavy_filter_ne_zero {X : Type} (xs : List X) (w : List K) (tol : K)
    (hs : ((heavy xs w tol).map (·.2)).sum ≠ 0) : ¬ (w.filter fun wi => decide (tol < absR wi)).length = 0 := by
  intro h0
  have hnil : heavy xs w tol = [] := by
    unfold heavy
    rw [List.filter_eq_nil_iff]
    intro p hp
    simpa using List.filter_eq_nil_iff.mp (List.length_eq_zero_iff.mp h0) p.2 (List.of_mem_zip hp).2
  exact hs (by rw [hnil]; rfl)

theorem medianSel_map {f : K → K} (hf : StrictMono f) (xs : List K) (ws : Option (List K)) :
    medianSel (xs.map f) ws = (medianSel xs ws).map f := by
  unfold medianSel
  simp only [pairsOf_map_fst, sortPairs_map hf, map_fst_map_prodMap, map_snd_map_prodMap, List.length_map,
    sel_map f (fun t => decide (lsum ((sortPairs (pairsOf xs ws)).map (·.2)) / 2 - t ≤ 0)), List.map_take]

end

variable {K : Type} [Field K] [LinearOrder K] [IsStrictOrderedRing K]

theorem absR_eq (x : K) : absR x = |x| := ite_neg_eq_abs x

/-- with `tol = 0` the cut `0.0 if abs(s) <= tol else s` is the identity -/
theorem cut_zero (s : K) : (if absR s ≤ 0 then 0 else s) = s := by
  rw [absR_eq, ite_eq_right_iff]
  exact fun h => (abs_nonpos_iff.mp h).symm

theorem mean_weighted (C : Consts K) (xs ws : List K) (h : ws.sum ≠ 0) :
    mean C xs (some ws) 0 = wsum xs ws / ws.sum := by
  unfold mean wsum
  simp only [lsum_eq, if_pos ((truthy_iff _).mpr h), cut_zero]

theorem mean_plain (C : Consts K) (xs : List K) :
    mean C xs none 0 = xs.sum / (xs.length : K) := by
  unfold mean
  simp only [lsum_eq, if_pos ((truthy_iff (1 : K)).mpr one_ne_zero), cut_zero, div_one]

theorem mean_eq (C : Consts K) (xs : List K) (ws : Option (List K)) (h : Valid xs ws) :
    mean C xs ws 0 = gmean xs ws := by
  cases ws with
  | none => exact mean_plain C xs
  | some w => exact mean_weighted C xs w h.2

theorem moment_eq (C : Consts K) (xs : List K) (ws : Option (List K)) (n : Nat) (h : Valid xs ws) (hn : 2 ≤ n) :
    moment C xs ws n 0 = gmom xs ws n := by
  unfold moment gmom
  rw [if_neg (Nat.ne_of_gt (lt_of_lt_of_le Nat.zero_lt_two hn)), if_neg (Nat.ne_of_gt (lt_of_lt_of_le Nat.one_lt_two hn)),
    mean_eq C _ ws (h.map _), mean_eq C xs ws h]
  simp only [powN_eq]

theorem gmean_map_add_const (xs : List K) (ws : Option (List K)) (c : K) (h : Valid xs ws) :
    gmean (xs.map (· + c)) ws = gmean xs ws + c := by
  cases ws with
  | none =>
    have hl : (xs.length : K) ≠ 0 := Nat.cast_ne_zero.mpr fun e => h (List.eq_nil_of_length_eq_zero e)
    simp only [gmean, sum_map_add_const, List.length_map, add_div, mul_div_cancel_left₀ c hl]
  | some w =>
    simp only [gmean, wsum_map_add_const xs w c h.1, add_div, mul_div_assoc, div_self h.2, mul_one]

theorem gmom_map_add_const (xs : List K) (ws : Option (List K)) (c : K) (n : Nat) (h : Valid xs ws) :
    gmom (xs.map (· + c)) ws n = gmom xs ws n := by
  unfold gmom
  simp only [gmean_map_add_const xs ws c h, List.map_map]
  congr 1
  apply List.map_congr_left; intro x _
  simp only [Function.comp, add_sub_add_right_eq_sub]

theorem spread_nonneg (xs : List K) : 0 ≤ spread xs := by
  cases xs with
  | nil => exact le_refl _
  | cons x t =>
    exact sub_nonneg.mpr (le_trans ((pymin_spec x t).2 x List.mem_cons_self) ((pymax_spec x t).2 x List.mem_cons_self))

theorem spread_map_add_const (xs : List K) (c : K) : spread (xs.map (· + c)) = spread xs := by
  cases xs with
  | nil => rfl
  | cons x xs =>
    have hm : Monotone (fun t : K => t + c) := add_left_strictMono.monotone
    simp only [List.map_cons, spread, pymaxFrom_eq, pyminFrom_eq]
    simp only [foldl_max_map hm, foldl_min_map hm, add_sub_add_right_eq_sub]

theorem spread_map_mul_const (xs : List K) (s : K) (hs : 0 ≤ s) : spread (xs.map (· * s)) = spread xs * s := by
  cases xs with
  | nil => exact (zero_mul s).symm
  | cons x xs =>
    have hm : Monotone (fun t : K => t * s) := fun a b h => mul_le_mul_of_nonneg_right h hs
    simp only [List.map_cons, spread, pymaxFrom_eq, pyminFrom_eq]
    simp only [foldl_max_map hm, foldl_min_map hm, sub_mul]

theorem abs_sum_le (ws : List K) : |ws.sum| ≤ (ws.map fun x => |x|).sum := by
  induction ws with
  | nil => exact abs_zero.le
  | cons w ws ih =>
    rw [List.sum_cons, List.map_cons, List.sum_cons]
    exact le_trans (abs_add_le _ _) (add_le_add_right ih _)

theorem sum_abs_ne_zero (ws : List K) (h : ws.sum ≠ 0) : (ws.map absR).sum ≠ 0 := by
  intro h0
  rw [List.map_congr_left (fun x _ => absR_eq x)] at h0
  exact h (abs_nonpos_iff.mp (h0 ▸ abs_sum_le ws))

theorem normalize_eq (C : Consts K) (ws : List K) (mass zmass : K) (zsum : Bool)
    (hs : ws.sum ≠ 0) (hz : mass ≠ 0 ∨ zsum = false) :
    normalize C ws mass zsum zmass = ws.map (fun w => mass * w / ws.sum) := by
  have hW := sum_abs_ne_zero ws hs
  have hc : (truthy mass || !zsum) = true := by
    rcases hz with h | h
    · rw [(truthy_iff mass).mpr h]; rfl
    · rw [h]; exact Bool.or_true _
  have hM : (ws.map (· / (ws.map absR).sum)).sum ≠ 0 := by
    rw [sum_map_div_right]; exact div_ne_zero hs hW
  unfold normalize
  simp only [lsum_eq, if_pos ((truthy_iff _).mpr hW), if_pos hc, if_pos ((truthy_iff _).mpr hM), List.map_map]
  apply List.map_congr_left; intro w _
  simp only [Function.comp, sum_map_div_right, mul_div_assoc', div_div_div_cancel_right₀ hW]

theorem normalize_sum (C : Consts K) (ws : List K) (mass zmass : K) (zsum : Bool)
    (hs : ws.sum ≠ 0) (hz : mass ≠ 0 ∨ zsum = false) :
    (normalize C ws mass zsum zmass).sum = mass := by
  simp only [normalize_eq C ws mass zmass zsum hs hz, sum_map_mul_div, mul_div_cancel_right₀ mass hs]

theorem normalize_length (C : Consts K) (ws : List K) (mass zmass : K) (zsum : Bool)
    (hs : ws.sum ≠ 0) (hz : mass ≠ 0 ∨ zsum = false) : (normalize C ws mass zsum zmass).length = ws.length := by
  simp only [normalize_eq C ws mass zmass zsum hs hz, List.length_map]

theorem imposeSupport_weights (C : Consts K) (index : List Int) (xs ws : List K)
    (hk : (keptW index ws).sum ≠ 0) :
    (imposeSupport C index xs ws).2 =
      mapIdx ws fun i w => if inIndex ws.length index i = true then ws.sum * w / (keptW index ws).sum else 0 := by
  rw [imposeSupport_snd, normalize_eq C _ _ _ _ hk (Or.inr rfl)]
  unfold keptW
  rw [mapIdx_map]
  simp only [mul_ite, ite_div, mul_zero, zero_div]

theorem shift_strictMono (c : K) : StrictMono (· + c) := add_left_strictMono

theorem scale_strictMono {s : K} (hs : 0 < s) : StrictMono (· * s) := strictMono_mul_right_of_pos hs

theorem meanUpTo2_shift (C : Consts K) (c : K) (l : List K) (h : l ≠ []) :
    meanUpTo2 C (l.map (· + c)) = meanUpTo2 C l + c := by
  match l, h with
  | [a], _ => rfl
  | a :: b :: t, _ => simp only [List.map_cons, meanUpTo2]; ring

theorem median_shift (C : Consts K) (c : K) (xs : List K) (ws : Option (List K)) (h : medianSel xs ws ≠ []) :
    median C (xs.map (· + c)) ws = median C xs ws + c := by
  unfold median
  simp only [medianSel_map (shift_strictMono c), meanUpTo2_shift C c _ h]

end MysticVerif.Meas
