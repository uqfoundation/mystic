/- `Model/Penalty.lean` over an ordered field: what `term` adds per type and its sign (`level_sign`), the multiplier
loops, `stored(i)`, the conditions of the combinators -/
import MysticVerif.Model.Penalty
import Mathlib.Algebra.Order.Field.Basic
import Mathlib.Algebra.Order.Ring.Abs
import Mathlib.Algebra.BigOperators.Group.Finset.Basic
import Mathlib.Algebra.Order.BigOperators.Group.List

-- lemmas carry their section's instances, used or not
set_option linter.unusedSectionVars false

namespace MysticVerif.C15
open MysticVerif.Pen

/-- the idealisation under which the theorems read the scalar operations of the code:
`pow(h, n)` is the integer power, `x**2` is `x*x`, `abs` is the absolute value -/
class LawfulPenOps (K : Type) [Field K] [LinearOrder K] [PenOps K] : Prop where
  powi_eq : ∀ (a : K) (n : Int), PenOps.powi a n = a ^ n
  sq_eq : ∀ a : K, PenOps.sq a = a * a
  abs_eq : ∀ a : K, PenOps.abs a = |a|

/-- `x**0.5` is the non-negative square root (needed by the `error` theorems only) -/
class LawfulRoot (K : Type) [Field K] [LinearOrder K] [PenOps K] : Prop where
  root_nonneg : ∀ a : K, 0 ≤ a → 0 ≤ PenOps.root a
  root_mul_self : ∀ a : K, 0 ≤ a → PenOps.root a * PenOps.root a = a

section stored
variable {R : Type} [OfNat R 0]

theorem storedAt_nil (i : Int) : storedAt ([] : List R) i = 0 := by
  rw [storedAt]
  by_cases h : 0 ≤ i
  · rw [if_pos h]; rfl
  · rw [if_neg h]; by_cases h' : -(([] : List R).length : Int) ≤ i
    · rw [if_pos h']; rfl
    · rw [if_neg h']

theorem storedAt_natCast (y : List R) (i : Nat) : storedAt y (i : Int) = y[i]?.getD 0 := by
  rw [storedAt, if_pos (Int.natCast_nonneg i), Int.toNat_natCast]

theorem storedAt_concat (y : List R) (c : R) (i : Nat) :
    storedAt (y ++ [c]) (i : Int) = if i = y.length then c else storedAt y (i : Int) := by
  rw [storedAt_natCast, storedAt_natCast, List.getElem?_append]
  rcases Nat.lt_trichotomy i y.length with h | h | h
  · rw [if_pos h, if_neg h.ne]
  · rw [if_neg h.not_lt, if_pos h, h, Nat.sub_self]; rfl
  · rw [if_neg (Nat.lt_asymm h), if_neg h.ne', List.getElem?_eq_none (Nat.sub_pos_of_lt h), List.getElem?_eq_none h.le]

theorem storedAt_pad (y : List R) (g i : Nat) :
    storedAt (y ++ List.replicate g 0) (i : Int) = storedAt y (i : Int) := by
  rw [storedAt_natCast, storedAt_natCast, List.getElem?_append]
  split
  · rfl
  · rename_i h
    rw [List.getElem?_eq_none (not_lt.mp h), List.getElem?_replicate]
    split <;> rfl

theorem storedAt_set (y : List R) (m : Nat) (v : R) (hm : m < y.length) (i : Nat) :
    storedAt (y.set m v) (i : Int) = if m = i then v else storedAt y (i : Int) := by
  rw [storedAt_natCast, storedAt_natCast, List.getElem?_set, if_pos hm]
  split <;> rfl

end stored

section order
variable {K : Type} [LinearOrder K]

theorem pyMax_eq (a b : K) : pyMax a b = max a b := by
  unfold pyMax
  split
  · rename_i h; exact (max_eq_right (le_of_lt h)).symm
  · rename_i h; exact (max_eq_left (not_lt.mp h)).symm

theorem pyMin_eq (a b : K) : pyMin a b = min a b := by
  unfold pyMin
  split
  · rename_i h; exact (min_eq_right (le_of_lt h)).symm
  · rename_i h; exact (min_eq_left (not_lt.mp h)).symm

theorem orCond_eq_foldl_min (v : K) (vals : List K) : orCond v vals = vals.foldl min v := by
  rw [orCond, show (pyMin : K → K → K) = min from funext₂ pyMin_eq]

theorem orCond_zero_iff [Zero K] (vals : List K) (v : K) (hv : 0 ≤ v) (h0 : ∀ u ∈ vals, 0 ≤ u) :
    0 ≤ orCond v vals ∧ (orCond v vals = 0 ↔ v = 0 ∨ ∃ u ∈ vals, u = 0) := by
  induction vals generalizing v with
  | nil => simp [orCond, hv]
  | cons a vs ih =>
    obtain ⟨ha, hvs⟩ := List.forall_mem_cons.mp h0
    obtain ⟨h1, h2⟩ := ih (min v a) (le_min hv ha) hvs
    have hmin : min v a = 0 ↔ v = 0 ∨ a = 0 := by
      rcases le_total v a with hle | hle
      · rw [min_eq_left hle]
        exact ⟨Or.inl, fun h => h.elim id fun h => le_antisymm (h ▸ hle) hv⟩
      · rw [min_eq_right hle]
        exact ⟨Or.inr, fun h => h.elim (fun h => le_antisymm (h ▸ hle) ha) id⟩
    rw [orCond, List.foldl_cons, pyMin_eq, ← orCond]
    refine ⟨h1, ?_⟩
    rw [h2, hmin, List.exists_mem_cons_iff, or_assoc]

end order

theorem mapIdx_const {α β : Type} (g : α → β) (ls : List α) : List.mapIdx (fun _ l => g l) ls = List.map g ls := by
  induction ls with
  | nil => rfl
  | cons l ls ih => rw [List.mapIdx_cons, List.map_cons, ih]

theorem onFrom_map {R : Type} (g : Level R → Level R) : ∀ (ls : List (Level R)) (j : Nat),
    onFrom j (List.map g) ls = ls.mapIdx (fun idx l => if j ≤ idx then g l else l) := by
  intro ls
  induction ls with
  | nil => intro j; simp [onFrom]
  | cons l ls ih =>
    intro j
    cases j with
    | zero => simp [onFrom, List.mapIdx_cons, mapIdx_const]
    | succ j =>
      have := ih j
      simp only [onFrom, List.take_succ_cons, List.drop_succ_cons, List.cons_append] at this ⊢
      rw [this, List.mapIdx_cons]
      simp

variable {K : Type} [Field K] [LinearOrder K] [IsStrictOrderedRing K]

/-- the condition is satisfied: `== 0` for equality types, `<= 0` for inequality types -/
def satisfied (t : PType) (c : K) : Prop := if t.isEq = true then c = 0 else c ≤ 0

/-- the six types whose documented formula adds nothing on the feasible set -/
def conforming (t : PType) : Prop :=
  t = .qEq ∨ t = .lEq ∨ t = .uEq ∨ t = .uIneq ∨ t = .qIneq ∨ t = .lIneq

theorem satisfied_eq {t : PType} (h : t.isEq = true) (c : K) : satisfied t c ↔ c = 0 := by
  rw [satisfied, if_pos h]

theorem satisfied_ineq {t : PType} (h : t.isEq = false) (c : K) : satisfied t c ↔ c ≤ 0 := by
  rw [satisfied, if_neg (by rw [h]; exact Bool.false_ne_true)]

/-- the six conforming types share one shape: the multiplier `k * h ^ n` times a charge that vanishes exactly
where the condition is satisfied -/
def charge (t : PType) (c : K) : K :=
  match t with
  | .qEq => c ^ 2
  | .lEq => |c|
  | .uEq => if c = 0 then 0 else 1
  | .uIneq => if 0 < c then 1 else 0
  | .qIneq => 2 * (max 0 c) ^ 2
  | .lIneq => 2 * max 0 c
  | _ => 0

theorem charge_sign {t : PType} (hconf : conforming t) (c : K) :
    0 ≤ charge t c ∧ (charge t c = 0 ↔ satisfied t c) := by
  rcases hconf with rfl | rfl | rfl | rfl | rfl | rfl
  · exact ⟨sq_nonneg c, by rw [satisfied_eq rfl]; exact sq_eq_zero_iff⟩
  · exact ⟨abs_nonneg c, by rw [satisfied_eq rfl]; exact abs_eq_zero⟩
  · rw [satisfied_eq rfl, charge]
    by_cases hc : c = 0
    · rw [if_pos hc]; exact ⟨le_refl 0, iff_of_true rfl hc⟩
    · rw [if_neg hc]; exact ⟨zero_le_one, iff_of_false one_ne_zero hc⟩
  · rw [satisfied_ineq rfl, charge]
    by_cases hc : 0 < c
    · rw [if_pos hc]; exact ⟨zero_le_one, iff_of_false one_ne_zero (not_le.mpr hc)⟩
    · rw [if_neg hc]; exact ⟨le_refl 0, iff_of_true rfl (not_lt.mp hc)⟩
  · refine ⟨mul_nonneg zero_le_two (sq_nonneg _), ?_⟩
    simp only [satisfied_ineq (t := .qIneq) rfl, charge, mul_eq_zero, sq_eq_zero_iff, max_eq_left_iff,
      OfNat.ofNat_ne_zero, false_or]
  · refine ⟨mul_nonneg zero_le_two (le_max_left 0 c), ?_⟩
    simp only [satisfied_ineq (t := .lIneq) rfl, charge, mul_eq_zero, max_eq_left_iff, OfNat.ofNat_ne_zero, false_or]

/-- the inequality multiplier loop without its division: `β ← max 0 (β + 2k·stored(i))`, `k ← k·h` -/
def betaLoop (h : K) (y : List K) : (m : Nat) → (i : Nat) → (beta : K) → (k : K) → K × K
  | 0, _, beta, k => (beta, k)
  | m + 1, i, beta, k => betaLoop h y m (i + 1) (max 0 (beta + 2 * k * storedAt y (i : Int))) (k * h)

theorem lagIneq_step (beta k s : K) (hk : 0 < k) :
    beta + 2 * k * max (-beta / (2 * k)) s = max 0 (beta + 2 * k * s) := by
  have h2 : (0 : K) < 2 * k := mul_pos two_pos hk
  -- `2k * max(-beta/(2k), s) = max(-beta, 2k*s)`, then `beta` goes inside the `max`
  rw [mul_max_of_nonneg _ _ h2.le, mul_div_cancel₀ _ h2.ne', ← max_add_add_left, add_neg_cancel]

theorem betaLoop_snd (h : K) (y : List K) (m i : Nat) (beta k : K) : (betaLoop h y m i beta k).2 = k * h ^ m := by
  induction m generalizing i beta k with
  | zero => rw [betaLoop, pow_zero, mul_one]
  | succ m ih => rw [betaLoop, ih, pow_succ']; exact mul_assoc k h _

theorem betaLoop_nonneg (h : K) (y : List K) (m i : Nat) (beta k : K) (hb : 0 ≤ beta) :
    0 ≤ (betaLoop h y m i beta k).1 := by
  induction m generalizing i beta k with
  | zero => exact hb
  | succ m ih => rw [betaLoop]; exact ih _ _ _ (le_max_left _ _)

/-- unfolds the LAST iteration (the definition unfolds the first) -/
theorem betaLoop_succ (h : K) (y : List K) (m i : Nat) (b q : K) :
    betaLoop h y (m + 1) i b q =
      (max 0 ((betaLoop h y m i b q).1 + 2 * (betaLoop h y m i b q).2 * storedAt y ((i + m : Nat) : Int)),
       (betaLoop h y m i b q).2 * h) := by
  induction m generalizing i b q with
  | zero => rfl
  | succ m ih =>
    rw [betaLoop, ih, Nat.add_right_comm i 1 m]
    rfl

theorem betaLoop_congr (h : K) (y y' : List K) (m i : Nat) (b q : K)
    (hy : ∀ j, i ≤ j → j < i + m → storedAt y (j : Int) = storedAt y' (j : Int)) :
    betaLoop h y m i b q = betaLoop h y' m i b q := by
  induction m generalizing i b q with
  | zero => rfl
  | succ m ih =>
    rw [betaLoop, betaLoop, hy i (le_refl _) (Nat.lt_add_of_pos_right m.succ_pos)]
    exact ih _ _ _ fun j h1 h2 => hy j (Nat.le_of_succ_le h1) (Nat.add_right_comm i 1 m ▸ h2)

theorem sum_nonneg_zero_iff (l : List K) (h : ∀ v ∈ l, 0 ≤ v) : 0 ≤ l.sum ∧ (l.sum = 0 ↔ ∀ v ∈ l, v = 0) :=
  ⟨List.sum_nonneg h, List.all_zero_of_le_zero_le_of_sum_eq_zero h, List.sum_eq_zero⟩

variable [PenOps K] [LawfulPenOps K]

theorem pyPow_ok (h : K) (n : Int) (hp : ¬ (h = 0 ∧ n < 0)) : pyPow h n = .ok (h ^ n) := by
  unfold pyPow
  rw [if_neg (by simpa using hp), LawfulPenOps.powi_eq]

theorem pyPow_err (h : K) (n : Int) (hp : h = 0 ∧ n < 0) : pyPow h n = .error .zerodiv := by
  unfold pyPow
  rw [if_pos (by simpa using hp)]

theorem pyDiv_ok (a b : K) (hb : b ≠ 0) : pyDiv a b = .ok (a / b) := by
  unfold pyDiv
  rw [if_neg (by simpa using hb)]

theorem pyDiv_err (a : K) : pyDiv a (0 : K) = .error .zerodiv := by
  unfold pyDiv
  rw [if_pos (by simp)]

theorem evalStack_cons_add {l : Level K} {c a v fx : K} {rest : List (Level K × Option K)}
    (ht : term l c = .ok (.add a)) (hr : evalStack rest fx = .ok v) :
    evalStack ((l, some c) :: rest) fx = .ok (a + v) := by
  simp only [evalStack, ht, hr]

theorem evalStack_cons_stop {l : Level K} {c v fx : K} {rest : List (Level K × Option K)}
    (ht : term l c = .ok (.stop v)) : evalStack ((l, some c) :: rest) fx = .ok v := by
  simp only [evalStack, ht]

theorem evalStack_single_add {l : Level K} {c a : K} (fx : K) (ht : term l c = .ok (.add a)) :
    evalStack [(l, some c)] fx = .ok (a + fx) :=
  evalStack_cons_add ht rfl

theorem term_qEq {l : Level K} (ht : l.t = .qEq) (c : K) (hp : ¬ (l.h = 0 ∧ l.n < 0)) :
    term l c = .ok (.add (l.k * l.h ^ l.n * c ^ 2)) := by
  simp only [term, ht, pyPow_ok l.h l.n hp, LawfulPenOps.sq_eq, pow_two]

theorem term_lEq {l : Level K} (ht : l.t = .lEq) (c : K) (hp : ¬ (l.h = 0 ∧ l.n < 0)) :
    term l c = .ok (.add (l.k * l.h ^ l.n * |c|)) := by
  simp only [term, ht, pyPow_ok l.h l.n hp, LawfulPenOps.abs_eq]

/-- `pow(h, n)` is evaluated only where the penalty applies (`... if pf else 0.0`) -/
theorem term_uEq {l : Level K} (ht : l.t = .uEq) (c : K) (hp : c ≠ 0 → ¬ (l.h = 0 ∧ l.n < 0)) :
    term l c = .ok (.add (if c = 0 then 0 else l.k * l.h ^ l.n)) := by
  by_cases hc : c = 0
  · simp [term, ht, hc]
  · simp [term, ht, hc, pyPow_ok l.h l.n (hp hc)]

theorem term_uIneq {l : Level K} (ht : l.t = .uIneq) (c : K) (hp : 0 < c → ¬ (l.h = 0 ∧ l.n < 0)) :
    term l c = .ok (.add (if 0 < c then l.k * l.h ^ l.n else 0)) := by
  by_cases hc : 0 < c
  · simp [term, ht, hc, pyPow_ok l.h l.n (hp hc)]
  · simp [term, ht, hc]

theorem term_qIneq {l : Level K} (ht : l.t = .qIneq) (c : K) (hp : ¬ (l.h = 0 ∧ l.n < 0)) :
    term l c = .ok (.add (2 * l.k * l.h ^ l.n * (max 0 c) ^ 2)) := by
  simp only [term, ht, pyPow_ok l.h l.n hp, LawfulPenOps.sq_eq, pyMax_eq, pow_two, mul_assoc]

theorem term_lIneq {l : Level K} (ht : l.t = .lIneq) (c : K) (hp : ¬ (l.h = 0 ∧ l.n < 0)) :
    term l c = .ok (.add (2 * l.k * l.h ^ l.n * max 0 c)) := by
  simp only [term, ht, pyPow_ok l.h l.n hp, LawfulPenOps.abs_eq, pyMax_eq, abs_of_nonneg (le_max_left 0 c),
    mul_assoc]

theorem term_barrier_viol {l : Level K} (ht : l.t = .barrier) (c : K) (hc : 0 < c) :
    term l c = .ok (.stop PenOps.inf) := by
  simp [term, ht, hc]

theorem term_barrier_sat {l : Level K} (ht : l.t = .barrier) (c : K) (hc : c ≤ 0) (hp : ¬ (l.h = 0 ∧ l.n < 0))
    (hk : l.k * l.h ^ l.n ≠ 0) :
    term l c = .ok (.add (-1 / (2 * (l.k * l.h ^ l.n)) * PenOps.log (-c))) := by
  simp only [term, ht, not_lt.mpr hc, if_false, pyPow_ok l.h l.n hp, pyDiv_ok _ _ hk]
  rw [neg_div, div_div, ← neg_div]

theorem term_conforming (l : Level K) (c : K) (hconf : conforming l.t) (hp : ¬ (l.h = 0 ∧ l.n < 0)) :
    term l c = .ok (.add (l.k * l.h ^ l.n * charge l.t c)) := by
  rcases hconf with ht | ht | ht | ht | ht | ht <;> simp only [ht, charge]
  · exact term_qEq ht c hp
  · exact term_lEq ht c hp
  · rw [term_uEq ht c fun _ => hp, mul_ite, mul_zero, mul_one]
  · rw [term_uIneq ht c fun _ => hp, mul_ite, mul_zero, mul_one]
  · rw [term_qIneq ht c hp, mul_assoc 2, mul_assoc 2, mul_left_comm]
  · rw [term_lIneq ht c hp, mul_assoc 2, mul_assoc 2, mul_left_comm]

theorem level_sign (l : Level K) (c : K) (hconf : conforming l.t) (hk : 0 < l.k) (hh : 0 < l.h) :
    ∃ a, term l c = .ok (.add a) ∧ 0 ≤ a ∧ (a = 0 ↔ satisfied l.t c) ∧ (0 < a ↔ ¬ satisfied l.t c) := by
  have hm : 0 < l.k * l.h ^ l.n := mul_pos hk (zpow_pos hh l.n)
  have h0 : 0 ≤ l.k * l.h ^ l.n * charge l.t c := mul_nonneg hm.le (charge_sign hconf c).1
  have hz : l.k * l.h ^ l.n * charge l.t c = 0 ↔ satisfied l.t c :=
    mul_eq_zero.trans ((or_iff_right hm.ne').trans (charge_sign hconf c).2)
  exact ⟨_, term_conforming l c hconf fun h0 => hh.ne' h0.1, h0, hz, h0.lt_iff_ne'.trans (not_congr hz)⟩

theorem stack_sign (ps : List (Level K × K)) (fx : K) (h : ∀ p ∈ ps, conforming p.1.t ∧ 0 < p.1.k ∧ 0 < p.1.h) :
    ∃ d, evalStack (ps.map fun p => (p.1, some p.2)) fx = .ok (d + fx) ∧ 0 ≤ d ∧
      (d = 0 ↔ ∀ p ∈ ps, satisfied p.1.t p.2) := by
  induction ps with
  | nil => exact ⟨0, by rw [zero_add]; rfl, le_refl 0, iff_of_true rfl fun _ hp => absurd hp List.not_mem_nil⟩
  | cons p ps ih =>
    obtain ⟨⟨h1, h2, h3⟩, hps⟩ := List.forall_mem_cons.mp h
    obtain ⟨a, hta, ha0, hz, _⟩ := level_sign p.1 p.2 h1 h2 h3
    obtain ⟨d, hd, hd0, hdz⟩ := ih hps
    refine ⟨a + d, ?_, add_nonneg ha0 hd0, ?_⟩
    · rw [List.map_cons, evalStack_cons_add hta hd, add_assoc]
    · rw [add_eq_zero_iff_of_nonneg ha0 hd0, hz, hdz, List.forall_mem_cons]

theorem lagEqLoop_eq (h : K) (y : List K) (m i : Nat) (lam k : K) :
    lagEqLoop h y m i lam k =
      (lam + ∑ j ∈ Finset.range m, 2 * (k * h ^ j) * storedAt y ((i + j : Nat) : Int), k * h ^ m) := by
  induction m generalizing i lam k with
  | zero => rw [lagEqLoop, Finset.sum_range_zero, add_zero, pow_zero, mul_one]
  | succ m ih =>
    -- split off the summand `j = 0`; the rest agrees up to associativity
    rw [lagEqLoop, ih, Finset.sum_range_succ', pow_zero, mul_one, add_assoc, add_comm (2 * k * _)]
    simp only [pow_succ', mul_assoc, Nat.add_assoc, Nat.add_comm 1, Nat.add_zero]

theorem lagIneqLoop_eq (h : K) (y : List K) (hh : 0 < h) (m i : Nat) (beta k : K) (hk : 0 < k) :
    lagIneqLoop h y m i beta k = .ok (betaLoop h y m i beta k) := by
  induction m generalizing i beta k with
  | zero => rfl
  | succ m ih =>
    rw [lagIneqLoop, pyDiv_ok _ _ (mul_pos two_pos hk).ne']
    simp only
    rw [ih _ _ _ (mul_pos hk hh), betaLoop, pyMax_eq, lagIneq_step beta k _ hk]

theorem term_lagEq {l : Level K} (ht : l.t = .lagEq) (c : K) :
    term l c = .ok (.add (l.k * l.h ^ l.n.toNat * c ^ 2
      + (∑ i ∈ Finset.range l.n.toNat, 2 * l.k * l.h ^ i * storedAt l.y (i : Int)) * c)) := by
  simp only [term, ht, lagEqLoop_eq, LawfulPenOps.sq_eq, zero_add, pow_two, mul_assoc]

theorem term_lagIneq {l : Level K} (ht : l.t = .lagIneq) (c : K) (hk : 0 < l.k) (hh : 0 < l.h) :
    term l c =
      .ok (.add (l.k * l.h ^ l.n.toNat
          * (max (-(betaLoop l.h l.y l.n.toNat 0 0 l.k).1 / (2 * (l.k * l.h ^ l.n.toNat))) c) ^ 2
        + (betaLoop l.h l.y l.n.toNat 0 0 l.k).1
          * max (-(betaLoop l.h l.y l.n.toNat 0 0 l.k).1 / (2 * (l.k * l.h ^ l.n.toNat))) c)) := by
  have h2 : 2 * (l.k * l.h ^ l.n.toNat) ≠ 0 := (mul_pos two_pos (mul_pos hk (pow_pos hh _))).ne'
  simp only [term, ht, lagIneqLoop_eq l.h l.y hh _ _ _ _ hk, betaLoop_snd, pyDiv_ok _ _ h2, pyMax_eq,
    LawfulPenOps.sq_eq, pow_two]

theorem root_sq_eq_abs [LawfulRoot K] (v : K) : PenOps.root (PenOps.sq v) = |v| := by
  rw [LawfulPenOps.sq_eq]
  have h0 : (0 : K) ≤ v * v := mul_self_nonneg v
  have h3 : PenOps.root (v * v) * PenOps.root (v * v) = |v| * |v| := by
    rw [LawfulRoot.root_mul_self _ h0, abs_mul_abs_self]
  exact (mul_self_inj_of_nonneg (LawfulRoot.root_nonneg _ h0) (abs_nonneg v)).mp h3

theorem zip_eq_iff {α : Type} (cx x : List α) (h : cx.length = x.length) :
    (∀ p ∈ List.zip cx x, p.1 = p.2) ↔ cx = x := by
  induction cx generalizing x with
  | nil =>
    cases x with
    | nil => simp
    | cons _ _ => simp at h
  | cons a cx ih =>
    cases x with
    | nil => simp at h
    | cons b x =>
      simp only [List.zip_cons_cons, List.mem_cons, forall_eq_or_imp, ih x (by simpa using h), List.cons.injEq]

/-- python `sum` as a left fold from `0.0` -/
theorem rnorm_fold (l : List (K × K)) : ∀ a : K,
    l.foldl (fun acc p => acc + PenOps.sq (p.1 - p.2)) a = a + (l.map fun p => (p.1 - p.2) * (p.1 - p.2)).sum := by
  induction l with
  | nil => intro a; simp
  | cons p l ih =>
    intro a
    rw [List.foldl_cons, ih, LawfulPenOps.sq_eq, List.map_cons, List.sum_cons, add_assoc]

theorem andCond_eq_sum (vals : List K) : andCond vals = vals.sum := List.sum_eq_foldl.symm

theorem satisfied_notCond_ineq {t : PType} (h : t.isEq = false) (c : K) : satisfied t (notCond t c) ↔ 0 ≤ c := by
  rw [satisfied_ineq h, notCond, if_neg (by rw [h]; exact Bool.false_ne_true), zero_sub, neg_nonpos]

theorem satisfied_notCond_eq {t : PType} (h : t.isEq = true) (c : K) : satisfied t (notCond t c) ↔ c ≠ 0 := by
  rw [satisfied_eq h, notCond, if_pos h]
  by_cases hc : c = 0 <;> simp [hc]

end MysticVerif.C15
