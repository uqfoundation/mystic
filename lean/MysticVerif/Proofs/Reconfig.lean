/- what survives reconfiguration: each iteration runs under its own objective and only appends to the evaluation monitor -/
import MysticVerif.Model.Reconfig
import MysticVerif.Proofs.Solver

namespace MysticVerif.Solver

variable {X E : Type}

/-- DE and DE2 iterations are the same function of the state -/
theorem DE.genStep_eq [LinearOrder E] (g : DEGen X E) (s : DE X E) :
    DE.genStep g s = DE.step1 g.o g.trials { s with pop := g.pre s.pop } := by
  unfold DE.genStep
  split
  · exact DE.step2_eq_step1 _ _ _
  · rfl

theorem DE.runCfg_cons [LT E] [DecidableLT E] (g : DEGen X E) (gs : List (DEGen X E)) (s : DE X E) :
    DE.runCfg (g :: gs) s = DE.runCfg gs (DE.genStep g s) := rfl

theorem DE.genStep_appended [LinearOrder E] (g : DEGen X E) (s : DE X E) :
    Appended g.o s.log (DE.genStep g s).log := by
  rw [DE.genStep_eq]
  exact DE.step1_appended g.o g.trials _

theorem DE.genStep_bestE_le [LinearOrder E] (g : DEGen X E) (s : DE X E) : (DE.genStep g s).bestE ≤ s.bestE := by
  rw [DE.genStep_eq]
  exact DE.step1_bestE_le g.o g.trials _

theorem DE.genStep_stepLog [LinearOrder E] (g : DEGen X E) (s : DE X E) :
    (DE.genStep g s).stepLog = s.stepLog ++ [((DE.genStep g s).best, (DE.genStep g s).bestE)] := by
  rw [DE.genStep_eq]
  exact DE.step1_stepLog g.o g.trials _

/-- "this point carries this energy legitimately under SOME objective of the family `S`" (all with the same `inf`) -/
def GoodAny (S : Obj X E → Prop) (T : E) (log : List (X × E)) (y : X) (e : E) : Prop :=
  e ≠ T → ∃ o, S o ∧ e = o.add (o.raw y) (o.pen y) ∧ (y, o.raw y) ∈ log ∧ o.K y = y ∧
    (o.useRange = true → o.inBox y = true)

theorem GoodAny.mono {S : Obj X E → Prop} {T : E} {log log' : List (X × E)} {y : X} {e : E}
    (h : GoodAny S T log y e) (hsub : ∀ p ∈ log, p ∈ log') : GoodAny S T log' y e := by
  intro he
  obtain ⟨o, ho, h1, h2, h3, h4⟩ := h he
  exact ⟨o, ho, h1, hsub _ h2, h3, h4⟩

theorem Good.toAny {S : Obj X E → Prop} {o : Obj X E} (ho : S o) {log : List (X × E)} {y : X} {e : E}
    (h : Good o log y e) : GoodAny S o.top log y e := by
  intro he
  obtain ⟨h1, h2, h3, h4⟩ := h he
  exact ⟨o, ho, h1, h2, h3, h4⟩

theorem DE.candidates1_bestAny [LinearOrder E] {S : Obj X E → Prop} {o : Obj X E} (h : Hyp o) (ho : S o) :
    ∀ (ts : List X) (i : Nat) (s : DE X E), GoodAny S o.top s.log s.best s.bestE →
      GoodAny S o.top (DE.candidates1 o ts i s).log (DE.candidates1 o ts i s).best (DE.candidates1 o ts i s).bestE :=
  DE.candidates1_induction o (fun s => GoodAny S o.top s.log s.best s.bestE) fun s t i hs => by
    rw [DE.select_log]
    rcases DE.select_best_cases { s with log := (o.objK t s.log).2 } i (o.K t) (o.objK t s.log).1 with hc | hc
    · rw [hc.1, hc.2]
      exact hs.mono (objK_appended o t s.log).subset
    · rw [hc.1, hc.2.1]
      exact (objAt_good h t s.log).toAny ho

theorem DE.genStep_bestAny [LinearOrder E] {S : Obj X E → Prop} (g : DEGen X E) (h : Hyp g.o) (ho : S g.o)
    (s : DE X E) (hs : GoodAny S g.o.top s.log s.best s.bestE) :
    GoodAny S g.o.top (DE.genStep g s).log (DE.genStep g s).best (DE.genStep g s).bestE := by
  rw [DE.genStep_eq]
  exact DE.candidates1_bestAny h ho g.trials 0 _ hs

end MysticVerif.Solver
