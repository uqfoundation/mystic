/- the history helpers `applyM / lastAllEq / cycHit / dropOld` shared by Model/Combinators and Model/CombinatorsX, and
the invariant `LenInv` on the length of the history under the periodic `del x[:n]` (core Lean only) -/
import MysticVerif.Model.Combinators

namespace MysticVerif.Comb

variable {X : Type}

theorem applyM_of_some {c : X → Option X} {x y : X} (h : c x = some y) : applyM c x = (y, false) := by
  unfold applyM; rw [h]

theorem lastAllEq_iff [BEq X] [LawfulBEq X] (k : Nat) (l : List X) (y : X) :
    lastAllEq k l y = true ↔ ∀ m, m < k → ∀ a, l[m]? = some a → a = y := by
  unfold lastAllEq
  rw [List.all_eq_true]
  constructor
  · intro h m hm a ha
    have hmem : a ∈ l.take k := by
      rw [List.mem_iff_getElem?]
      exact ⟨m, by rw [List.getElem?_take]; simp [hm, ha]⟩
    simpa using h a hmem
  · intro h a ha
    rw [List.mem_iff_getElem?] at ha
    obtain ⟨m, hm⟩ := ha
    rw [List.getElem?_take] at hm
    split at hm
    · simpa using h m (by assumption) a hm
    · simp at hm

theorem lastAllEq_cons [BEq X] (k : Nat) (a : X) (l : List X) (y : X) :
    lastAllEq (k + 1) (a :: l) y = (a == y && lastAllEq k l y) := rfl

theorem lastAllEq_replicate_append [BEq X] [LawfulBEq X] (k s : Nat) (l : List X) (y : X) :
    lastAllEq k (List.replicate s y ++ l) y = lastAllEq (k - s) l y := by
  unfold lastAllEq
  rw [List.take_append, List.all_append, List.length_replicate, List.take_replicate, List.all_replicate]
  simp

theorem cycHit_replicate_append [BEq X] [LawfulBEq X] {n s : Nat} {y : X} {l : List X} (hs : s < n)
    (hl : l[n - 1 - s]? ≠ some y) : cycHit n (List.replicate s y ++ l) y = false := by
  unfold cycHit
  rw [List.getElem?_append_right (by rw [List.length_replicate]; exact Nat.le_sub_one_of_lt hs), List.length_replicate]
  cases hz : l[n - 1 - s]? with
  | none => rfl
  | some z => exact beq_eq_false_iff_ne.mpr fun h => hl (h ▸ hz)

theorem dropOld_length (n j : Nat) (l : List X) :
    (dropOld n j l).length = if j % (2 * n) = 0 then l.length - n else l.length := by
  unfold dropOld; split <;> simp

/-- lower bounds on the length `L` of `top :: h` before iteration `j` of the cycling phase: one entry per iteration
since the last `del x[:n]`, which leaves `n + 1` entries -/
def LenInv (n j L : Nat) : Prop :=
  n + 1 ≤ L ∧ j % (2 * n) + 1 ≤ L ∧ (j % (2 * n) = 0 → 2 * n + 1 ≤ L)

theorem LenInv.init {n : Nat} (hn : 0 < n) : LenInv n n (n + 1) := by
  unfold LenInv
  rw [Nat.mod_eq_of_lt (Nat.two_mul n ▸ Nat.lt_add_of_pos_left hn : n < 2 * n)]
  exact ⟨Nat.le_refl _, Nat.le_refl _, fun h => absurd h (Nat.ne_of_gt hn)⟩

theorem LenInv.step {n j : Nat} {l : List X} (hn : 0 < n) (h : LenInv n j l.length) :
    LenInv n (j + 1) ((dropOld n j l).length + 1) := by
  have h1 : 1 < 2 * n := Nat.two_mul n ▸ Nat.add_le_add hn hn
  have hm := @Nat.add_mod_eq_ite (2 * n) j 1
  have hlt : j % (2 * n) < 2 * n := Nat.mod_lt _ (Nat.lt_trans Nat.one_pos h1)
  rw [Nat.mod_eq_of_lt h1] at hm
  unfold LenInv at h ⊢
  rw [dropOld_length]
  generalize (j + 1) % (2 * n) = m' at hm ⊢
  generalize j % (2 * n) = m at hm hlt h ⊢
  by_cases h0 : m = 0
  · rw [if_pos h0]
    rw [if_neg (by omega)] at hm
    omega
  · rw [if_neg h0]
    by_cases hw : 2 * n ≤ m + 1
    · rw [if_pos hw] at hm; omega
    · rw [if_neg hw] at hm; omega

end MysticVerif.Comb
