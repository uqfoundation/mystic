/-
Helper lemmas for the "applied pair collapse" part of C11 (Model/CollapseApply.lean): invariants of
`tools.connected` (groups stay pairwise disjoint as long as no pair joins two existing groups, every processed pair
lies inside one group) and of the tie phase of `impose_as` (every member of a group receives the ORIGINAL value at
the group's key when the groups are disjoint).
-/
import MysticVerif.Model.CollapseApply

namespace MysticVerif.Clps

/-- two groups share no index -/
def DisjG (a b : Grp) : Prop := ∀ m, inGrp a m = true → inGrp b m = false

/-- the groups of a dict are pairwise disjoint (as `{key} ∪ members`) -/
def Disj (coll : Groups) : Prop := coll.Pairwise DisjG

/-- every index mentioned by the dict is a position of a vector of length `n` -/
def InR (n : Nat) (coll : Groups) : Prop := ∀ g ∈ coll, ∀ m, inGrp g m = true → m < n

theorem DisjG.symm {a b : Grp} (h : DisjG a b) : DisjG b a := by
  intro m hm
  cases hb : inGrp a m with
  | false => rfl
  | true => have := h m hb; simp [hm] at this

theorem inGrp_iff (g : Grp) (m : Nat) : inGrp g m = true ↔ m = g.1 ∨ m ∈ g.2 := by simp [inGrp]

theorem inGrp_key (g : Grp) : inGrp g g.1 = true := (inGrp_iff g g.1).2 (.inl rfl)

theorem inGrp_of_mem {g : Grp} {m : Nat} (h : m ∈ g.2) : inGrp g m = true := (inGrp_iff g m).2 (.inr h)

/-- the group `i: {j}` that `connected` opens for a pair found nowhere -/
theorem inGrp_pair {a b m : Nat} : inGrp (a, [b]) m = true ↔ m = a ∨ m = b := by
  rw [inGrp_iff, List.mem_singleton]

theorem inGrp_addTo {g : Grp} {a m : Nat} : inGrp (g.1, addTo g.2 a) m = true ↔ inGrp g m = true ∨ m = a := by
  have hmem : m ∈ addTo g.2 a ↔ m ∈ g.2 ∨ m = a := by
    unfold addTo
    split
    · next h => exact ⟨.inl, fun h' => h'.elim id fun e => e ▸ List.mem_of_elem_eq_true h⟩
    · exact List.mem_append.trans (or_congr_right List.mem_singleton)
  rw [inGrp_iff, inGrp_iff, hmem, or_assoc]

-- `case1` .. `case4` of `fun_induction connStep`: empty dict; the group holds `i` (takes `j`); holds `j` only
-- (takes `i`); holds neither

theorem connStep_notfound (coll : Groups) (i j : Nat) (h : (connStep coll i j).2 = false) :
    (connStep coll i j).1 = coll ∧ ∀ g ∈ coll, inGrp g i = false ∧ inGrp g j = false := by
  fun_induction connStep coll i j with
  | case1 => exact ⟨rfl, fun _ hg => nomatch hg⟩
  | case2 => cases h
  | case3 => cases h
  | case4 g rest i j h1 h2 ih =>
    obtain ⟨ih1, ih2⟩ := ih h
    refine ⟨congrArg (g :: ·) ih1, fun g' hg' => ?_⟩
    rcases List.mem_cons.1 hg' with rfl | hr
    · exact ⟨Bool.eq_false_iff.mpr h1, Bool.eq_false_iff.mpr h2⟩
    · exact ih2 g' hr

theorem connStep_mono (coll : Groups) (i j : Nat) (g : Grp) (hg : g ∈ coll) :
    ∃ g' ∈ (connStep coll i j).1, ∀ m, inGrp g m = true → inGrp g' m = true := by
  fun_induction connStep coll i j with
  | case1 => cases hg
  | case2 g0 rest i j _ | case3 g0 rest i j _ _ =>
    rcases List.mem_cons.1 hg with rfl | hr
    · exact ⟨_, List.mem_cons_self, fun m hm => inGrp_addTo.mpr (.inl hm)⟩
    · exact ⟨g, List.mem_cons_of_mem _ hr, fun _ hm => hm⟩
  | case4 g0 rest i j _ _ ih =>
    rcases List.mem_cons.1 hg with rfl | hr
    · exact ⟨g, List.mem_cons_self, fun _ hm => hm⟩
    · obtain ⟨g', hg', hm⟩ := ih hr
      exact ⟨g', List.mem_cons_of_mem _ hg', hm⟩

theorem connStep_pair (coll : Groups) (i j : Nat) (h : (connStep coll i j).2 = true) :
    ∃ g' ∈ (connStep coll i j).1, inGrp g' i = true ∧ inGrp g' j = true := by
  fun_induction connStep coll i j with
  | case1 => cases h
  | case2 g rest i j h1 => exact ⟨_, List.mem_cons_self, inGrp_addTo.mpr (.inl h1), inGrp_addTo.mpr (.inr rfl)⟩
  | case3 g rest i j _ h2 => exact ⟨_, List.mem_cons_self, inGrp_addTo.mpr (.inr rfl), inGrp_addTo.mpr (.inl h2)⟩
  | case4 g rest i j _ _ ih =>
    obtain ⟨g', hg', hm⟩ := ih h
    exact ⟨g', List.mem_cons_of_mem _ hg', hm⟩

theorem connStep_sub (coll : Groups) (i j : Nat) (g' : Grp) (hg' : g' ∈ (connStep coll i j).1) (m : Nat)
    (hm : inGrp g' m = true) : m = i ∨ m = j ∨ ∃ g ∈ coll, inGrp g m = true := by
  fun_induction connStep coll i j with
  | case1 => cases hg'
  | case2 g0 rest i j _ =>
    rcases List.mem_cons.1 hg' with rfl | hr
    · rcases inGrp_addTo.mp hm with h | h
      · exact .inr (.inr ⟨g0, List.mem_cons_self, h⟩)
      · exact .inr (.inl h)
    · exact .inr (.inr ⟨g', List.mem_cons_of_mem _ hr, hm⟩)
  | case3 g0 rest i j _ _ =>
    rcases List.mem_cons.1 hg' with rfl | hr
    · rcases inGrp_addTo.mp hm with h | h
      · exact .inr (.inr ⟨g0, List.mem_cons_self, h⟩)
      · exact .inl h
    · exact .inr (.inr ⟨g', List.mem_cons_of_mem _ hr, hm⟩)
  | case4 g0 rest i j _ _ ih =>
    rcases List.mem_cons.1 hg' with rfl | hr
    · exact .inr (.inr ⟨g', List.mem_cons_self, hm⟩)
    · rcases ih hr with h | h | ⟨g, hg, h⟩
      · exact .inl h
      · exact .inr (.inl h)
      · exact .inr (.inr ⟨g, List.mem_cons_of_mem _ hg, h⟩)

theorem bridges_of {coll : Groups} {i j : Nat} {g h : Grp} (hg : g ∈ coll) (hgi : inGrp g i = true)
    (hgj : inGrp g j = false) (hh : h ∈ coll) (hhj : inGrp h j = true) : bridges coll i j = true := by
  rw [bridges, Bool.and_eq_true, List.any_eq_true, List.any_eq_true]
  exact ⟨⟨g, hg, by rw [hgi, hgj]; rfl⟩, h, hh, hhj⟩

theorem connStep_disj (coll : Groups) (i j : Nat) (hd : Disj coll) (hb : bridges coll i j = false) :
    Disj (connStep coll i j).1 := by
  fun_induction connStep coll i j with
  | case1 => exact List.Pairwise.nil
  | case2 g0 rest i j h1 =>
    -- another group that held `j` would have been bridged, or was not disjoint from `g0`
    have hd' := List.pairwise_cons.1 hd
    refine List.pairwise_cons.2 ⟨fun h hh m hm => ?_, hd'.2⟩
    rcases inGrp_addTo.mp hm with hm | rfl
    · exact hd'.1 h hh m hm
    · refine Bool.eq_false_iff.mpr fun hhj => ?_
      cases hgj : inGrp g0 m with
      | true => exact Bool.false_ne_true ((hd'.1 h hh m hgj).symm.trans hhj)
      | false =>
        exact Bool.false_ne_true (hb.symm.trans
          (bridges_of List.mem_cons_self h1 hgj (List.mem_cons_of_mem _ hh) hhj))
  | case3 g0 rest i j h1 h2 =>
    -- another group that held `i` does not hold `j` (disjoint from `g0`): it would have been bridged
    have hd' := List.pairwise_cons.1 hd
    refine List.pairwise_cons.2 ⟨fun h hh m hm => ?_, hd'.2⟩
    rcases inGrp_addTo.mp hm with hm | rfl
    · exact hd'.1 h hh m hm
    · refine Bool.eq_false_iff.mpr fun hhi => ?_
      exact Bool.false_ne_true (hb.symm.trans
        (bridges_of (List.mem_cons_of_mem _ hh) hhi (hd'.1 h hh j h2) List.mem_cons_self h2))
  | case4 g0 rest i j h1 h2 ih =>
    have hd' := List.pairwise_cons.1 hd
    have h1 := Bool.eq_false_iff.mpr h1
    have h2 := Bool.eq_false_iff.mpr h2
    replace hb : bridges rest i j = false := by
      simpa only [bridges, List.any_cons, h1, h2, Bool.false_and, Bool.false_or] using hb
    refine List.pairwise_cons.2 ⟨fun h' hh' m hm => Bool.eq_false_iff.mpr fun hh'm => ?_, ih hd'.2 hb⟩
    rcases connStep_sub rest i j h' hh' m hh'm with rfl | rfl | ⟨g, hg, h⟩
    · exact Bool.false_ne_true (h1.symm.trans hm)
    · exact Bool.false_ne_true (h2.symm.trans hm)
    · exact Bool.false_ne_true ((hd'.1 g hg m hm).symm.trans h)

theorem connAdd_found {coll : Groups} {p : Nat × Nat} (h : (connStep coll p.1 p.2).2 = true) :
    connAdd coll p = (connStep coll p.1 p.2).1 := by simp [connAdd, h]

theorem connAdd_notfound {coll : Groups} {p : Nat × Nat} (h : ¬ (connStep coll p.1 p.2).2 = true) :
    connAdd coll p = coll ++ [(p.1, [p.2])] := by simp [connAdd, h]

theorem connAdd_disj (coll : Groups) (p : Nat × Nat) (hd : Disj coll) (hb : bridges coll p.1 p.2 = false) :
    Disj (connAdd coll p) := by
  by_cases hf : (connStep coll p.1 p.2).2 = true
  · rw [connAdd_found hf]; exact connStep_disj coll p.1 p.2 hd hb
  · rw [connAdd_notfound hf]
    have hn := (connStep_notfound coll p.1 p.2 (Bool.eq_false_iff.mpr hf)).2
    refine List.pairwise_append.2 ⟨hd, List.pairwise_singleton _ _, ?_⟩
    intro g hg g' hg' m hm
    cases List.mem_singleton.mp hg'
    refine Bool.eq_false_iff.mpr fun hx => ?_
    rcases inGrp_pair.mp hx with rfl | rfl
    · exact Bool.false_ne_true ((hn g hg).1.symm.trans hm)
    · exact Bool.false_ne_true ((hn g hg).2.symm.trans hm)

theorem connAdd_mono (coll : Groups) (p : Nat × Nat) : ∀ g ∈ coll,
    ∃ g' ∈ connAdd coll p, ∀ m, inGrp g m = true → inGrp g' m = true := by
  intro g hg
  by_cases hf : (connStep coll p.1 p.2).2 = true
  · rw [connAdd_found hf]; exact connStep_mono coll p.1 p.2 g hg
  · rw [connAdd_notfound hf]; exact ⟨g, List.mem_append_left _ hg, fun _ h => h⟩

theorem connAdd_pair (coll : Groups) (p : Nat × Nat) :
    ∃ g' ∈ connAdd coll p, inGrp g' p.1 = true ∧ inGrp g' p.2 = true := by
  by_cases hf : (connStep coll p.1 p.2).2 = true
  · rw [connAdd_found hf]; exact connStep_pair coll p.1 p.2 hf
  · rw [connAdd_notfound hf]
    exact ⟨(p.1, [p.2]), List.mem_append_right _ List.mem_cons_self, inGrp_pair.mpr (.inl rfl),
      inGrp_pair.mpr (.inr rfl)⟩

theorem foldl_connAdd_disj (pairs : List (Nat × Nat)) (coll : Groups) (hd : Disj coll)
    (hb : noBridgeFrom coll pairs = true) : Disj (pairs.foldl connAdd coll) := by
  induction pairs generalizing coll with
  | nil => exact hd
  | cons p ps ih =>
    simp only [noBridgeFrom, Bool.and_eq_true, Bool.not_eq_true'] at hb
    exact ih _ (connAdd_disj coll p hd hb.1) hb.2

/-- for EVERY iteration order: each processed pair lies inside one group (groups only grow) -/
theorem foldl_connAdd_pair (pairs : List (Nat × Nat)) (coll : Groups) :
    (∀ g ∈ coll, ∃ g' ∈ pairs.foldl connAdd coll, ∀ m, inGrp g m = true → inGrp g' m = true)
      ∧ (∀ p ∈ pairs, ∃ g' ∈ pairs.foldl connAdd coll, inGrp g' p.1 = true ∧ inGrp g' p.2 = true) := by
  induction pairs generalizing coll with
  | nil => exact ⟨fun g hg => ⟨g, hg, fun _ h => h⟩, fun p hp => nomatch hp⟩
  | cons p ps ih =>
    replace ih := ih (connAdd coll p)
    rw [List.foldl_cons]
    refine ⟨?_, ?_⟩
    · intro g hg
      obtain ⟨g1, hg1, h1⟩ := connAdd_mono coll p g hg
      obtain ⟨g2, hg2, h2⟩ := ih.1 g1 hg1
      exact ⟨g2, hg2, fun m hm => h2 m (h1 m hm)⟩
    · intro q hq
      rcases List.mem_cons.1 hq with rfl | hq
      · obtain ⟨g1, hg1, h1⟩ := connAdd_pair coll q
        obtain ⟨g2, hg2, h2⟩ := ih.1 g1 hg1
        exact ⟨g2, hg2, h2 _ h1.1, h2 _ h1.2⟩
      · exact ih.2 q hq

/-- for EVERY iteration order: the groups mention nothing but members of the pairs (and of the initial dict) -/
theorem foldl_connAdd_sub (pairs : List (Nat × Nat)) (coll : Groups) (g' : Grp) (hg' : g' ∈ pairs.foldl connAdd coll)
    (m : Nat) (hm : inGrp g' m = true) : (∃ g ∈ coll, inGrp g m = true) ∨ ∃ p ∈ pairs, m = p.1 ∨ m = p.2 := by
  induction pairs generalizing coll with
  | nil => exact .inl ⟨g', hg', hm⟩
  | cons p ps ih =>
    rcases ih (connAdd coll p) hg' with ⟨g1, hg1, h1⟩ | ⟨q, hq, h⟩
    · by_cases hf : (connStep coll p.1 p.2).2 = true
      · rw [connAdd_found hf] at hg1
        rcases connStep_sub coll p.1 p.2 g1 hg1 m h1 with h | h | ⟨g, hg, h⟩
        · exact .inr ⟨p, List.mem_cons_self, .inl h⟩
        · exact .inr ⟨p, List.mem_cons_self, .inr h⟩
        · exact .inl ⟨g, hg, h⟩
      · rw [connAdd_notfound hf] at hg1
        rcases List.mem_append.1 hg1 with h | h
        · exact .inl ⟨g1, h, h1⟩
        · cases List.mem_singleton.mp h
          exact .inr ⟨p, List.mem_cons_self, inGrp_pair.mp h1⟩
    · exact .inr ⟨q, List.mem_cons_of_mem _ hq, h⟩

theorem connected_disj {pairs : List (Nat × Nat)} (hb : noBridge pairs = true) : Disj (connected pairs) :=
  foldl_connAdd_disj pairs [] List.Pairwise.nil hb

theorem connected_sub (pairs : List (Nat × Nat)) {g : Grp} (hg : g ∈ connected pairs) {m : Nat}
    (hm : inGrp g m = true) : ∃ p ∈ pairs, m = p.1 ∨ m = p.2 :=
  (foldl_connAdd_sub pairs [] g hg m hm).resolve_left fun ⟨_, h0, _⟩ => nomatch h0

theorem connected_inR {n : Nat} {pairs : List (Nat × Nat)} (hr : ∀ p ∈ pairs, p.1 < n ∧ p.2 < n) :
    InR n (connected pairs) := by
  intro g hg m hm
  obtain ⟨p, hp, h | h⟩ := connected_sub pairs hg hm
  · exact h ▸ (hr p hp).1
  · exact h ▸ (hr p hp).2

variable {R : Type}

theorem tieGrp_length (g : Grp) (x : List R) : (tieGrp g x).length = x.length := by
  unfold tieGrp
  induction g.2 generalizing x with
  | nil => rfl
  | cons m v ih =>
    rw [List.foldl_cons, ih]
    split
    · exact List.length_set
    · rfl

theorem tieAll_cons (g : Grp) (rest : Groups) (x : List R) : tieAll (g :: rest) x = tieAll rest (tieGrp g x) := rfl

theorem tieAll_length (coll : Groups) (x : List R) : (tieAll coll x).length = x.length := by
  induction coll generalizing x with
  | nil => rfl
  | cons g rest ih => rw [tieAll_cons, ih, tieGrp_length]

/-- one group: every member takes the value at the key (the key keeps it, also when it is its own member) -/
theorem tieGrp_get (g : Grp) (x : List R) (hk : g.1 < x.length) (p : Nat) (hp : p < x.length) :
    (tieGrp g x)[p]? = if p ∈ g.2 then x[g.1]? else x[p]? := by
  unfold tieGrp
  induction g.2 generalizing x with
  | nil => rfl
  | cons m v ih =>
    have hxk : x[g.1]? = some x[g.1] := List.getElem?_eq_getElem hk
    have hkk : (x.set m x[g.1])[g.1]? = some x[g.1] := by
      rw [List.getElem?_set]
      split
      · next hmk => rw [if_pos (hmk ▸ hk)]
      · exact hxk
    rw [List.foldl_cons, hxk]
    simp only
    rw [ih (x.set m x[g.1]) (by rwa [List.length_set]) (by rwa [List.length_set]), hkk, ← hxk]
    by_cases hc : p ∈ v
    · rw [if_pos hc, if_pos (List.mem_cons_of_mem _ hc)]
    · rw [if_neg hc, List.getElem?_set]
      by_cases hmp : m = p
      · rw [if_pos hmp, if_pos (hmp ▸ hp), if_pos (hmp ▸ List.mem_cons_self), hxk]
      · rw [if_neg hmp, if_neg (List.not_mem_cons_of_ne_of_not_mem (Ne.symm hmp) hc)]

/-- positions that are a member of no group keep their value -/
theorem tieAll_frame (coll : Groups) (x : List R) (hr : InR x.length coll) (p : Nat) (hp : p < x.length)
    (hn : ∀ g ∈ coll, p ∉ g.2) : (tieAll coll x)[p]? = x[p]? := by
  induction coll generalizing x with
  | nil => rfl
  | cons g rest ih =>
    have hl := tieGrp_length g x
    rw [tieAll_cons,
      ih (tieGrp g x) (by rw [hl]; exact fun h hh => hr h (List.mem_cons_of_mem _ hh)) (by rw [hl]; exact hp)
        (fun h hh => hn h (List.mem_cons_of_mem _ hh)),
      tieGrp_get g x (hr g List.mem_cons_self g.1 (inGrp_key g)) p hp, if_neg (hn g List.mem_cons_self)]

/-- disjoint groups, all indices in range: every member of a group ends with the ORIGINAL value at the group's key -/
theorem tieAll_group (coll : Groups) (x : List R) (hd : Disj coll) (hr : InR x.length coll) (g : Grp) (hg : g ∈ coll)
    (m : Nat) (hm : inGrp g m = true) : (tieAll coll x)[m]? = x[g.1]? := by
  induction coll generalizing x with
  | nil => cases hg
  | cons g0 rest ih =>
    have hd' := List.pairwise_cons.1 hd
    have hk0 : g0.1 < x.length := hr g0 List.mem_cons_self g0.1 (inGrp_key g0)
    have hl := tieGrp_length g0 x
    have hr' : InR (tieGrp g0 x).length rest := by
      rw [hl]; exact fun h hh => hr h (List.mem_cons_of_mem _ hh)
    have hmr : m < x.length := hr g hg m hm
    rw [tieAll_cons]
    rcases List.mem_cons.1 hg with rfl | hgr
    · -- the first group: later groups do not touch its members
      rw [tieAll_frame rest (tieGrp g x) hr' m (by rw [hl]; exact hmr) fun h hh hc =>
          Bool.false_ne_true ((hd'.1 h hh m hm).symm.trans (inGrp_of_mem hc)),
        tieGrp_get g x hk0 m hmr]
      by_cases hc : m ∈ g.2
      · rw [if_pos hc]
      · rw [if_neg hc, ((inGrp_iff g m).1 hm).resolve_right hc]
    · -- a later group: the first group does not touch its key
      rw [ih (tieGrp g0 x) hd'.2 hr' hgr, tieGrp_get g0 x hk0 g.1 (hr g hg g.1 (inGrp_key g)),
        if_neg fun hc => Bool.false_ne_true (((hd'.1 g hgr).symm g.1 (inGrp_key g)).symm.trans (inGrp_of_mem hc))]

theorem bridges_single (g : Grp) (i j : Nat) : bridges [g] i j = false := by
  simp only [bridges, List.any_cons, List.any_nil, Bool.or_false]
  cases inGrp g i <;> cases inGrp g j <;> rfl

theorem connAdd_single (g : Grp) (p : Nat × Nat) (h : inGrp g p.1 = true ∨ inGrp g p.2 = true) :
    ∃ g', connAdd [g] p = [g'] ∧ inGrp g' p.1 = true ∧ inGrp g' p.2 = true
      ∧ ∀ m, inGrp g m = true → inGrp g' m = true := by
  cases h1 : inGrp g p.1 with
  | true =>
    refine ⟨(g.1, addTo g.2 p.2), ?_, inGrp_addTo.mpr (.inl h1), inGrp_addTo.mpr (.inr rfl),
      fun m hm => inGrp_addTo.mpr (.inl hm)⟩
    rw [connAdd, connStep, if_pos h1]
    rfl
  | false =>
    have h2 : inGrp g p.2 = true := h.resolve_left (h1 ▸ Bool.false_ne_true)
    refine ⟨(g.1, addTo g.2 p.1), ?_, inGrp_addTo.mpr (.inr rfl), inGrp_addTo.mpr (.inl h2),
      fun m hm => inGrp_addTo.mpr (.inl hm)⟩
    rw [connAdd, connStep, if_neg (Bool.eq_false_iff.mp h1), if_pos h2]
    rfl

/-- a component grown pair by pair stays ONE group, and one group cannot be bridged -/
theorem grown_noBridgeFrom (ps : List (Nat × Nat)) (g : Grp) (seen : List Nat)
    (hs : ∀ a ∈ seen, inGrp g a = true) (hg : grown seen ps = true) : noBridgeFrom [g] ps = true := by
  induction ps generalizing g seen with
  | nil => rfl
  | cons p ps ih =>
    simp only [grown, Bool.and_eq_true, Bool.or_eq_true, List.contains_eq_mem, decide_eq_true_eq] at hg
    have ht : inGrp g p.1 = true ∨ inGrp g p.2 = true := hg.1.imp (hs _) (hs _)
    obtain ⟨g', he, h1, h2, hmono⟩ := connAdd_single g p ht
    simp only [noBridgeFrom, bridges_single, Bool.not_false, Bool.true_and, he]
    refine ih g' (p.1 :: p.2 :: seen) ?_ hg.2
    intro a ha
    rcases List.mem_cons.1 ha with rfl | ha
    · exact h1
    · rcases List.mem_cons.1 ha with rfl | ha
      · exact h2
      · exact hmono a (hs a ha)

theorem grown_of_star (c : Nat) (ps : List (Nat × Nat)) (seen : List Nat) (hc : c ∈ seen)
    (hs : ∀ p ∈ ps, p.1 = c ∨ p.2 = c) : grown seen ps = true := by
  induction ps generalizing seen with
  | nil => rfl
  | cons p ps ih =>
    simp only [grown, Bool.and_eq_true, Bool.or_eq_true, List.contains_eq_mem, decide_eq_true_eq]
    refine ⟨?_, ih _ (List.mem_cons_of_mem _ (List.mem_cons_of_mem _ hc))
      (fun q hq => hs q (List.mem_cons_of_mem _ hq))⟩
    rcases hs p List.mem_cons_self with h | h
    · exact .inl (h ▸ hc)
    · exact .inr (h ▸ hc)

end MysticVerif.Clps
