/-
Helper lemmas for the shape logic of distance.py (Model/MeasuresX.lean, `NArr`): for the documented forms
(two 2-D arrays with `pair=False`; `pair=True`; two 1-D arrays promoted by `dmin=2`) `absolute_distance` is the
coordinate-wise absolute difference of the addressed pair of points, and the reductions along the coordinate axis are
the per-pair metrics of Model/Measures.lean.
-/
import MysticVerif.Proofs.MeasuresX

-- the three `rfl` statements below carry an instance binder they do not use
set_option linter.unusedSectionVars false

namespace MysticVerif.Meas

@[simp] theorem bdim_self (a : Nat) : bdim a a = some a := if_pos rfl

@[simp] theorem bdim_one_right (a : Nat) : bdim a 1 = some a := by
  unfold bdim; rw [if_pos (rfl : (1 : Nat) = 1), ite_self]

@[simp] theorem bdim_one_left (b : Nat) : bdim 1 b = some b := by
  unfold bdim
  by_cases h : b = 1
  · rw [if_pos h.symm, h]
  · rw [if_neg (Ne.symm h), if_neg h, if_pos rfl]

/-- `bindex` reads index 0 along an axis of length 1; an index in range is left alone -/
theorem bcastIdx_of_lt (d c : Nat) (h : c < d) : (if d = 1 then 0 else c) = c := by
  split
  · omega
  · rfl

theorem allIdx_one (d : Nat) : allIdx [d] = (List.range d).map fun i => [i] := List.map_eq_flatMap.symm

section
variable {K : Type}

/-- the `i`-th point (row) of a 2-D array with `d` coordinates -/
def row (g : List Nat → K) (d i : Nat) : List K := (List.range d).map fun c => g [i, c]

/-- a 1-D array as one point -/
def vec (g : List Nat → K) (d : Nat) : List K := (List.range d).map fun c => g [c]

theorem bzip_eq_some (f : K → K → K) (a b : NArr K) (s : List Nat) (h : bshape a.shape b.shape = some s) :
    bzip f a b = some ⟨s, fun ix => f (a.get (bindex a.shape ix)) (b.get (bindex b.shape ix))⟩ := by
  unfold bzip; rw [h]; rfl

theorem any_fin_notfin_eq_false (fin : K → Bool) (as bs : List K) (hb : ∀ b ∈ bs, fin b = true) :
    (List.zipWith (fun a b => fin a && !fin b) as bs).any id = false := by
  induction as generalizing bs with
  | nil => rfl
  | cons a as ih =>
    cases bs with
    | nil => rfl
    | cons b bs =>
      rw [List.zipWith_cons_cons, List.any_cons, ih bs fun b' hb' => hb b' (List.mem_cons_of_mem _ hb'),
        id, hb b List.mem_cons_self]
      simp

theorem overflowed_of_finite (fin : K → Bool) (d t s : NArr K)
    (ht : ∀ a ∈ t.ravel, fin a = true) (hs : ∀ a ∈ s.ravel, fin a = true) : overflowed fin d t s = false := by
  unfold overflowed
  rw [any_fin_notfin_eq_false fin _ _ ht, List.all_eq_true.mpr hs]
  simp

theorem resolveAxis_nat (D : NArr K) (s : List Nat) (hs : D.shape = s) (ax : Nat) (h : ax < s.length) :
    resolveAxis D.ndim (some (ax : Int)) = some (some ax) := by
  have h0 : s.length ≠ 0 := by omega
  simp only [NArr.ndim, hs, resolveAxis, normAxis, if_neg h0, Int.natCast_nonneg, if_true, Nat.cast_lt, h,
    Int.toNat_natCast, Option.map_some]

theorem emptyLane_some (D : NArr K) (s : List Nat) (hs : D.shape = s) (ax : Nat) (h : 0 < s.getD ax 0) :
    emptyLane D (some ax) = false := by
  simp only [emptyLane, hs, beq_eq_false_iff_ne]; omega

theorem reduceWith_map (op : List K → K) (f g : K → K) (D : NArr K) (k : Option Nat) :
    (reduceWith op (D.map f) k).map g = reduceWith (fun l => g (op (l.map f))) D k := by
  cases k with
  | none => simp only [reduceWith, NArr.map, NArr.ravel, List.map_map]; rfl
  | some ax => simp only [reduceWith, NArr.map, lane, List.map_map]; rfl

end

variable {K : Type} [Field K] [LinearOrder K] [IsStrictOrderedRing K]

theorem absoluteDistance_eq (x xp : NArr K) (pair : Bool) (dmin k : Nat)
    (hk : max (max x.ndim xp.ndim) dmin = k) :
    absoluteDistance x xp pair dmin =
      if pair = true then (bzip (fun a b => absR (a - b)) (x.promote k).T (xp.promote k).T).map NArr.T
      else bzip (fun a b => absR (a - b)) ((x.promote k).T.newaxisAt k) ((xp.promote k).T.newaxisAt (k - 1)) := by
  subst hk; rfl

/-- `pair=False` once both arguments are promoted to `n` resp. `m` points: `(d, n, 1)` and `(d, 1, m)` broadcast -/
theorem absDist_outer (x xp : NArr K) (dmin : Nat) (gx gy : List Nat → K) (n m d : Nat)
    (hk : max (max x.ndim xp.ndim) dmin = 2) (hx : x.promote 2 = ⟨[n, d], gx⟩)
    (hxp : xp.promote 2 = ⟨[m, d], gy⟩) :
    ∃ D, absoluteDistance x xp false dmin = some D ∧ D.shape = [d, n, m] ∧
      ∀ c i j, c < d → i < n → j < m → D.get [c, i, j] = |gx [i, c] - gy [j, c]| := by
  have hs : bshape [d, n, 1] [d, 1, m] = some [d, n, m] := by
    show (bshapeRev [1, n, d] [m, 1, d]).map List.reverse = _
    simp only [bshapeRev, bdim_one_left, bdim_one_right, bdim_self, Option.bind_some, Option.map_some]
    rfl
  rw [absoluteDistance_eq x xp false dmin 2 hk, if_neg Bool.false_ne_true, hx, hxp]
  -- literal shapes: `bindex` then meets `[d, n, 1]`, not an unevaluated `(x.T.newaxisAt 2).shape`
  show ∃ D, bzip _ ⟨[d, n, 1], _⟩ ⟨[d, 1, m], _⟩ = some D ∧ _
  refine ⟨_, bzip_eq_some _ _ _ _ hs, rfl, fun c i j hc hi hj => ?_⟩
  show absR (gx [if n = 1 then 0 else i, if d = 1 then 0 else c] -
    gy [if m = 1 then 0 else j, if d = 1 then 0 else c]) = _
  rw [bcastIdx_of_lt d c hc, bcastIdx_of_lt n i hi, bcastIdx_of_lt m j hj, absR_eq]

/-- `pair=True` on two 2-D arrays; for `m = 1` the one point on the right is broadcast -/
theorem absDist_rows (gx gy : List Nat → K) (n m d dmin : Nat) (hd : dmin ≤ 2) (hb : bdim n m = some n) :
    ∃ D, absoluteDistance ⟨[n, d], gx⟩ ⟨[m, d], gy⟩ true dmin = some D ∧ D.shape = [n, d] ∧
      ∀ i c, i < n → c < d → D.get [i, c] = |gx [i, c] - gy [if m = 1 then 0 else i, c]| := by
  have hs : bshape [d, n] [d, m] = some [d, n] := by
    show (bshapeRev [n, d] [m, d]).map List.reverse = _
    simp only [bshapeRev, hb, bdim_self, Option.bind_some, Option.map_some]
    rfl
  rw [absoluteDistance_eq ⟨[n, d], gx⟩ ⟨[m, d], gy⟩ true dmin 2 (max_eq_left hd), if_pos rfl]
  show ∃ D, (bzip _ ⟨[d, n], _⟩ ⟨[d, m], _⟩).map NArr.T = some D ∧ _
  refine ⟨_, congrArg _ (bzip_eq_some _ _ _ _ hs), rfl, fun i c hi hc => ?_⟩
  show absR (gx [if n = 1 then 0 else i, if d = 1 then 0 else c] -
    gy [if m = 1 then 0 else i, if d = 1 then 0 else c]) = _
  rw [bcastIdx_of_lt d c hc, bcastIdx_of_lt n i hi, absR_eq]

/-- two 1-D points with `pair=True`: no promotion -/
theorem absDist_points (gx gy : List Nat → K) (d dmin : Nat) (hd : dmin ≤ 1) :
    ∃ D, absoluteDistance ⟨[d], gx⟩ ⟨[d], gy⟩ true dmin = some D ∧ D.shape = [d] ∧
      ∀ c, c < d → D.get [c] = |gx [c] - gy [c]| := by
  have hs : bshape [d] [d] = some [d] := by
    show (bshapeRev [d] [d]).map List.reverse = _
    simp only [bshapeRev, bdim_self, Option.bind_some, Option.map_some]
    rfl
  rw [absoluteDistance_eq ⟨[d], gx⟩ ⟨[d], gy⟩ true dmin 1 (max_eq_left hd), if_pos rfl]
  show ∃ D, (bzip _ ⟨[d], _⟩ ⟨[d], _⟩).map NArr.T = some D ∧ _
  refine ⟨_, congrArg _ (bzip_eq_some _ _ _ _ hs), rfl, fun c hc => ?_⟩
  show absR (gx [if d = 1 then 0 else c] - gy [if d = 1 then 0 else c]) = _
  rw [bcastIdx_of_lt d c hc, absR_eq]

/-- chebyshev's per-lane operation: builtin `max` of a non-empty lane, `0` on the empty one -/
def chebOf (l : List K) : K :=
  match l with
  | [] => 0
  | d :: ds => pymaxFrom d ds

/-- in a field no value is a NaN, so numpy's `max` is the builtin one -/
theorem npmaxL_eq (l : List K) : npmaxL l = chebOf l := by
  have step : ∀ m x : K, npmax2 m x = if m < x then x else m := fun m x => by unfold npmax2; simp
  cases l with
  | nil => rfl
  | cons x t =>
    show t.foldl npmax2 x = pymaxFrom x t
    induction t generalizing x with
    | nil => rfl
    | cons y t ih => rw [List.foldl_cons, pymaxFrom, step, ih]

theorem absdiff_maps {α : Type} (f g : α → K) (l : List α) :
    absdiff (l.map f) (l.map g) = l.map fun t => |f t - g t| := by
  unfold absdiff
  rw [List.zipWith_map, List.zipWith_self]
  simp only [absR_eq]

theorem chebyshev_chebOf (x y : List K) : chebyshev x y = chebOf (absdiff x y) := rfl
theorem hamming_countNZ (x y : List K) : hamming x y = countNZ (absdiff x y) := rfl
theorem minkowski_lane (C : Consts K) (p : Nat) (x y : List K) :
    minkowski C p x y = C.root p (lsum ((absdiff x y).map (powN · p))) := rfl

theorem lane_eq_absdiff (D : NArr K) (ax : Nat) (ix : List Nat) (d : Nat) (u v : Nat → K)
    (hd : D.shape.getD ax 0 = d) (h : ∀ t, t < d → D.get (ix.take ax ++ t :: ix.drop ax) = |u t - v t|) :
    lane D ax ix = absdiff ((List.range d).map u) ((List.range d).map v) := by
  rw [absdiff_maps, lane, hd]
  exact List.map_congr_left fun t ht => h t (List.mem_range.mp ht)

section
variable {x xp : NArr K} {pair : Bool} {dmin : Nat} {axis : Option Int} {D : NArr K} {k : Option Nat}

theorem minkowskiA_of_finite (C : Consts K) (fin : K → Bool) {p : Nat} (hp : p ≠ 0)
    (hD : absoluteDistance x xp pair dmin = some D) (hax : resolveAxis D.ndim axis = some k)
    (ht : ∀ a ∈ (D.map (powN · p)).ravel, fin a = true)
    (hs : ∀ a ∈ (reduceWith lsum (D.map (powN · p)) k).ravel, fin a = true) :
    minkowskiA C fin x xp pair dmin p axis = .ok ((reduceWith lsum (D.map (powN · p)) k).map (C.root p)) := by
  unfold minkowskiA
  rw [hD]
  simp only [hax, if_neg hp, overflowed_of_finite fin D _ _ ht hs]
  rfl

theorem metricsA_eq (C : Consts K) (fin : K → Bool) (hfin : ∀ a, fin a = true) {p : Nat} (hp : p ≠ 0)
    (hD : absoluteDistance x xp pair dmin = some D) (hax : resolveAxis D.ndim axis = some k)
    (hne : emptyLane D k = false) :
    chebyshevA x xp pair dmin axis = .ok (reduceWith chebOf D k) ∧
    hammingA x xp pair dmin axis = .ok (reduceWith countNZ D k) ∧
    minkowskiA C fin x xp pair dmin p axis = .ok (reduceWith (fun l => C.root p (lsum (l.map (powN · p)))) D k) := by
  refine ⟨?_, ?_, ?_⟩
  · unfold chebyshevA maxReduce
    rw [hD]; simp only [hax, hne]
    rw [show (npmaxL : List K → K) = chebOf from funext npmaxL_eq]; rfl
  · unfold hammingA
    rw [hD]; simp only [hax]
  · rw [minkowskiA_of_finite C fin hp hD hax (fun a _ => hfin a) (fun a _ => hfin a), reduceWith_map]

end

/-- along `ax`, entry `ix` is the metric of any two points whose differences the lane through `ix` holds -/
theorem metrics_along (C : Consts K) (fin : K → Bool) (hfin : ∀ a, fin a = true) {x xp : NArr K} {pair : Bool}
    {dmin p : Nat} (hp : p ≠ 0) {D : NArr K} {s : List Nat} (hD : absoluteDistance x xp pair dmin = some D)
    (hs : D.shape = s) (ax : Nat) (hax : ax < s.length) (hpos : 0 < s.getD ax 0) :
    (∃ R, chebyshevA x xp pair dmin (some (ax : Int)) = .ok R ∧ R.shape = s.eraseIdx ax ∧
      ∀ ix u v, lane D ax ix = absdiff u v → R.get ix = chebyshev u v) ∧
    (∃ R, hammingA x xp pair dmin (some (ax : Int)) = .ok R ∧ R.shape = s.eraseIdx ax ∧
      ∀ ix u v, lane D ax ix = absdiff u v → R.get ix = hamming u v) ∧
    (∃ R, minkowskiA C fin x xp pair dmin p (some (ax : Int)) = .ok R ∧ R.shape = s.eraseIdx ax ∧
      ∀ ix u v, lane D ax ix = absdiff u v → R.get ix = minkowski C p u v) := by
  obtain ⟨hc, hh, hm⟩ :=
    metricsA_eq C fin hfin hp hD (resolveAxis_nat D s hs ax hax) (emptyLane_some D s hs ax hpos)
  have hsR : D.shape.eraseIdx ax = s.eraseIdx ax := by rw [hs]
  exact ⟨⟨_, hc, hsR, fun ix u v h => congrArg chebOf h⟩, ⟨_, hh, hsR, fun ix u v h => congrArg countNZ h⟩,
    ⟨_, hm, hsR, fun ix u v h => congrArg (fun l : List K => C.root p (lsum (l.map (powN · p)))) h⟩⟩

end MysticVerif.Meas
