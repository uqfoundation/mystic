/- lemmas behind the statistics of Model/DiscreteExt (maximum / minimum / ptp / ess_*, pof_value).  Everything about
   `max` is proved over a linear order; `min` is `max` in the order dual, so the `min` statements are the `max` ones
   read at `Kᵒᵈ`. -/
import MysticVerif.Model.DiscreteExt
import MysticVerif.Proofs.DiscreteNum

-- the fixed statement `ptpL_eq` carries all binders of its `variable` line
set_option linter.unusedSectionVars false

namespace MysticVerif.Discrete

theorem allSome_eq_some {β : Type} (l : List (Option β)) (r : List β) :
    allSome l = some r ↔ l = r.map some := by
  induction l generalizing r with
  | nil => rw [allSome, Option.some.injEq, eq_comm, eq_comm (a := []), List.map_eq_nil_iff]
  | cons a l ih =>
    cases r with
    | nil => cases a <;> exact iff_of_false (by simp [allSome]) (fun h => nomatch h)
    | cons b r =>
      rw [List.map_cons, List.cons.injEq]
      cases a with
      | none => exact iff_of_false (fun h => nomatch h) (fun h => nomatch h.1)
      | some a =>
        rw [allSome, Option.map_eq_some_iff, Option.some.injEq]
        constructor
        · rintro ⟨r', h, e⟩
          obtain ⟨rfl, rfl⟩ := List.cons.inj e
          exact ⟨rfl, (ih r').mp h⟩
        · rintro ⟨rfl, h⟩
          exact ⟨r, (ih r).mpr h, rfl⟩

theorem allSome_eq_none {β : Type} (l : List (Option β)) : allSome l = none ↔ none ∈ l := by
  induction l with
  | nil => simp [allSome]
  | cons a l ih =>
    cases a with
    | none => simp [allSome]
    | some a => simp [allSome, ih]

theorem foldl_add_if {β M : Type} [AddMonoid M] (q : β → Prop) [DecidablePred q] (w : β → M) (L : List β) (a : M) :
    L.foldl (fun u x => if q x then u + w x else u) a = a + ((L.filter fun x => decide (q x)).map w).sum := by
  induction L generalizing a with
  | nil => exact (add_zero a).symm
  | cons x L ih =>
    rw [List.foldl_cons, ih, List.filter_cons]
    by_cases hx : q x
    · rw [if_pos hx, if_pos (decide_eq_true hx), List.map_cons, List.sum_cons, add_assoc]
    · rw [if_neg hx, if_neg (mt of_decide_eq_true hx)]

theorem length_singles {α : Type} (m : Measure α) : (singles m).length = (mweights m).length := by
  rw [singles, List.length_map, length_mpositions, length_mweights]

theorem zip_singles {α : Type} (m : Measure α) :
    List.zip (singles m) (mweights m) = m.map fun p => ([p.position], p.weight) := by
  unfold singles mpositions mweights
  rw [List.map_map]
  induction m with
  | nil => rfl
  | cons a m ih => simp [ih]

section order
variable {K : Type} [LinearOrder K]

theorem foldl_max_spec (l : List K) (a : K) :
    a ≤ l.foldl max a ∧ (l.foldl max a = a ∨ l.foldl max a ∈ l) ∧ ∀ x ∈ l, x ≤ l.foldl max a := by
  induction l generalizing a with
  | nil => exact ⟨le_rfl, Or.inl rfl, fun x hx => absurd hx List.not_mem_nil⟩
  | cons y l ih =>
    obtain ⟨h0, h1, h2⟩ := ih (max a y)
    rw [List.foldl_cons]
    refine ⟨(le_max_left a y).trans h0, ?_, List.forall_mem_cons.mpr ⟨(le_max_right a y).trans h0, h2⟩⟩
    rcases h1 with h | h
    · rw [h]
      exact (max_choice a y).imp_right fun e => by rw [e]; exact List.mem_cons_self
    · exact Or.inr (List.mem_cons_of_mem _ h)

/-- python's first-wins step `if m < x then x else m` is `max` -/
theorem maxL_cons (a : K) (l : List K) : maxL (a :: l) = some (l.foldl max a) :=
  congrArg (fun f => some (l.foldl f a)) (funext₂ fun m x => (max_def_lt m x).symm)

/-- `max(l)` returns exactly for non-empty `l`, and then the greatest entry -/
theorem maxL_spec (l : List K) : (maxL l = none ↔ l = []) ∧
    ∀ v, maxL l = some v → v ∈ l ∧ ∀ x ∈ l, x ≤ v := by
  cases l with
  | nil => simp [maxL]
  | cons a l =>
    rw [maxL_cons]
    refine ⟨by simp, ?_⟩
    rintro v ⟨rfl⟩
    obtain ⟨h0, h1, h2⟩ := foldl_max_spec l a
    exact ⟨List.mem_cons.mpr h1, List.forall_mem_cons.mpr ⟨h0, h2⟩⟩

theorem minL_spec (l : List K) : (minL l = none ↔ l = []) ∧
    ∀ v, minL l = some v → v ∈ l ∧ ∀ x ∈ l, v ≤ x :=
  maxL_spec (K := Kᵒᵈ) l

theorem maximumL_spec {β : Type} (f : β → K) (P : List β) : (maximumL f P = none ↔ P = []) ∧
    ∀ v, maximumL f P = some v → (∃ x ∈ P, f x = v) ∧ ∀ x ∈ P, f x ≤ v := by
  obtain ⟨h1, h2⟩ := maxL_spec (P.map f)
  refine ⟨by simpa [maximumL] using h1, ?_⟩
  intro v hv
  obtain ⟨h3, h4⟩ := h2 v hv
  exact ⟨List.mem_map.mp h3, fun x hx => h4 _ (List.mem_map_of_mem hx)⟩

theorem minimumL_spec {β : Type} (f : β → K) (P : List β) : (minimumL f P = none ↔ P = []) ∧
    ∀ v, minimumL f P = some v → (∃ x ∈ P, f x = v) ∧ ∀ x ∈ P, v ≤ f x :=
  maximumL_spec (K := Kᵒᵈ) f P

theorem maximumL_filter_spec {β : Type} (f : β → K) (q : β → Prop) [DecidablePred q] (P : List β) :
    (maximumL f (P.filter fun x => decide (q x)) = none ↔ ∀ x ∈ P, ¬ q x) ∧
    ∀ v, maximumL f (P.filter fun x => decide (q x)) = some v →
      (∃ x ∈ P, q x ∧ f x = v) ∧ ∀ x ∈ P, q x → f x ≤ v := by
  obtain ⟨h1, h2⟩ := maximumL_spec f (P.filter fun x => decide (q x))
  have hmem : ∀ x, x ∈ P.filter (fun x => decide (q x)) ↔ x ∈ P ∧ q x := fun x => by
    rw [List.mem_filter, decide_eq_true_iff]
  refine ⟨?_, fun v hv => ?_⟩
  · rw [h1, List.eq_nil_iff_forall_not_mem]
    exact forall_congr' fun x => by rw [hmem, not_and]
  · obtain ⟨⟨x, hx, e⟩, h4⟩ := h2 v hv
    exact ⟨⟨x, ((hmem x).mp hx).1, ((hmem x).mp hx).2, e⟩, fun y hy hq => h4 y ((hmem y).mpr ⟨hy, hq⟩)⟩

theorem minimumL_filter_spec {β : Type} (f : β → K) (q : β → Prop) [DecidablePred q] (P : List β) :
    (minimumL f (P.filter fun x => decide (q x)) = none ↔ ∀ x ∈ P, ¬ q x) ∧
    ∀ v, minimumL f (P.filter fun x => decide (q x)) = some v →
      (∃ x ∈ P, q x ∧ f x = v) ∧ ∀ x ∈ P, q x → v ≤ f x :=
  maximumL_filter_spec (K := Kᵒᵈ) f q P

theorem bind_allSome_maxL {β : Type} (g : β → Option K) (c : List β) :
    ((allSome (c.map g)).bind maxL = none ↔ c = [] ∨ ∃ m ∈ c, g m = none) ∧
    ∀ v, (allSome (c.map g)).bind maxL = some v →
      (∃ m ∈ c, g m = some v) ∧ ∀ m ∈ c, ∀ y, g m = some y → y ≤ v := by
  cases hr : allSome (c.map g) with
  | none =>
    have : ∃ m ∈ c, g m = none := List.mem_map.mp ((allSome_eq_none _).mp hr)
    exact ⟨iff_of_true rfl (Or.inr this), fun v hv => nomatch hv⟩
  | some r =>
    -- `r` lists the values `g m`, `m ∈ c`
    have hmap := (allSome_eq_some _ _).mp hr
    have hmem : ∀ y, y ∈ r ↔ ∃ m ∈ c, g m = some y := fun y => by
      rw [← List.mem_map_of_injective (Option.some_injective K), ← hmap, List.mem_map]
    have hnil : r = [] ↔ c = [] := by
      rw [← List.map_eq_nil_iff (f := some), ← hmap, List.map_eq_nil_iff]
    have hnone : ¬ ∃ m ∈ c, g m = none := fun h => by
      rw [(allSome_eq_none _).mpr (List.mem_map.mpr h)] at hr
      cases hr
    obtain ⟨m1, m2⟩ := maxL_spec r
    refine ⟨by rw [Option.bind_some, m1, hnil, or_iff_left hnone], ?_⟩
    intro v hv
    obtain ⟨h3, h4⟩ := m2 v hv
    exact ⟨(hmem v).mp h3, fun m hm y hy => h4 y ((hmem y).mpr ⟨m, hm, hy⟩)⟩

theorem bind_allSome_minL {β : Type} (g : β → Option K) (c : List β) :
    ((allSome (c.map g)).bind minL = none ↔ c = [] ∨ ∃ m ∈ c, g m = none) ∧
    ∀ v, (allSome (c.map g)).bind minL = some v →
      (∃ m ∈ c, g m = some v) ∧ ∀ m ∈ c, ∀ y, g m = some y → v ≤ y :=
  bind_allSome_maxL (K := Kᵒᵈ) g c

/-- `g m` is the maximum of `φ` over the points `S m` of factor `m`, `max([g(m) for m in c])` that over all points -/
theorem max_of_maxes {β γ : Type} (g : β → Option K) (S : β → γ → Prop) (φ : γ → K)
    (hnone : ∀ m, g m = none → ∀ p, ¬ S m p)
    (hsome : ∀ m v, g m = some v → (∃ p, S m p ∧ φ p = v) ∧ ∀ p, S m p → φ p ≤ v)
    (c : List β) (v : K) (hv : (allSome (c.map g)).bind maxL = some v) :
    (∃ m ∈ c, ∃ p, S m p ∧ φ p = v) ∧ ∀ m ∈ c, ∀ p, S m p → φ p ≤ v := by
  obtain ⟨⟨m, hm, hg⟩, h4⟩ := (bind_allSome_maxL g c).2 v hv
  refine ⟨⟨m, hm, (hsome m v hg).1⟩, fun m' hm' p hp => ?_⟩
  cases hg' : g m' with
  | none => exact absurd hp (hnone m' hg' p)
  | some y => exact ((hsome m' y hg').2 p hp).trans (h4 m' hm' y hg')

theorem min_of_mins {β γ : Type} (g : β → Option K) (S : β → γ → Prop) (φ : γ → K)
    (hnone : ∀ m, g m = none → ∀ p, ¬ S m p)
    (hsome : ∀ m v, g m = some v → (∃ p, S m p ∧ φ p = v) ∧ ∀ p, S m p → v ≤ φ p)
    (c : List β) (v : K) (hv : (allSome (c.map g)).bind minL = some v) :
    (∃ m ∈ c, ∃ p, S m p ∧ φ p = v) ∧ ∀ m ∈ c, ∀ p, S m p → v ≤ φ p :=
  max_of_maxes (K := Kᵒᵈ) g S φ hnone hsome c v hv

/-! ### one measure: its statistics are those of `fun p => f [p.position]` over its points -/

theorem mMaximum_eq (f : List K → K) (m : Measure K) : mMaximum f m = maximumL (fun p => f [p.position]) m := by
  simp only [mMaximum, maximumL, singles, mpositions, List.map_map]
  rfl

theorem mMinimum_eq (f : List K → K) (m : Measure K) : mMinimum f m = minimumL (fun p => f [p.position]) m := by
  simp only [mMinimum, minimumL, singles, mpositions, List.map_map]
  rfl

theorem support_singles (m : Measure K) (tol : K) :
    supportL (singles m) (mweights m) tol
      = some ((m.filter fun p => decide (tol < p.weight)).map fun p => [p.position]) := by
  rw [supportL_eq _ _ _ (length_singles m), zip_singles, List.filter_map, List.map_map]
  rfl

theorem mEssMaximum_eq (f : List K → K) (tol : K) (m : Measure K) :
    mEssMaximum f tol m = maximumL (fun p => f [p.position]) (m.filter fun p => decide (tol < p.weight)) := by
  simp only [mEssMaximum, essMaximumL, support_singles, Option.bind_some, maximumL, List.map_map]
  rfl

theorem mEssMinimum_eq (f : List K → K) (tol : K) (m : Measure K) :
    mEssMinimum f tol m = minimumL (fun p => f [p.position]) (m.filter fun p => decide (tol < p.weight)) := by
  simp only [mEssMinimum, essMinimumL, support_singles, Option.bind_some, minimumL, List.map_map]
  rfl

end order

variable {K : Type} [Field K] [LinearOrder K] [IsStrictOrderedRing K]

theorem ptpL_eq {β : Type} (f : β → K) (P : List β) :
    ptpL f P = match maximumL f P, minimumL f P with
      | some a, some b => some (a - b)
      | _, _ => none := rfl

end MysticVerif.Discrete
