/- lemmas about the object-graph model Model/DiscreteHeap: allocation only extends the heap, so what python shows
   for every EXISTING measure object is unchanged, and the fresh measures show exactly the values they were built from -/
import MysticVerif.Model.DiscreteHeap
import MysticVerif.Proofs.DiscretePack

namespace MysticVerif.DiscreteHeap
open MysticVerif.Discrete

variable {α : Type}

/-- `h'` extends `h`: the old cells / measure objects are a prefix; collections, values and scenario flags are the same -/
def Ext (h h' : Heap α) : Prop :=
  (∃ cs, h'.cells = h.cells ++ cs) ∧ (∃ ms, h'.meas = h.meas ++ ms) ∧ h'.colls = h.colls ∧ h'.vals = h.vals ∧
    h'.scen = h.scen

theorem Ext.refl (h : Heap α) : Ext h h := ⟨⟨[], by simp⟩, ⟨[], by simp⟩, rfl, rfl, rfl⟩

theorem Ext.trans {a b c : Heap α} (h1 : Ext a b) (h2 : Ext b c) : Ext a c := by
  obtain ⟨⟨c1, e1⟩, ⟨m1, e2⟩, e3, e4, e5⟩ := h1
  obtain ⟨⟨c2, f1⟩, ⟨m2, f2⟩, f3, f4, f5⟩ := h2
  refine ⟨⟨c1 ++ c2, by rw [f1, e1, List.append_assoc]⟩, ⟨m1 ++ m2, by rw [f2, e2, List.append_assoc]⟩, ?_, ?_, ?_⟩
  · rw [f3, e3]
  · rw [f4, e4]
  · rw [f5, e5]

theorem filterMap_congr {β γ : Type} {f g : β → Option γ} {l : List β} (h : ∀ x ∈ l, f x = g x) :
    l.filterMap f = l.filterMap g := by
  induction l with
  | nil => rfl
  | cons a t ih =>
    rw [List.filterMap_cons, List.filterMap_cons, h a List.mem_cons_self,
      ih fun x hx => h x (List.mem_cons_of_mem a hx)]

theorem obsM_ext {h h' : Heap α} (hw : WF h) (he : Ext h h') {mid : Nat} (hm : mid < h.meas.length) :
    obsM h' mid = obsM h mid := by
  obtain ⟨⟨cs, e1⟩, ⟨ms, e2⟩, _, _, _⟩ := he
  unfold obsM
  have hg : h'.meas.getD mid [] = h.meas.getD mid [] := by
    rw [e2, List.getD_eq_getElem?_getD, List.getD_eq_getElem?_getD, List.getElem?_append_left hm]
  rw [hg]
  apply filterMap_congr
  intro i hi
  have hmem : h.meas.getD mid [] ∈ h.meas := by
    rw [List.getD_eq_getElem?_getD, List.getElem?_eq_getElem hm]
    exact List.getElem_mem hm
  have := hw.1 _ hmem i hi
  rw [e1, List.getElem?_append_left this]

theorem allocM_ext (h : Heap α) (m : Measure α) : Ext h (allocM h m) :=
  ⟨⟨m, rfl⟩, ⟨_, rfl⟩, rfl, rfl, rfl⟩

theorem allocM_wf {h : Heap α} (hw : WF h) (m : Measure α) : WF (allocM h m) := by
  constructor
  · intro ids hids i hi
    simp only [allocM, List.mem_append, List.mem_singleton] at hids
    simp only [allocM, List.length_append]
    rcases hids with hids | hids
    · exact Nat.lt_of_lt_of_le (hw.1 ids hids i hi) (Nat.le_add_right _ _)
    · subst hids
      simp only [List.mem_map, List.mem_range] at hi
      obtain ⟨j, hj, rfl⟩ := hi
      rw [Nat.add_comm]
      exact Nat.add_lt_add_left hj _
  · intro f hf mm hmm
    simp only [allocM, List.length_append, List.length_singleton]
    exact Nat.lt_succ_of_lt (hw.2 f hf mm hmm)

theorem obsM_allocM_new (h : Heap α) (m : Measure α) : obsM (allocM h m) h.meas.length = m := by
  unfold obsM allocM
  simp only [List.getD, List.getElem?_append_right (Nat.le_refl _), Nat.sub_self, List.getElem?_cons_zero,
    Option.getD_some, List.filterMap_map]
  have : ((fun x : Nat => (h.cells ++ m)[x]?) ∘ fun x => x + h.cells.length) = fun i => m[i]? := by
    funext i
    simp [Function.comp, List.getElem?_append_right (Nat.le_add_left _ _)]
  rw [this]
  rw [Discrete.filterMap_range_getElem?, List.take_length]

theorem allocPM_spec (c : PM α) : ∀ {h : Heap α}, WF h →
    Ext h (allocPM h c).1 ∧ WF (allocPM h c).1 ∧ (allocPM h c).2.map (obsM (allocPM h c).1) = c ∧
      (allocPM h c).2.length = c.length := by
  induction c with
  | nil => intro h hw; exact ⟨Ext.refl h, hw, rfl, rfl⟩
  | cons m c ih =>
    intro h hw
    have hw1 := allocM_wf hw m
    obtain ⟨e2, w2, o2, l2⟩ := ih hw1
    refine ⟨(allocM_ext h m).trans e2, w2, ?_, ?_⟩
    · simp only [allocPM, List.map_cons]
      rw [o2]
      congr 1
      rw [obsM_ext hw1 e2 (by rw [allocM, List.length_append]; exact Nat.lt_succ_self _), obsM_allocM_new]
    · exact congrArg Nat.succ l2

theorem factors_lt {h : Heap α} (hw : WF h) (cid : Nat) : ∀ m ∈ factors h cid, m < h.meas.length := by
  intro m hm
  unfold factors at hm
  by_cases hc : cid < h.colls.length
  · have hmem : h.colls.getD cid [] ∈ h.colls := by
      rw [List.getD_eq_getElem?_getD, List.getElem?_eq_getElem hc]
      exact List.getElem_mem hc
    exact hw.2 _ hmem m hm
  · rw [List.getD_eq_getElem?_getD, List.getElem?_eq_none (Nat.le_of_not_lt hc)] at hm
    exact absurd hm List.not_mem_nil

theorem map_obsM_ext {h h' : Heap α} (hw : WF h) (he : Ext h h') (cid : Nat) :
    (factors h cid).map (obsM h') = obsC h cid := by
  unfold obsC
  apply List.map_congr_left
  intro m hm
  exact obsM_ext hw he (factors_lt hw cid m hm)

theorem obsC_setColl_same {h : Heap α} {cid : Nat} (hc : cid < h.colls.length) (f : List Nat) :
    obsC (setColl h cid f) cid = f.map (obsM h) := by
  simp only [obsC, factors, setColl, List.getD_eq_getElem?_getD, List.getElem?_set_self hc, Option.getD_some]
  rfl

theorem obsC_setColl_other {h : Heap α} {cid cid' : Nat} (hne : cid' ≠ cid) (f : List Nat) :
    obsC (setColl h cid f) cid' = obsC h cid' := by
  simp only [obsC, factors, setColl, List.getD_eq_getElem?_getD, List.getElem?_set_ne (Ne.symm hne)]
  rfl

theorem obsC_ext {h h' : Heap α} (hw : WF h) (he : Ext h h') (cid : Nat) : obsC h' cid = obsC h cid := by
  have hf : factors h' cid = factors h cid := by unfold factors; rw [he.2.2.1]
  unfold obsC
  rw [hf]
  exact map_obsM_ext hw he cid

theorem rebind_frame {h : Heap α} (hw : WF h) (pm : PM α) (cid : Nat) (f : List Nat) :
    (∀ cid', cid' ≠ cid → obsC (setColl (allocPM h pm).1 cid f) cid' = obsC h cid') ∧
      (setColl (allocPM h pm).1 cid f).vals = h.vals ∧
      ∀ mid, mid < h.meas.length → obsM (setColl (allocPM h pm).1 cid f) mid = obsM h mid := by
  obtain ⟨he, _, _, _⟩ := allocPM_spec pm hw
  exact ⟨fun cid' hne => by rw [obsC_setColl_other hne, obsC_ext hw he], he.2.2.2.1, fun mid hm => obsM_ext hw he hm⟩

end MysticVerif.DiscreteHeap
