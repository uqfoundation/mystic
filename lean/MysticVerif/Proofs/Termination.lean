/-
Lemmas for C10 (termination conditions): the `stop` dict and what a compound computes from its members, induction
over condition trees, Python indexing, the primitive tests in an ordered field.  Line numbers: mystic/termination.py.
-/
import MysticVerif.Model.Termination
import MysticVerif.Proofs.ListFacts
import MysticVerif.Proofs.ScalarFacts
import Mathlib.Tactic.Linarith
import Mathlib.Algebra.Order.Ring.Abs
import Mathlib.Algebra.Order.BigOperators.Group.List

namespace MysticVerif.Term

variable {R : Type}

def dictKeys {V : Type} (d : List (Cond R × Nat × V)) : List (Cond R) := d.map (fun e => e.1)

theorem dictSet_fresh {V : Type} (d : List (Cond R × Nat × V)) (k : Cond R) (i : Nat) (x : V)
    (h : ∀ e ∈ d, Cond.keyEq e.1 k = false) : dictSet d k i x = d ++ [(k, i, x)] := by
  induction d with
  | nil => rfl
  | cons e rest ih =>
    rw [dictSet, if_neg (by rw [h e List.mem_cons_self]; exact Bool.false_ne_true),
      ih (fun e' he' => h e' (List.mem_cons_of_mem _ he')), List.cons_append]

theorem dictSet_vals_sub {V : Type} (d : List (Cond R × Nat × V)) (k : Cond R) (i : Nat) (x : V) :
    ∀ y ∈ dictVals (dictSet d k i x), y ∈ dictVals d ∨ y = x := by
  induction d with
  | nil => exact fun y hy => Or.inr (List.mem_singleton.mp hy)
  | cons e rest ih =>
    intro y hy
    rw [dictSet] at hy
    split at hy
    · exact (List.mem_cons.mp hy).symm.imp_left (List.mem_cons_of_mem _)
    · rcases List.mem_cons.mp hy with h | h
      · exact Or.inl (h ▸ List.mem_cons_self)
      · exact (ih y h).imp_left (List.mem_cons_of_mem _)

theorem mkDict_vals_sub {V : Type} (cs : List (Cond R)) (xs : List V) (i : Nat) (d : List (Cond R × Nat × V)) :
    ∀ y ∈ dictVals (mkDict cs xs i d), y ∈ dictVals d ∨ y ∈ xs := by
  induction cs generalizing xs i d with
  | nil => exact fun _ hy => Or.inl hy
  | cons c cs ih =>
    cases xs with
    | nil => exact fun _ hy => Or.inl hy
    | cons x xs =>
      intro y hy
      rcases ih xs (i + 1) (dictSet d c i x) y hy with h | h
      · exact (dictSet_vals_sub d c i x y h).imp_right (fun h' => by rw [h']; exact List.mem_cons_self)
      · exact Or.inr (List.mem_cons_of_mem _ h)

theorem dictVals_mkDict_map {V : Type} (f : Cond R → V) (cs : List (Cond R)) (i : Nat) (d : List (Cond R × Nat × V))
    (hp : cs.Pairwise (fun a b => Cond.keyEq a b = false)) (hd : ∀ e ∈ d, ∀ c ∈ cs, Cond.keyEq e.1 c = false) :
    dictVals (mkDict cs (cs.map f) i d) = dictVals d ++ cs.map f := by
  induction cs generalizing i d with
  | nil => exact (List.append_nil _).symm
  | cons c cs ih =>
    rw [List.pairwise_cons] at hp
    rw [List.map_cons, mkDict, dictSet_fresh d c i (f c) (fun e he => hd e he c List.mem_cons_self),
      ih (i + 1) _ hp.2, dictVals, List.map_append, List.append_assoc]
    · rfl
    · intro e he c' hc'
      rcases List.mem_append.mp he with h | h
      · exact hd e h c' (List.mem_cons_of_mem _ hc')
      · rw [List.mem_singleton.mp h]
        exact hp.1 c' hc'

theorem dictVals_mkDict_map_nil {V : Type} (f : Cond R → V) (cs : List (Cond R))
    (hp : cs.Pairwise (fun a b => Cond.keyEq a b = false)) : dictVals (mkDict cs (cs.map f) 0 []) = cs.map f :=
  dictVals_mkDict_map f cs 0 [] hp (fun _ he => nomatch he)

theorem dedupAtoms_mem (l : List Atom) : ∀ a, a ∈ dedupAtoms l ↔ a ∈ l := by
  induction l with
  | nil => exact fun _ => Iff.rfl
  | cons b l ih =>
    intro a
    rw [dedupAtoms]
    by_cases hb : b ∈ dedupAtoms l
    · rw [if_pos hb, ih, List.mem_cons]
      exact (or_iff_right_of_imp fun h => h ▸ (ih b).mp hb).symm
    · rw [if_neg hb, List.mem_cons, List.mem_cons, ih]

theorem dedupAtoms_ne_nil (l : List Atom) : dedupAtoms l ≠ [] ↔ l ≠ [] := by
  simp only [Ne, List.eq_nil_iff_forall_not_mem, dedupAtoms_mem l]

mutual
/-- no compound in the tree has two members whose dict keys are equal -/
def Cond.Distinct : Cond R → Prop
  | .prim _ _ _ => True
  | .node _ cs => cs.Pairwise (fun a b => Cond.keyEq a b = false) ∧ Cond.DistinctL cs
def Cond.DistinctL : List (Cond R) → Prop
  | [] => True
  | c :: cs => Cond.Distinct c ∧ Cond.DistinctL cs
end

theorem Cond.DistinctL_iff (cs : List (Cond R)) : Cond.DistinctL cs ↔ ∀ c ∈ cs, Cond.Distinct c := by
  induction cs with
  | nil => exact iff_of_true trivial (fun _ h => nomatch h)
  | cons c cs ih => rw [Cond.DistinctL, ih, List.forall_mem_cons]

mutual
/-- no `all`-aggregated compound (When / And) in the tree is empty -/
def Cond.NoEmptyAll : Cond R → Prop
  | .prim _ _ _ => True
  | .node k cs => (k.isAll = true → cs ≠ []) ∧ Cond.NoEmptyAllL cs
def Cond.NoEmptyAllL : List (Cond R) → Prop
  | [] => True
  | c :: cs => Cond.NoEmptyAll c ∧ Cond.NoEmptyAllL cs
end

theorem Cond.NoEmptyAllL_iff (cs : List (Cond R)) : Cond.NoEmptyAllL cs ↔ ∀ c ∈ cs, Cond.NoEmptyAll c := by
  induction cs with
  | nil => exact iff_of_true trivial (fun _ h => nomatch h)
  | cons c cs ih => rw [Cond.NoEmptyAllL, ih, List.forall_mem_cons]

mutual
/-- the primitives of a tree: `(doc id, primitive)` -/
def Cond.leaves : Cond R → List (Nat × Prim R)
  | .prim _ d p => [(d, p)]
  | .node _ cs => Cond.leavesL cs
def Cond.leavesL : List (Cond R) → List (Nat × Prim R)
  | [] => []
  | c :: cs => Cond.leaves c ++ Cond.leavesL cs
end

theorem Cond.mem_leavesL {x : Nat × Prim R} : ∀ {cs : List (Cond R)}, x ∈ Cond.leavesL cs ↔ ∃ c ∈ cs, x ∈ Cond.leaves c := by
  intro cs
  induction cs with
  | nil => exact iff_of_false (fun h => nomatch h) (fun ⟨_, h, _⟩ => nomatch h)
  | cons c cs ih => rw [Cond.leavesL, List.mem_append, ih, List.exists_mem_cons_iff]

theorem Cond.induction {motive : Cond R → Prop} (prim : ∀ o d p, motive (.prim o d p))
    (node : ∀ k cs, (∀ c ∈ cs, motive c) → motive (.node k cs)) (c : Cond R) : motive c :=
  Cond.rec (motive_1 := motive) (motive_2 := fun cs => ∀ c ∈ cs, motive c) prim node
    (fun _ h => nomatch h) (fun _ _ hc hcs => List.forall_mem_cons.mpr ⟨hc, hcs⟩) c

theorem Cond.distinct_node (k : Kind) (cs : List (Cond R)) :
    (Cond.node k cs).Distinct ↔ cs.Pairwise (fun a b => Cond.keyEq a b = false) ∧ ∀ c ∈ cs, c.Distinct := by
  rw [Cond.Distinct, Cond.DistinctL_iff]

theorem mem_docInsert (ks : List Nat) (d x : Nat) : x ∈ docInsert ks d ↔ x ∈ ks ∨ x = d := by
  unfold docInsert
  split
  · rename_i h
    exact (or_iff_left_of_imp fun h' => h' ▸ List.contains_iff_mem.mp h).symm
  · rw [List.mem_append, List.mem_singleton]

theorem nodup_docInsert (ks : List Nat) (d : Nat) (h : ks.Nodup) : (docInsert ks d).Nodup := by
  unfold docInsert
  split
  · exact h
  · rename_i hn
    refine List.nodup_append.mpr ⟨h, List.pairwise_singleton _ d, fun a ha b hb hab => hn ?_⟩
    rw [← List.mem_singleton.mp hb, ← hab]
    exact List.contains_iff_mem.mpr ha

theorem Cond.stateKeysAux_eq_foldl (c : Cond R) :
    ∀ ks, Cond.stateKeysAux c ks = (c.leaves.map (·.1)).foldl docInsert ks := by
  induction c using Cond.induction with
  | prim _ d _ => exact fun ks => rfl
  | node _ cs ih =>
    intro ks
    rw [Cond.stateKeysAux, Cond.leaves]
    induction cs generalizing ks with  -- over the members of this node; `ih` is about each of them
    | nil => rfl
    | cons c cs ihs =>
      rw [Cond.stateKeysL, Cond.leavesL, List.map_append, List.foldl_append, ← ih c List.mem_cons_self,
        ihs fun c hc => ih c (List.mem_cons_of_mem _ hc)]

theorem Cond.stateKeysL_eq_foldl (cs : List (Cond R)) (ks : List Nat) :
    Cond.stateKeysL cs ks = ((Cond.leavesL cs).map (·.1)).foldl docInsert ks :=
  Cond.stateKeysAux_eq_foldl (.node .and cs) ks

/-- `all` of the members for When / And, `any` for Or -/
def Kind.Agg {α : Type} (k : Kind) (cs : List α) (P : α → Prop) : Prop :=
  if k.isAll = true then ∀ c ∈ cs, P c else ∃ c ∈ cs, P c

theorem Kind.agg_congr {α : Type} {k : Kind} {cs : List α} {P Q : α → Prop} (h : ∀ c ∈ cs, (P c ↔ Q c)) :
    k.Agg cs P ↔ k.Agg cs Q := by
  unfold Kind.Agg
  split
  · exact forall₂_congr h
  · exact exists_congr fun c => and_congr_right (h c)

def Expr.isPrim : Expr R → Bool
  | .prim _ _ _ => true
  | _ => false

mutual
/-- every single-argument compound wraps a PRIMITIVE (a single compound argument is unpacked by `__new__`:
`when_or_unpacked_witness`) -/
def Expr.Plain : Expr R → Prop
  | .prim _ _ _ => True
  | .when e => e.isPrim = true
  | .and es => (∀ e, es = [e] → e.isPrim = true) ∧ Expr.PlainL es
  | .or es => (∀ e, es = [e] → e.isPrim = true) ∧ Expr.PlainL es
def Expr.PlainL : List (Expr R) → Prop
  | [] => True
  | e :: es => Expr.Plain e ∧ Expr.PlainL es
end

section Scalar
-- Instances are plain implicit arguments in this file: a use reads them off the goal instead of searching again.
variable {_ : Add R} {_ : Sub R} {_ : Mul R} {_ : Div R} {_ : Neg R} {_ : LT R} {_ : DecidableLT R} {_ : LE R}
  {_ : DecidableLE R} {_ : BEq R} {_ : OfNat R 0} {_ : OfNat R 2}

theorem Cond.evalBs_eq_map (v : View R) (cs : List (Cond R)) : Cond.evalBs v cs = cs.map (Cond.evalB v) := by
  induction cs with
  | nil => rfl
  | cons c cs ih => rw [Cond.evalBs, ih, List.map_cons]

theorem Cond.infos_eq_map (v : View R) (cs : List (Cond R)) : Cond.infos v cs = cs.map (Cond.info v) := by
  induction cs with
  | nil => rfl
  | cons c cs ih => rw [Cond.infos, ih, List.map_cons]

theorem Cond.mem_info_node {v : View R} {k : Kind} {cs : List (Cond R)} {a : Atom} (ha : a ∈ (Cond.node k cs).info v) :
    ∃ c ∈ cs, a ∈ c.info v := by
  have hflat : a ∈ dedupAtoms (dictVals (mkDict cs (Cond.infos v cs) 0 [])).flatten := by
    simp only [Cond.info] at ha
    split at ha
    · split at ha
      exacts [ha, nomatch ha]
    · exact ha
  obtain ⟨s, hs, has⟩ := List.mem_flatten.mp ((dedupAtoms_mem _ a).mp hflat)
  rcases mkDict_vals_sub cs (Cond.infos v cs) 0 [] s hs with h | h
  · cases h
  · rw [Cond.infos_eq_map] at h
    obtain ⟨c, hc, rfl⟩ := List.mem_map.mp h
    exact ⟨c, hc, has⟩

theorem Cond.denAll_iff (v : View R) (cs : List (Cond R)) :
    Cond.denAll v cs = true ↔ ∀ c ∈ cs, Cond.den v c = true := by
  induction cs with
  | nil => exact iff_of_true rfl (fun _ h => nomatch h)
  | cons c cs ih => rw [Cond.denAll, Bool.and_eq_true, ih, List.forall_mem_cons]

theorem Cond.denAny_iff (v : View R) (cs : List (Cond R)) :
    Cond.denAny v cs = true ↔ ∃ c ∈ cs, Cond.den v c = true := by
  induction cs with
  | nil => exact iff_of_false Bool.false_ne_true (fun ⟨_, h, _⟩ => nomatch h)
  | cons c cs ih => rw [Cond.denAny, Bool.or_eq_true, ih, List.exists_mem_cons_iff]

theorem Cond.den_node_iff (v : View R) (k : Kind) (cs : List (Cond R)) :
    (Cond.node k cs).den v = true ↔ k.Agg cs (·.den v = true) := by
  rw [Cond.den, Kind.Agg]
  split
  · exact Cond.denAll_iff v cs
  · exact Cond.denAny_iff v cs

theorem Cond.evalB_node_iff (v : View R) (k : Kind) (cs : List (Cond R))
    (hp : cs.Pairwise (fun a b => Cond.keyEq a b = false)) :
    (Cond.node k cs).evalB v = true ↔ k.Agg cs (·.evalB v = true) := by
  simp only [Cond.evalB, Cond.evalBs_eq_map, dictVals_mkDict_map_nil _ cs hp, Kind.Agg]
  split
  · rw [List.all_map, List.all_eq_true]; rfl
  · rw [List.any_map, List.any_eq_true]; rfl

theorem Cond.info_node_ne_nil (v : View R) (k : Kind) (cs : List (Cond R))
    (hp : cs.Pairwise (fun a b => Cond.keyEq a b = false)) :
    (Cond.node k cs).info v ≠ [] ↔ (k.isAll = true → cs ≠ []) ∧ k.Agg cs (·.info v ≠ []) := by
  have any : dedupAtoms (cs.map (Cond.info v)).flatten ≠ [] ↔ ∃ c ∈ cs, c.info v ≠ [] := by
    rw [dedupAtoms_ne_nil, Ne, List.flatten_eq_nil_iff, List.forall_mem_map, not_forall]
    exact exists_congr fun c => Classical.not_imp
  have all : (cs.map (Cond.info v)).all (fun s => !s.isEmpty) = true ↔ ∀ c ∈ cs, c.info v ≠ [] := by
    rw [List.all_map, List.all_eq_true]
    exact forall₂_congr fun c _ => by rw [Function.comp, Bool.not_eq_true', List.isEmpty_eq_false_iff]
  simp only [Cond.info, Cond.infos_eq_map, dictVals_mkDict_map_nil _ cs hp, Kind.Agg]
  split
  · rename_i hk
    rw [imp_iff_right hk, ite_ne_right_iff, all, any, and_comm]
    refine and_congr_left fun hall => ⟨fun ⟨c, hc, _⟩ => List.ne_nil_of_mem hc, fun h => ?_⟩
    exact (List.exists_mem_of_ne_nil _ h).imp fun c hc => ⟨hc, hall c hc⟩
  · rename_i hk
    rw [any, and_iff_right (fun h => absurd h hk)]

theorem Prim.eval_eq_test (v : View R) (p : Prim R) (h : p.warns v = false) : p.eval v = p.test v := by
  rw [Prim.eval, Prim.out, h, if_neg Bool.false_ne_true]
  cases p.test v <;> rfl

theorem Prim.eval_gradnormP (v : View R) (tol : R) (n : Norm R) (eps : R) :
    (Prim.gradnormP tol n eps).eval v = leExc (gnormOf v n eps) tol :=
  Prim.eval_eq_test v _ rfl

theorem Prim.eval_popspread (v : View R) (tol : R) : (Prim.popspread tol).eval v = popspreadAll tol v.pop :=
  Prim.eval_eq_test v _ rfl

theorem Prim.eval_crt (v : View R) (xtol ftol : R) (h : ¬ v.popE.length < 2) :
    (Prim.crt xtol ftol).eval v =
      (leOpt (pyMax? (crtDiffs v.pop)) xtol && leOpt (pyMax? (crtFDiffs v.popE)) ftol) :=
  Prim.eval_eq_test v _ (decide_eq_false h)

theorem Prim.eval_gradnorm (v : View R) (tol : R) :
    (Prim.gradnorm tol).eval v = leOpt (npMax? (v.grad.map absR)) tol :=
  Prim.eval_eq_test v _ rfl

theorem Prim.eval_nct_none_iff (v : View R) (tol : R) (g : Option Int) :
    (Prim.nct none tol g).eval v = true ↔ v.hist ≠ [] ∧
      (gensOf g ≠ 0 → gensOf g < v.hist.length ∧ changeTest 0 (window v.hist (gensOf g)) = true) := by
  rw [Prim.eval_eq_test v _ rfl, ne_eq, ← List.getLast?_eq_none_iff]
  simp only [Prim.test]
  cases v.hist.getLast? with
  | none => exact iff_of_false Bool.false_ne_true (fun h => h.1 rfl)
  | some last =>
    rw [and_iff_right (Option.some_ne_none last)]
    by_cases h0 : gensOf g ≠ 0
    · rw [if_pos h0, Bool.if_false_right, Bool.and_eq_true, decide_eq_true_eq, imp_iff_right h0]
    · rw [if_neg h0]
      exact iff_of_true rfl (fun h => absurd h h0)

theorem lnorm_zero (cast : Nat → R) (w : List R) :
    lnorm (.zero cast) w = .ok (cast (w.filter (fun x => (x == 0) = false)).length) := rfl

theorem lnorm_inf (w : List R) : lnorm .inf w = lnormInf w := rfl

theorem lnorm_neginf (w : List R) : lnorm .neginf w = .error .type := rfl

theorem lnorm_fin (powp root : R → R) (raises : List R → Bool) (w : List R) :
    lnorm (.fin powp root raises) w =
      if raises w = true then lnormInf w else .ok (root (addReduce (w.map (fun x => absR (powp x))))) := rfl

theorem leExc_ok (x t : R) : leExc (.ok x) t = decide (x ≤ t) := rfl

theorem leExc_iff (a : Except Err R) (t : R) : leExc a t = true ↔ ∃ x, a = .ok x ∧ x ≤ t := by
  cases a with
  | error e => exact iff_of_false Bool.false_ne_true (fun ⟨_, h, _⟩ => nomatch h)
  | ok x => simp only [leExc, decide_eq_true_eq, Except.ok.injEq, exists_eq_left']

theorem leExc_lnormInf (w : List R) (tol : R) : leExc (lnormInf w) tol = leOpt (npMax? (w.map absR)) tol := by
  unfold lnormInf
  cases npMax? (w.map absR) <;> rfl

theorem gradOf_given {v : View R} (h : v.gradNone = false) (eps : R) : gradOf v eps = .ok v.grad := by
  rw [gradOf, h]
  rfl

theorem gnormOf_of_grad {v : View R} {eps : R} {g : List R} (hg : gradOf v eps = .ok g) (n : Norm R) :
    gnormOf v n eps = lnorm n g := by
  rw [gnormOf, hg]

end Scalar

theorem geLim_iff (x : Int) (lim : Option Int) : geLim x lim = true ↔ ∃ m, lim = some m ∧ m ≤ x := by
  cases lim with
  | none => exact iff_of_false Bool.false_ne_true (fun ⟨_, h, _⟩ => nomatch h)
  | some m => simp only [geLim, decide_eq_true_eq, Option.some.injEq, exists_eq_left']

theorem pyGet?_zero {α : Type} (l : List α) : pyGet? l 0 = l[0]? := by simp [pyGet?]

theorem pyGet?_neg {α : Type} (l : List α) (g : Nat) (h0 : 0 < g) (hg : g ≤ l.length) :
    pyGet? l (-(g : Int)) = l[l.length - g]? := by
  have e : -(g : Int) + (l.length : Int) = ((l.length - g : Nat) : Int) := by
    rw [Int.ofNat_sub hg, neg_add_eq_sub]
  rw [pyGet?, if_pos (Int.neg_neg_of_pos (Int.natCast_pos.mpr h0)), e, if_neg (Int.not_lt.mpr (Int.natCast_nonneg _)),
    Int.toNat_natCast]

theorem pyGet?_last {α : Type} (l : List α) : pyGet? l (-1) = l.getLast? := by
  cases l with
  | nil => rfl
  | cons a t => exact (pyGet?_neg (a :: t) 1 Nat.one_pos (Nat.le_add_left 1 _)).trans List.getLast?_eq_getElem?.symm

theorem getLast_test {α : Type} {l : List α} {f : α → Bool} {P : α → Prop} (h : ∀ x, f x = true ↔ P x) :
    (match l.getLast? with
      | none => false
      | some x => f x) = true ↔ ∃ x, l.getLast? = some x ∧ P x := by
  cases l.getLast? with
  | none => exact iff_of_false Bool.false_ne_true (fun ⟨_, h, _⟩ => nomatch h)
  | some x => simp only [h, Option.some.injEq, exists_eq_left']

theorem window_eq_some {hist : List R} {g : Int} {a b : R} :
    window hist g = some (a, b) ↔ pyGet? hist (-g) = some a ∧ pyGet? hist (-1) = some b := by
  unfold window
  split
  · rename_i a' b' ha hb
    rw [ha, hb]
    simp only [Option.some.injEq, Prod.mk.injEq]
  · rename_i h
    exact iff_of_false (fun h' => nomatch h') (fun h' => h a b h'.1 h'.2)

theorem window_test {hist : List R} {g : Int} {T : Option (R × R) → Bool} {P : R → R → Prop}
    (hn : T none = false) (hs : ∀ a b, T (some (a, b)) = true ↔ P a b) :
    T (window hist g) = true ↔ ∃ a b, pyGet? hist (-g) = some a ∧ pyGet? hist (-1) = some b ∧ P a b := by
  have key : T (window hist g) = true ↔ ∃ a b, window hist g = some (a, b) ∧ P a b := by
    cases window hist g with
    | none => exact iff_of_false (by rw [hn]; exact Bool.false_ne_true) (fun ⟨_, _, h, _⟩ => nomatch h)
    | some ab =>
      refine (hs ab.1 ab.2).trans ⟨fun h => ⟨_, _, rfl, h⟩, ?_⟩
      rintro ⟨_, _, h, hp⟩
      cases h
      exact hp
  simpa only [window_eq_some, and_assoc] using key

theorem forall_mem_zipWith {α β γ : Type} (f : α → β → γ) (l₁ : List α) (l₂ : List β) (P : γ → Prop) :
    (∀ d ∈ List.zipWith f l₁ l₂, P d) ↔ ∀ p ∈ l₁.zip l₂, P (f p.1 p.2) := by
  rw [← List.map_uncurry_zip_eq_zipWith, List.forall_mem_map]
  rfl

section Order
variable {K : Type} {_ : LinearOrder K}

theorem leOpt_pyMax (l : List K) (t : K) : leOpt (pyMax? l) t = true ↔ l ≠ [] ∧ ∀ x ∈ l, x ≤ t := by
  cases l with
  | nil => exact iff_of_false Bool.false_ne_true (fun h => h.1 rfl)
  | cons x xs =>
    rw [pyMax?, leOpt, decide_eq_true_eq, foldl_pyMax_le_iff, List.forall_mem_cons]
    exact (and_iff_right (List.cons_ne_nil x xs)).symm

/-- no NaN under a linear order: `numpy.max` is the builtin `max` -/
theorem npMax?_eq_pyMax? : ∀ l : List K, npMax? l = pyMax? l
  | [] => rfl
  | x :: xs => by
    have h : ∀ z : K, ¬ (z == z) = false := fun z hz => by
      rw [beq_self_eq_true] at hz
      cases hz
    simp only [npMax?, pyMax?, if_neg (h _)]

end Order

section Field
variable {K : Type} {_ : Field K} {_ : LinearOrder K}

/-- with `0 ≤ tol` the `==` shortcut (l.214) adds nothing -/
theorem changeTest_window {tol : K} (ht : 0 ≤ tol) (hist : List K) (g : Int) :
    changeTest tol (window hist g) = true ↔
      ∃ a b, pyGet? hist (-g) = some a ∧ pyGet? hist (-1) = some b ∧ a - b ≤ tol :=
  window_test rfl fun a b => by
    simp only [changeTest, Bool.or_eq_true, decide_eq_true_eq, beq_iff_eq]
    exact or_iff_left_of_imp fun h => by rw [h, sub_self]; exact ht

-- a Prop mixin that occurs in no term of a goal has to be searched: it stays a bracket binder
variable [IsStrictOrderedRing K]

theorem absR_eq_abs (x : K) : absR x = |x| := ite_neg_eq_abs x

theorem absR_mul_of_nonneg {t : K} (ht : 0 ≤ t) (x : K) : absR (t * x) = t * |x| := by
  rw [absR_eq_abs, abs_mul, abs_of_nonneg ht]

theorem leOpt_npMax_abs (w : List K) (t : K) (hne : w ≠ []) :
    leOpt (npMax? (w.map absR)) t = true ↔ ∀ x ∈ w, |x| ≤ t := by
  rw [npMax?_eq_pyMax?, leOpt_pyMax, and_iff_right (mt List.map_eq_nil_iff.mp hne), List.forall_mem_map]
  simp only [absR_eq_abs]

theorem le_iff_pow_le {r t : K} {p : ℕ} (hp : p ≠ 0) (h0 : 0 ≤ r) : r ≤ t ↔ 0 ≤ t ∧ r ^ p ≤ t ^ p :=
  ⟨fun h => ⟨h0.trans h, pow_le_pow_left₀ h0 h p⟩, fun h => le_of_pow_le_pow_left₀ hp h.1 h.2⟩

theorem addReduce_eq_sum : ∀ l : List K, addReduce l = l.sum
  | [] => rfl
  | x :: xs => by rw [addReduce, List.sum_eq_foldl, List.foldl_cons, zero_add]

theorem nchangeTest_window {tol eta : K} (ht : 0 ≤ tol) (he : 0 ≤ eta) (hist : List K) (g : Int) :
    nchangeTest tol eta (window hist g) = true ↔
      ∃ a b, pyGet? hist (-g) = some a ∧ pyGet? hist (-1) = some b ∧ 2 * (a - b) ≤ tol * (|a| + |b|) + eta :=
  window_test rfl fun a b => by
    simp only [nchangeTest, Bool.or_eq_true, decide_eq_true_eq, beq_iff_eq, absR_eq_abs]
    refine or_iff_right_of_imp fun h => ?_
    rw [h, sub_self, mul_zero]
    positivity

theorem forall_mem_crtDiffs (x0 : List K) (rest : List (List K)) (t : K) :
    (∀ d ∈ crtDiffs (x0 :: rest), d ≤ t) ↔ ∀ row ∈ rest, ∀ p ∈ row.zip x0, |p.1 - p.2| ≤ t := by
  rw [crtDiffs, List.forall_mem_flatten, List.forall_mem_map]
  simp only [forall_mem_zipWith, absR_eq_abs]

end Field

end MysticVerif.Term
