/- facts about plain lists that several model families use: what `getD` reads after `set` and `++`, and the fold
`fun m b => if m < b then b else m` with which the models write Python's `max` over a list -/
import Mathlib.Order.Basic

namespace MysticVerif

variable {α : Type}

theorem getD_set_ne (l : List α) {i j : Nat} (a d : α) (h : i ≠ j) : (l.set i a).getD j d = l.getD j d := by
  rw [List.getD_eq_getElem?_getD, List.getD_eq_getElem?_getD, List.getElem?_set_ne h]

theorem getD_set_self (l : List α) {i : Nat} (a d : α) (h : i < l.length) : (l.set i a).getD i d = a := by
  rw [List.getD_eq_getElem?_getD, List.getElem?_set_self h]; rfl

theorem getD_set (l : List α) {i : Nat} (j : Nat) (a d : α) (h : i < l.length) :
    (l.set i a).getD j d = if j = i then a else l.getD j d := by
  by_cases hj : j = i
  · rw [hj, if_pos rfl, getD_set_self l a d h]
  · rw [if_neg hj, getD_set_ne l a d (Ne.symm hj)]

theorem getD_append_of_lt (l m : List α) {i : Nat} (d : α) (h : i < l.length) : (l ++ m).getD i d = l.getD i d := by
  rw [List.getD_eq_getElem?_getD, List.getD_eq_getElem?_getD, List.getElem?_append_left h]

theorem getD_append_length (l m : List α) (a d : α) : (l ++ a :: m).getD l.length d = a := by
  rw [List.getD_eq_getElem?_getD, List.getElem?_append_right (Nat.le_refl _), Nat.sub_self]; rfl

theorem foldl_pyMax_le_iff [LinearOrder α] (l : List α) (a t : α) :
    l.foldl (fun m b => if m < b then b else m) a ≤ t ↔ a ≤ t ∧ ∀ b ∈ l, b ≤ t := by
  induction l generalizing a with
  | nil => exact (and_iff_left fun _ h => nomatch h).symm
  | cons b l ih =>
    rw [List.foldl_cons, ih, List.forall_mem_cons, ← and_assoc]
    refine and_congr_left' ?_
    by_cases h : a < b
    · rw [if_pos h]
      exact ⟨fun h1 => ⟨(le_of_lt h).trans h1, h1⟩, And.right⟩
    · rw [if_neg h]
      exact ⟨fun h1 => ⟨h1, (not_lt.mp h).trans h1⟩, And.left⟩

end MysticVerif
