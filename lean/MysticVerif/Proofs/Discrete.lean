/- helper lemmas for Props/C19: the structural part (weights / positions of a measure, flatten / nestedSplit /
   compose, the parameter vector of load), core Lean only -/
import MysticVerif.Model.Discrete

namespace MysticVerif.Discrete

variable {α : Type}

@[simp] theorem length_mweights (m : Measure α) : (mweights m).length = m.length := by simp [mweights]
@[simp] theorem length_mpositions (m : Measure α) : (mpositions m).length = m.length := by simp [mpositions]
theorem length_mpositions_eq (m : Measure α) : (mpositions m).length = (mweights m).length := by
  rw [length_mpositions, length_mweights]

/-- if `h (f a b) = g a`, mapping `h` over `zipWith f as bs` (equal lengths) is `as.map g` -/
theorem map_zipWith_left {A B C D : Type} (f : A → B → C) (h : C → D) (g : A → D) (as : List A) (bs : List B)
    (hl : as.length = bs.length) (hf : ∀ a b, h (f a b) = g a) : (List.zipWith f as bs).map h = as.map g := by
  induction as generalizing bs with
  | nil => cases bs with
    | nil => rfl
    | cons _ _ => cases hl
  | cons a as ih =>
    cases bs with
    | nil => cases hl
    | cons b bs => rw [List.zipWith_cons_cons, List.map_cons, List.map_cons, hf, ih bs (Nat.succ.inj hl)]

theorem map_zipWith_right {A B C D : Type} (f : A → B → C) (h : C → D) (g : B → D) (as : List A) (bs : List B)
    (hl : as.length = bs.length) (hf : ∀ a b, h (f a b) = g b) : (List.zipWith f as bs).map h = bs.map g := by
  rw [List.zipWith_comm]
  exact map_zipWith_left _ h g bs as hl.symm fun b a => hf a b

theorem mweights_withPositions (m : Measure α) (p : List α) (hl : p.length = m.length) :
    mweights (withPositions m p) = mweights m := by
  unfold withPositions mweights
  exact map_zipWith_left _ _ _ m p hl.symm fun _ _ => rfl

theorem mpositions_withPositions (m : Measure α) (p : List α) (hl : p.length = m.length) :
    mpositions (withPositions m p) = p :=
  (map_zipWith_right _ PtMass.position id m p hl.symm fun _ _ => rfl).trans (List.map_id p)

theorem length_rebuild (xs ws : List α) (h : xs.length = ws.length) : (rebuild (xs, ws)).length = xs.length := by
  simp [rebuild, h]

theorem mweights_rebuild (xs ws : List α) (h : xs.length = ws.length) : mweights (rebuild (xs, ws)) = ws :=
  (map_zipWith_right _ PtMass.weight id xs ws h fun _ _ => rfl).trans (List.map_id ws)

theorem mpositions_rebuild (xs ws : List α) (h : xs.length = ws.length) : mpositions (rebuild (xs, ws)) = xs :=
  (map_zipWith_left _ PtMass.position id xs ws h fun _ _ => rfl).trans (List.map_id xs)

theorem nested_flat_append (p : List (List α)) (rest : List α) :
    nested (flat p ++ rest) (p.map List.length) = p := by
  induction p with
  | nil => simp [nested]
  | cons r p ih =>
    simp only [flat, List.flatten_cons, List.map_cons, nested, List.append_assoc] at *
    rw [List.take_left' rfl, List.drop_left' rfl, ih]

theorem flat_nested_take (params : List α) (npts : List Nat) :
    flat (nested params npts) = params.take npts.sum := by
  induction npts generalizing params with
  | nil => simp [nested, flat]
  | cons n ns ih =>
    have := ih (params.drop n)
    simp only [flat] at this
    simp only [nested, flat, List.flatten_cons, List.sum_cons, this]
    rw [List.take_add]

theorem length_flatten (c : PM α) : (flatten c).length = 2 * (pts c).sum := by
  induction c with
  | nil => simp [flatten, pts]
  | cons m c ih =>
    rw [flatten, List.flatMap_cons, List.length_append, List.length_append, length_mweights, length_mpositions,
      ← flatten, ih]
    show _ = 2 * (m.length + (pts c).sum)
    rw [Nat.mul_add, Nat.two_mul m.length]

theorem nestedSplit_flatten (c : PM α) (rest : List α) :
    nestedSplit (flatten c ++ rest) (pts c) = (wts c, pos c) := by
  induction c with
  | nil => rfl
  | cons m c ih =>
    have hw := length_mweights m
    have hp := length_mpositions m
    have h : flatten (m :: c) ++ rest = mweights m ++ (mpositions m ++ (flatten c ++ rest)) := by
      simp [flatten, List.append_assoc]
    rw [h, pts, List.map_cons, nestedSplit, ← List.drop_drop, List.take_left' hw, List.drop_left' hw,
      List.take_left' hp, List.drop_left' hp, ← pts, ih]
    rfl

theorem zipMeasure_self (m : Measure α) : zipMeasure (mpositions m) (mweights m) = some m := by
  induction m with
  | nil => rfl
  | cons a m ih => exact congrArg (Option.map (a :: ·)) ih

theorem listOfMeasures_self (c : PM α) : listOfMeasures (pos c) (wts c) = some c := by
  induction c with
  | nil => simp [listOfMeasures, pos]
  | cons m c ih =>
    simp only [pos, wts, List.map_cons, listOfMeasures] at *
    rw [zipMeasure_self, ih]

theorem zipMeasure_some {xs ws : List α} {m : Measure α} (h : zipMeasure xs ws = some m) :
    mpositions m = xs ∧ mweights m = ws.take xs.length := by
  fun_induction zipMeasure xs ws generalizing m with
  | case1 ws => cases Option.some.inj h; exact ⟨rfl, rfl⟩
  | case2 x xs => cases h
  | case3 x xs w ws ih =>
    obtain ⟨m', hm', rfl⟩ := Option.map_eq_some_iff.mp h
    obtain ⟨h2, h3⟩ := ih hm'
    exact ⟨congrArg (x :: ·) h2, congrArg (w :: ·) h3⟩

theorem listOfMeasures_some {x w : List (List α)} {c : PM α} (h : listOfMeasures x w = some c) :
    pos c = x := by
  fun_induction listOfMeasures x w generalizing c with
  | case1 w => cases Option.some.inj h; rfl
  | case2 s ss => cases h
  | case3 s ss w0 ws m r hr hm ih =>
    cases Option.some.inj h
    exact congr (congrArg List.cons (zipMeasure_some hm).1) (ih hr)
  | case4 s ss w0 ws hn ih => cases h

theorem listOfMeasures_some_wts {x w : List (List α)} {c : PM α} (h : listOfMeasures x w = some c)
    (hl : x.map List.length = w.map List.length) : wts c = w := by
  fun_induction listOfMeasures x w generalizing c with
  | case1 w =>
    cases Option.some.inj h
    exact (List.map_eq_nil_iff.mp hl.symm).symm
  | case2 s ss => cases h
  | case3 s ss w0 ws m r hr hm ih =>
    cases Option.some.inj h
    rw [List.map_cons, List.map_cons, List.cons.injEq] at hl
    have h3 := (zipMeasure_some hm).2
    rw [hl.1, List.take_length] at h3
    exact congr (congrArg List.cons h3) (ih hr hl.2)
  | case4 s ss w0 ws hn ih => cases h

theorem unflatten_flatten (c : PM α) (rest : List α) : unflatten (flatten c ++ rest) (pts c) = some c := by
  rw [unflatten, nestedSplit_flatten]
  exact listOfMeasures_self c

theorem exists_flatten_eq (p : List α) (ns : List Nat) (h : p.length = 2 * ns.sum) :
    ∃ c, pts c = ns ∧ flatten c = p := by
  induction ns generalizing p with
  | nil => exact ⟨[], rfl, (List.eq_nil_of_length_eq_zero h).symm⟩
  | cons n ns ih =>
    rw [List.sum_cons, Nat.mul_add, Nat.two_mul n] at h
    obtain ⟨c, hc1, hc2⟩ := ih (p.drop (n + n)) (by rw [List.length_drop, h, Nat.add_sub_cancel_left])
    -- the first measure takes `p[:n]` as weights and `p[n:2n]` as positions; `c` is built from the rest
    have hw : (p.take n).length = n := by
      rw [List.length_take, h, Nat.add_assoc]
      exact Nat.min_eq_left (Nat.le_add_right n _)
    have hx : ((p.drop n).take n).length = n := by
      rw [List.length_take, List.length_drop, h, Nat.add_assoc, Nat.add_sub_cancel_left]
      exact Nat.min_eq_left (Nat.le_add_right n _)
    have h1 := map_zipWith_left PtMass.mk PtMass.weight id _ _ (hw.trans hx.symm) fun _ _ => rfl
    have h2 := map_zipWith_right PtMass.mk PtMass.position id _ _ (hw.trans hx.symm) fun _ _ => rfl
    rw [List.map_id] at h1 h2
    refine ⟨List.zipWith PtMass.mk (p.take n) ((p.drop n).take n) :: c, ?_, ?_⟩
    · rw [pts, List.map_cons, List.length_zipWith, hw, hx, Nat.min_self]
      exact congrArg (n :: ·) hc1
    · rw [flatten, List.flatMap_cons, mweights, mpositions, h1, h2, ← flatten, hc2, ← List.drop_drop,
        List.append_assoc, List.take_append_drop, List.take_append_drop]

/-- parameters of exactly the right length unflatten to a measure of that shape carrying those numbers -/
theorem unflatten_of_length (p : List α) (ns : List Nat) (h : p.length = 2 * ns.sum) :
    ∃ c, unflatten p ns = some c ∧ pts c = ns ∧ flatten c = p := by
  obtain ⟨c, hc1, hc2⟩ := exists_flatten_eq p ns h
  refine ⟨c, ?_, hc1, hc2⟩
  rw [← hc1, ← hc2, ← List.append_nil (flatten c)]
  exact unflatten_flatten c []

theorem truncParams_flatten (c : PM α) (extra : List α) :
    truncParams (flatten c ++ extra) (pts c) = flatten c := by
  unfold truncParams
  split
  · exact List.take_left' (length_flatten c)
  · rename_i hn
    exact (List.take_of_length_le (Nat.le_of_not_lt hn)).symm.trans (List.take_left' (length_flatten c))

theorem extraParams_flatten (c : PM α) (extra : List α) :
    extraParams (flatten c ++ extra) (pts c) = extra := by
  unfold extraParams
  have hl := length_flatten c
  split
  · exact List.drop_left' hl
  · rename_i h
    rw [List.length_append, hl] at h
    exact (List.eq_nil_of_length_eq_zero (Nat.eq_zero_of_not_pos fun hp => h (Nat.lt_add_of_pos_right hp))).symm

end MysticVerif.Discrete
