/- helper lemmas for Props/C19: the numeric part. The lemmas are grouped by the structure on `K` they use:
   an order, a field, both, a linearly ordered field. -/
import MysticVerif.Proofs.DiscretePack
import MysticVerif.Proofs.Discrete
import MysticVerif.Proofs.ScalarFacts
import Mathlib.Tactic.Ring
import Mathlib.Algebra.Order.Field.Basic
import Mathlib.Algebra.BigOperators.Group.List.Basic
import Mathlib.Algebra.BigOperators.Ring.List

-- the lemmas of the last section carry all its binders, used or not
set_option linter.unusedSectionVars false

namespace MysticVerif.Discrete

section order
variable {K : Type} [LinearOrder K]

theorem supportL_eq {β : Type} (samples : List β) (ws : List K) (tol : K) (hl : samples.length = ws.length) :
    supportL samples ws tol
      = some (((List.zip samples ws).filter fun xw => decide (tol < xw.2)).map (·.1)) := by
  fun_induction supportL samples ws tol with
  | case1 xs tol => rw [List.zip_nil_right]; rfl
  | case2 w ws tol h => cases hl
  | case3 w ws tol h ih => cases hl
  | case4 x xs w ws tol h ih =>
    rw [ih (Nat.succ.inj hl), List.zip_cons_cons, List.filter_cons, if_pos (decide_eq_true h)]
    rfl
  | case5 x xs w ws tol h ih =>
    rw [ih (Nat.succ.inj hl), List.zip_cons_cons, List.filter_cons, if_neg (by rw [decide_eq_false h]; decide)]

theorem mem_supportIndexL (ws : List K) (tol : K) (i : Nat) :
    i ∈ supportIndexL ws tol ↔ ∃ w, ws[i]? = some w ∧ tol < w := by
  rw [supportIndexL, List.mem_filter, List.mem_range]
  constructor
  · rintro ⟨hi, h2⟩
    rw [List.getElem?_eq_getElem hi] at h2
    exact ⟨_, List.getElem?_eq_getElem hi, of_decide_eq_true h2⟩
  · rintro ⟨w, hw, ht⟩
    rw [hw]
    exact ⟨(List.getElem?_eq_some_iff.mp hw).1, decide_eq_true ht⟩

/-- a monotone map commutes with the running maximum (`if m < x then x else m` is `max m x`) -/
theorem foldl_max_mono (g : K → K) (hg : Monotone g) (l : List K) (a : K) :
    (l.map g).foldl (fun m x => if m < x then x else m) (g a)
      = g (l.foldl (fun m x => if m < x then x else m) a) := by
  rw [List.foldl_map]
  refine List.foldl_hom g fun x y => ?_
  rw [← max_def_lt, ← max_def_lt, hg.map_max]

theorem foldl_min_mono (g : K → K) (hg : Monotone g) (l : List K) (a : K) :
    (l.map g).foldl (fun m x => if x < m then x else m) (g a)
      = g (l.foldl (fun m x => if x < m then x else m) a) := by
  rw [List.foldl_map]
  refine List.foldl_hom g fun x y => ?_
  rw [← min_def_lt, ← min_def_lt, hg.map_min]

theorem le_foldl_max (l : List K) (a : K) : a ≤ l.foldl (fun m x => if m < x then x else m) a := by
  induction l generalizing a with
  | nil => exact le_refl _
  | cons x l ih => exact le_trans ((le_max_left a x).trans_eq (max_def_lt a x)) (ih _)

theorem foldl_min_le (l : List K) (a : K) : l.foldl (fun m x => if x < m then x else m) a ≤ a := by
  induction l generalizing a with
  | nil => exact le_refl _
  | cons x l ih => exact le_trans (ih _) (((min_def_lt x a).symm.trans_le (min_le_right x a)))

end order

section field
variable {K : Type} [Field K]

theorem sumL_eq_sum (l : List K) : sumL l = l.sum := List.sum_eq_foldl.symm

theorem prodL_eq_prod (l : List K) : prodL l = l.prod := List.prod_eq_foldl.symm

theorem prodL_cons (x : K) (t : List K) : prodL (x :: t) = x * prodL t := by
  rw [prodL_eq_prod, prodL_eq_prod, List.prod_cons]

theorem weights_getElem? (m : Measure K) (c : PM K) (k : Nat) (h0 : 0 < m.length) :
    (weights (m :: c))[k]? =
      (weights c)[k / m.length]?.bind (fun wr => (mweights m)[k % m.length]?.map (· * wr)) := by
  have h := pack_getElem?_divmod (mweights m) (wts c) k (by rwa [length_mweights])
  rw [length_mweights] at h
  rw [weights, weights, show wts (m :: c) = mweights m :: wts c from rfl, List.getElem?_map, List.getElem?_map, h]
  cases (pack (wts c))[k / m.length]? with
  | none => rfl
  | some t =>
    cases (mweights m)[k % m.length]? with
    | none => rfl
    | some x => exact congrArg some (prodL_cons x t)

theorem sum_flatMap_cons_prodL (s : List K) (P : List (List K)) :
    ((P.flatMap fun t => s.map fun x => x :: t).map prodL).sum = s.sum * (P.map prodL).sum := by
  induction P with
  | nil => simp
  | cons t P ih =>
    have e : (s.map fun x => x :: t).map prodL = s.map (· * prodL t) := by
      rw [List.map_map]
      exact List.map_congr_left fun x _ => prodL_cons x t
    rw [List.flatMap_cons, List.map_append, List.sum_append, ih, e, List.sum_map_mul_right, List.map_id',
      List.map_cons, List.sum_cons, mul_add]

theorem weights_sum_eq (c : PM K) : (weights c).sum = (mass c).prod := by
  induction c with
  | nil => simp [weights, wts, pack, prodL, mass]
  | cons m c ih =>
    rw [show weights (m :: c) = ((pack (wts c)).flatMap fun t => (mweights m).map fun x => x :: t).map prodL
      from rfl, sum_flatMap_cons_prodL]
    simp only [mass, List.map_cons, List.prod_cons, sumL_eq_sum]
    simp only [weights, mass, sumL_eq_sum] at ih
    rw [ih]

/-- weighted sum `Σ x_i w_i` -/
def wsum (xs ws : List K) : K := (List.zipWith (· * ·) xs ws).sum

theorem wsum_map_affine (xs ws : List K) (a b : K) (hl : xs.length = ws.length) :
    wsum (xs.map fun x => x * a + b) ws = a * wsum xs ws + b * ws.sum := by
  unfold wsum
  induction xs generalizing ws with
  | nil => cases ws with
    | nil => simp
    | cons _ _ => simp at hl
  | cons x xs ih =>
    cases ws with
    | nil => simp at hl
    | cons w ws =>
      simp only [List.length_cons, Nat.add_right_cancel_iff] at hl
      simp only [List.map_cons, List.zipWith_cons_cons, List.sum_cons, ih ws hl]
      ring

theorem sum_map_filter {β : Type} (p : β → Bool) (φ : β → K) (L : List β)
    (h : ∀ x ∈ L, p x = false → φ x = 0) : ((L.filter p).map φ).sum = (L.map φ).sum := by
  induction L with
  | nil => rfl
  | cons a L ih =>
    have ih' := ih fun x hx => h x (List.mem_cons_of_mem _ hx)
    cases hp : p a with
    | true => rw [List.filter_cons_of_pos hp, List.map_cons, List.sum_cons, ih', List.map_cons, List.sum_cons]
    | false =>
      rw [List.filter_cons_of_neg (by rw [hp]; exact Bool.false_ne_true), List.map_cons, List.sum_cons,
        h a List.mem_cons_self hp, zero_add, ih']

end field

section orderField
variable {K : Type} [Field K] [LinearOrder K]

theorem pofL_eq (f : List K → K) (P : List (List K)) (ws : List K) :
    pofL f P ws = (((List.zip P ws).filter fun xw => decide (f xw.1 ≤ 0)).map (·.2)).sum := by
  rw [List.sum_eq_foldl, List.foldl_map, List.foldl_filter]
  simp only [decide_eq_true_eq]
  rfl

theorem imposeMean_length (inf v : K) (xs ws : List K) : (imposeMean inf v xs ws).length = xs.length :=
  List.length_map _

theorem imposeMean_getElem? (inf v : K) (xs ws : List K) (p : Nat) :
    (imposeMean inf v xs ws)[p]? = xs[p]?.map (· + (v - mean inf xs ws)) := by
  simp [imposeMean]

theorem imposeMean_scale (inf : K) (m0 sc : K) (xs ws : List K) :
    imposeMean inf m0 (xs.map (· * sc)) ws
      = xs.map fun x => x * sc + (m0 - mean inf (xs.map (· * sc)) ws) :=
  List.map_map

theorem spread_cons (a : K) (l : List K) :
    spread (a :: l) = some (l.foldl (fun m x => if m < x then x else m) a
      - l.foldl (fun m x => if x < m then x else m) a) := rfl

end orderField

section orderedField
variable {K : Type} [Field K] [LinearOrder K] [IsStrictOrderedRing K]

theorem absR_eq_abs (x : K) : absR x = |x| := ite_neg_eq_abs x

theorem truthy_false (x : K) : truthy x = false ↔ x = 0 := by
  simp [truthy]

theorem mean_eq (inf : K) (xs ws : List K) (hw : ws.sum ≠ 0) :
    mean inf xs ws = wsum xs ws / ws.sum := by
  unfold mean wsum
  simp only [sumL_eq_sum]
  rw [if_pos (eq_true_of_ne_false (mt (truthy_false _).mp hw))]
  -- the zero clamp `if abs(q) <= 0: return 0` fires only when `q = 0`, so both branches equal `q`
  split
  · rename_i h
    rw [absR_eq_abs] at h
    exact (abs_nonpos_iff.mp h).symm
  · rfl

theorem mean_affine (inf : K) (xs ws : List K) (a b : K) (hl : xs.length = ws.length) (hw : ws.sum ≠ 0) :
    mean inf (xs.map fun x => x * a + b) ws = mean inf xs ws * a + b := by
  rw [mean_eq inf _ ws hw, mean_eq inf xs ws hw, wsum_map_affine xs ws a b hl, add_div, mul_div_assoc,
    mul_div_cancel_right₀ b hw, mul_comm]

theorem moment2_eq (inf : K) (xs ws : List K) (hw : ws.sum ≠ 0) :
    moment2 inf xs ws =
      wsum (xs.map fun s => (s - mean inf xs ws) * (s - mean inf xs ws)) ws / ws.sum :=
  mean_eq inf _ ws hw

theorem moment2_affine (inf : K) (xs ws : List K) (a b : K) (hl : xs.length = ws.length) (hw : ws.sum ≠ 0) :
    moment2 inf (xs.map fun x => x * a + b) ws = a * a * moment2 inf xs ws := by
  rw [moment2_eq inf _ ws hw, moment2_eq inf xs ws hw, mean_affine inf xs ws a b hl hw]
  generalize mean inf xs ws = μ
  have e : ((xs.map fun x => x * a + b).map fun s => (s - (μ * a + b)) * (s - (μ * a + b)))
      = (xs.map fun s => (s - μ) * (s - μ)).map fun y => y * (a * a) + 0 := by
    rw [List.map_map, List.map_map]
    exact List.map_congr_left fun x _ => by
      show (x * a + b - (μ * a + b)) * (x * a + b - (μ * a + b)) = (x - μ) * (x - μ) * (a * a) + 0
      rw [add_sub_add_right_eq_sub, ← sub_mul, mul_mul_mul_comm, add_zero]
  rw [e, wsum_map_affine _ ws (a * a) 0 (by rw [List.length_map]; exact hl), zero_mul, add_zero, mul_div_assoc]

/-- the mean of `g ∘ f` over the kept pairs is `(Σ w * g (f x)) / Σ w` over ALL pairs: the dropped pairs have weight
    zero, and a non-zero total weight leaves at least one pair -/
theorem mean_keptYW (inf : K) (f : List K → K) (g : K → K) (P : List (List K)) (ws : List K)
    (hlen : P.length = ws.length) (hw : ws.sum ≠ 0) :
    mean inf (((keptYW f P ws).map (·.1)).map g) ((keptYW f P ws).map (·.2))
      = ((List.zip P ws).map fun xw => xw.2 * g (f xw.1)).sum / ws.sum := by
  have hz : ∀ xw ∈ List.zip P ws, decide (0 < absR xw.2) = false → xw.2 = 0 := fun xw _ h =>
    by_contra fun hne => of_decide_eq_false h ((absR_eq_abs xw.2).symm ▸ abs_pos.mpr hne)
  unfold keptYW
  -- `k`: the pairs that are kept
  generalize hk : ((List.zip P ws).filter fun xw => decide (0 < absR xw.2)) = k
  have hW : (k.map (·.2)).sum = ws.sum := by
    rw [← hk, sum_map_filter _ _ _ hz, List.map_snd_zip (le_of_eq hlen.symm)]
  have hA : (k.map fun xw => xw.2 * g (f xw.1)).sum = _ :=
    hk ▸ sum_map_filter _ _ (List.zip P ws) fun xw hx h => by rw [hz xw hx h, zero_mul]
  have hne : k.isEmpty = false := by
    cases k with
    | nil => exact absurd hW.symm hw
    | cons _ _ => rfl
  simp only [hne, Bool.false_eq_true, if_false, List.map_map]
  -- `by exact`: checked only after the rewrite has fixed the weight list
  rw [mean_eq inf _ _ (by exact ne_of_eq_of_ne hW hw)]
  rw [wsum, List.zipWith_map, List.zipWith_self, ← hA]
  exact congrArg₂ (· / ·) (congrArg List.sum (List.map_congr_left fun xw _ => mul_comm _ _)) hW

theorem expectation_eq (inf : K) (f : List K → K) (P : List (List K)) (ws : List K)
    (hlen : P.length = ws.length) (hw : ws.sum ≠ 0) :
    expectation inf f P ws = ((List.zip P ws).map fun xw => xw.2 * f xw.1).sum / ws.sum := by
  have h := mean_keptYW inf f id P ws hlen hw
  rw [List.map_id] at h
  exact h

theorem expectedVariance_eq (inf : K) (f : List K → K) (P : List (List K)) (ws : List K)
    (hlen : P.length = ws.length) (hw : ws.sum ≠ 0) :
    expectedVariance inf f P ws =
      ((List.zip P ws).map fun xw =>
        xw.2 * ((f xw.1 - expectation inf f P ws) * (f xw.1 - expectation inf f P ws))).sum / ws.sum := by
  have := mean_keptYW inf f (fun s => (s - expectation inf f P ws) * (s - expectation inf f P ws)) P ws hlen hw
  rw [← this]
  rfl

theorem mean_imposeMean (inf : K) (v : K) (xs ws : List K) (hl : xs.length = ws.length) (hw : ws.sum ≠ 0) :
    mean inf (imposeMean inf v xs ws) ws = v := by
  have e : imposeMean inf v xs ws = xs.map fun x => x * 1 + (v - mean inf xs ws) :=
    List.map_congr_left fun x _ => by rw [mul_one]
  rw [e, mean_affine inf xs ws 1 _ hl hw, mul_one, add_sub_cancel]

theorem setCenterMass_spec (inf : K) (m : Measure K) (v : K) (hw : (mweights m).sum ≠ 0) :
    centerMass inf (setCenterMass inf m v) = v ∧ mweights (setCenterMass inf m v) = mweights m := by
  have hl : (imposeMean inf v (mpositions m) (mweights m)).length = m.length := by
    rw [imposeMean_length, length_mpositions]
  unfold centerMass setCenterMass
  rw [mweights_withPositions m _ hl, mpositions_withPositions m _ hl]
  exact ⟨mean_imposeMean inf v _ _ (length_mpositions_eq m) hw, rfl⟩

theorem spread_nonneg (l : List K) (sr : K) (h : spread l = some sr) : 0 ≤ sr := by
  cases l with
  | nil => exact absurd h (by simp [spread, maxL])
  | cons a l =>
    rw [spread_cons, Option.some.injEq] at h
    rw [← h]
    exact sub_nonneg.mpr (le_trans (foldl_min_le l a) (le_foldl_max l a))

theorem spread_map_affine (l : List K) (sc b : K) (hsc : 0 ≤ sc) :
    spread (l.map fun x => x * sc + b) = (spread l).map (· * sc) := by
  have hg : Monotone fun x : K => x * sc + b := fun x y h =>
    add_le_add (mul_le_mul_of_nonneg_right h hsc) le_rfl
  cases l with
  | nil => rfl
  | cons a l =>
    rw [List.map_cons, spread_cons, spread_cons, foldl_max_mono _ hg, foldl_min_mono _ hg, Option.map_some]
    exact congrArg some (by ring)

/-- positions scaled by `sc` and shifted back to the centre of mass of `m`: what the `range` and `var` setters do
    on a non-degenerate measure, each with its own factor -/
def rescale (inf : K) (m : Measure K) (sc : K) : Measure K :=
  withPositions m
    (imposeMean inf (mean inf (mpositions m) (mweights m)) ((mpositions m).map (· * sc)) (mweights m))

theorem setRange_eq (inf nan : K) (m : Measure K) (r sr : K) (hsr : range m = some sr) (hsr0 : sr ≠ 0) :
    setRange inf nan m r = some (rescale inf m (r / sr)) := by
  simp only [setRange, imposeSpread, show spread (mpositions m) = some sr from hsr]
  rw [if_neg (mt (truthy_false sr).mp hsr0)]
  rfl

theorem setVar_eq (inf nan : K) (sqrt : K → K) (m : Measure K) (v : K) (hv0 : variance inf m ≠ 0) :
    setVar inf nan sqrt m v = rescale inf m (sqrt (v / variance inf m)) := by
  have hv0' : moment2 inf (mpositions m) (mweights m) ≠ 0 := hv0
  simp only [setVar, imposeVariance]
  rw [if_neg (mt (truthy_false _).mp hv0')]
  rfl

theorem rescale_spec (inf : K) (m : Measure K) (sc : K) (hw : (mweights m).sum ≠ 0) :
    mweights (rescale inf m sc) = mweights m ∧ centerMass inf (rescale inf m sc) = centerMass inf m ∧
      variance inf (rescale inf m sc) = sc * sc * variance inf m ∧
      (0 ≤ sc → range (rescale inf m sc) = (range m).map (· * sc)) := by
  have hlx := length_mpositions_eq m
  have hlen := (imposeMean_length inf (mean inf (mpositions m) (mweights m)) ((mpositions m).map (· * sc))
    (mweights m)).trans ((List.length_map _).trans (length_mpositions m))
  have hws : mweights (rescale inf m sc) = mweights m := mweights_withPositions m _ hlen
  have hps : mpositions (rescale inf m sc) = _ := mpositions_withPositions m _ hlen
  refine ⟨hws, ?_, ?_, fun hsc => ?_⟩
  · rw [centerMass, hws, hps]
    exact mean_imposeMean inf _ _ _ (by rw [List.length_map]; exact hlx) hw
  · rw [variance, hws, hps, imposeMean_scale]
    exact moment2_affine inf _ _ _ _ hlx hw
  · rw [range, hps, imposeMean_scale]
    exact spread_map_affine _ _ _ hsc

theorem setRange_spec (inf nan : K) (m : Measure K) (r sr : K) (hw : (mweights m).sum ≠ 0)
    (hsr : range m = some sr) (hsr0 : sr ≠ 0) (hr : 0 ≤ r) :
    ∃ m', setRange inf nan m r = some m' ∧ range m' = some r ∧
      centerMass inf m' = centerMass inf m ∧ mweights m' = mweights m := by
  have hpos : 0 < sr := lt_of_le_of_ne (spread_nonneg _ _ hsr) (Ne.symm hsr0)
  obtain ⟨h1, h2, _, h4⟩ := rescale_spec inf m (r / sr) hw
  refine ⟨_, setRange_eq inf nan m r sr hsr hsr0, ?_, h2, h1⟩
  rw [h4 (div_nonneg hr hpos.le), hsr, Option.map_some, mul_div_cancel₀ r hsr0]

theorem setVar_spec (inf nan : K) (sqrt : K → K) (m : Measure K) (v : K) (hw : (mweights m).sum ≠ 0)
    (hv0 : variance inf m ≠ 0)
    (hsqrt : sqrt (v / variance inf m) * sqrt (v / variance inf m) = v / variance inf m) :
    variance inf (setVar inf nan sqrt m v) = v ∧
      centerMass inf (setVar inf nan sqrt m v) = centerMass inf m ∧
      mweights (setVar inf nan sqrt m v) = mweights m := by
  obtain ⟨h1, h2, h3, _⟩ := rescale_spec inf m (sqrt (v / variance inf m)) hw
  rw [setVar_eq inf nan sqrt m v hv0]
  exact ⟨by rw [h3, hsqrt, div_mul_cancel₀ v hv0], h2, h1⟩

end orderedField

end MysticVerif.Discrete
