/- What the functions of Model/Transforms.lean compute, for Props/C16.
The two directions of `sorting` / `monotonic` are one order, `Beyond asc`. -/
import MysticVerif.Model.Transforms
import MysticVerif.Proofs.ScalarFacts
import Mathlib.Tactic.Linarith
import Mathlib.Tactic.Ring
import Mathlib.Tactic.FieldSimp
import Mathlib.Tactic.Order
import Mathlib.Order.Basic
import Mathlib.Algebra.Order.Field.Basic
import Mathlib.Data.Rat.Floor

namespace MysticVerif.Trans

variable {R : Type}

theorem maskMap_getElem? (g : R → R) (sel : Nat → Bool) (x : List R) (k : Nat) :
    (maskMap g sel x)[k]? = (x[k]?).map (fun a => if sel k = true then g a else a) := by
  simp [maskMap, List.getElem?_mapIdx]

theorem wrapIdx_eq_some_iff (n : Nat) (i : Int) (k : Nat) :
    wrapIdx n i = some k ↔ k < n ∧ ((k : Int) = i ∨ (k : Int) - n = i) := by
  unfold wrapIdx
  split
  · split
    · rw [Option.some.injEq]; omega
    · simp only [reduceCtorEq, false_iff]; omega
  · split
    · rw [Option.some.injEq]; omega
    · simp only [reduceCtorEq, false_iff]; omega

theorem wrapIdx_lt {n : Nat} {i : Int} {k : Nat} (h : wrapIdx n i = some k) : k < n :=
  ((wrapIdx_eq_some_iff n i k).mp h).1

theorem wrapIdx_none (n : Nat) (i : Int) (h : (n : Int) ≤ i ∨ i < -(n : Int)) : wrapIdx n i = none := by
  refine Option.eq_none_iff_forall_ne_some.mpr fun k hk => ?_
  have := (wrapIdx_eq_some_iff n i k).mp hk
  omega

theorem wrapIdx_some (n : Nat) (i : Int) (h : -(n : Int) ≤ i ∧ i < n) : ∃ k, wrapIdx n i = some k := by
  rcases le_or_gt 0 i with h0 | h0
  · exact ⟨i.toNat, (wrapIdx_eq_some_iff n i _).mpr (by omega)⟩
  · exact ⟨(i + n).toNat, (wrapIdx_eq_some_iff n i _).mpr (by omega)⟩

theorem wrapAll_cons_eq_some (n : Nat) (i : Int) (is : List Int) (ks : List Nat) :
    wrapAll n (i :: is) = some ks ↔ ∃ k ks', wrapIdx n i = some k ∧ wrapAll n is = some ks' ∧ ks = k :: ks' := by
  rw [wrapAll]
  cases wrapIdx n i <;> cases wrapAll n is <;> simp [eq_comm]

theorem wrapAll_none_of_mem (n : Nat) (is : List Int) (i : Int) (hi : i ∈ is) (h : wrapIdx n i = none) :
    wrapAll n is = none := by
  induction is with
  | nil => simp at hi
  | cons j js ih =>
    simp only [wrapAll]
    rcases List.mem_cons.mp hi with rfl | hj
    · rw [h]
    · rw [ih hj]
      cases wrapIdx n j <;> rfl

theorem wrapAll_some (n : Nat) (is : List Int) (hin : ∀ i ∈ is, -(n : Int) ≤ i ∧ i < n) :
    ∃ ks, wrapAll n is = some ks ∧ ∀ k, k < n → (k ∈ ks ↔ ((k : Int) ∈ is ∨ (k : Int) - n ∈ is)) := by
  induction is with
  | nil => exact ⟨[], rfl, by simp⟩
  | cons j js ih =>
    obtain ⟨ks, hks, hmem⟩ := ih (fun i hi => hin i (List.mem_cons_of_mem _ hi))
    obtain ⟨kj, hkj⟩ := wrapIdx_some n j (hin j List.mem_cons_self)
    have hor := (wrapIdx_eq_some_iff n j kj).mp hkj
    refine ⟨kj :: ks, (wrapAll_cons_eq_some n j js _).mpr ⟨kj, ks, hkj, hks, rfl⟩, fun k hk => ?_⟩
    have hj : k = kj ↔ ((k : Int) = j ∨ (k : Int) - n = j) := by omega
    rw [List.mem_cons, hmem k hk, hj, List.mem_cons, List.mem_cons, or_or_or_comm]

theorem wrapAll_length (n : Nat) (is : List Int) (ks : List Nat) (h : wrapAll n is = some ks) :
    is.length = ks.length := by
  induction is generalizing ks with
  | nil => cases h; rfl
  | cons i is ih =>
    obtain ⟨k, ks', -, ha, rfl⟩ := (wrapAll_cons_eq_some n i is ks).mp h
    rw [List.length_cons, List.length_cons, ih ks' ha]

theorem wrapAll_lt (n : Nat) (is : List Int) (ks : List Nat) (h : wrapAll n is = some ks) :
    ∀ k ∈ ks, k < n := by
  induction is generalizing ks with
  | nil => cases h; exact fun _ hk => nomatch hk
  | cons i is ih =>
    obtain ⟨k, ks', hi, ha, rfl⟩ := (wrapAll_cons_eq_some n i is ks).mp h
    exact List.forall_mem_cons.mpr ⟨wrapIdx_lt hi, ih ks' ha⟩

theorem clipAt_eq {K : Type} [LinearOrder K] (lo hi a : K) : clipAt lo hi a = min hi (max a lo) := by
  simp only [clipAt, max_def, min_def]

theorem clipAt_end_of_outside {K : Type} [LinearOrder K] {lo hi a : K} (hout : ¬ (lo ≤ a ∧ a ≤ hi)) :
    clipAt lo hi a = lo ∨ clipAt lo hi a = hi := by
  rw [clipAt_eq]
  rcases min_choice hi (max a lo) with h | h
  · exact .inr h
  · rcases max_choice a lo with h' | h'
    · rw [h'] at h
      exact absurd ⟨max_eq_left_iff.mp h', min_eq_right_iff.mp h⟩ hout
    · exact .inl (h.trans h')

theorem clipOpt_some {K : Type} [LinearOrder K] (lo hi a : K) :
    clipOpt (some lo) (some hi) a = clipAt lo hi a := by
  simp only [clipAt_eq, clipOpt, max_def_lt, min_def_lt]

theorem scatter_length (ks : List Nat) (vs : List R) (x : List R) : (scatter ks vs x).length = x.length := by
  induction ks generalizing vs x with
  | nil => rfl
  | cons k ks ih =>
    cases vs with
    | nil => rfl
    | cons v vs => rw [scatter, ih, List.length_set]

theorem scatter_not_mem (ks : List Nat) (vs : List R) (x : List R) (k : Nat) (hk : k ∉ ks) :
    (scatter ks vs x)[k]? = x[k]? := by
  induction ks generalizing vs x with
  | nil => rfl
  | cons k0 ks ih =>
    cases vs with
    | nil => rfl
    | cons v vs =>
      have : k0 ≠ k := fun h => hk (h ▸ List.mem_cons_self)
      rw [scatter, ih _ _ (fun h => hk (List.mem_cons_of_mem _ h)), List.getElem?_set_ne this]

theorem scatter_replicate_mem (ks : List Nat) (t : R) (x : List R) (k : Nat) (hk : k ∈ ks) (hlt : k < x.length) :
    (scatter ks (List.replicate ks.length t) x)[k]? = some t := by
  induction ks generalizing x with
  | nil => simp at hk
  | cons k0 ks ih =>
    rw [List.length_cons, List.replicate_succ, scatter]
    by_cases hmem : k ∈ ks
    · exact ih _ hmem (by rwa [List.length_set])
    · obtain rfl : k = k0 := (List.mem_cons.mp hk).resolve_right hmem
      rw [scatter_not_mem _ _ _ _ hmem, List.getElem?_set_self hlt]

theorem indexed_some_eq_ok {f : List R → List R} {is : List Int} {x y : List R} (h : indexed f (some is) x = .ok y) :
    y = x ∨ ∃ ks, wrapAll x.length is = some ks ∧ y = scatter (sortBy true ks) (f (gather (sortBy true ks) x)) x := by
  unfold indexed at h
  simp only at h
  split at h
  · exact .inl (Except.ok.inj h).symm
  · split at h
    · exact .inl (Except.ok.inj h).symm
    · split at h
      · cases h
      · split at h
        · cases h
        · exact .inr ⟨_, ‹_›, (Except.ok.inj h).symm⟩

/-- the slot a Python index addresses -/
def slot (n : Nat) (i : Int) : Option Nat := wrapIdx n i

theorem setPy_length (x : List R) (i : Int) (v : R) : (setPy x i v).length = x.length := by
  unfold setPy
  split
  · exact List.length_set
  · rfl

theorem setPy_getElem? (x : List R) (i : Int) (v : R) (k : Nat) :
    (setPy x i v)[k]? = if wrapIdx x.length i = some k then some v else x[k]? := by
  unfold setPy
  cases h : wrapIdx x.length i with
  | none => rfl
  | some k0 => simp only [List.getElem?_set, Option.some.injEq, wrapIdx_lt h, if_true]

/-- the last value written to slot `k` by a `partial` mask, if any -/
def lastWrite (n : Nat) : List (Int × R) → Nat → Option R
  | [], _ => none
  | e :: rest, k =>
    match lastWrite n rest k with
    | some v => some v
    | none => if wrapIdx n e.1 = some k then some e.2 else none

theorem partialMask_length (mask : List (Int × R)) (x : List R) : (partialMask mask x).length = x.length := by
  unfold partialMask
  induction mask generalizing x with
  | nil => rfl
  | cons e rest ih => rw [List.foldl_cons, ih, setPy_length]

theorem partialMask_getElem? (mask : List (Int × R)) (x : List R) (k : Nat) :
    (partialMask mask x)[k]? = (x[k]?).map (fun a => (lastWrite x.length mask k).getD a) := by
  unfold partialMask
  induction mask generalizing x with
  | nil => simp [lastWrite]
  | cons e rest ih =>
    rw [List.foldl_cons, ih, setPy_length, setPy_getElem?, lastWrite]
    by_cases hw : wrapIdx x.length e.1 = some k
    · rw [if_pos hw, if_pos hw, List.getElem?_eq_getElem (wrapIdx_lt hw)]
      cases lastWrite x.length rest k <;> rfl
    · rw [if_neg hw, if_neg hw]
      cases lastWrite x.length rest k <;> rfl

theorem absR_eq_abs {K : Type} [Field K] [LinearOrder K] [IsStrictOrderedRing K] (a : K) : absR a = |a| := ite_neg_eq_abs a

theorem eqR_iff {K : Type} [LinearOrder K] (a b : K) : eqR a b = true ↔ a = b := by
  rw [eqR, Bool.and_eq_true, decide_eq_true_eq, decide_eq_true_eq]
  exact le_antisymm_iff.symm

section sort
variable {K : Type} [LinearOrder K]

/-- in order: ascending (`asc`) or descending -/
def Ordered (asc : Bool) (l : List K) : Prop := l.Pairwise (fun a b => if asc = true then a ≤ b else b ≤ a)

/-- `b` is at least as far along as `m` -/
def Beyond (asc : Bool) (m b : K) : Prop := if asc = true then m ≤ b else b ≤ m

section beyond
variable {asc : Bool} {a b c : K}

theorem Beyond.refl (asc : Bool) (a : K) : Beyond asc a a := by
  cases asc <;> exact le_refl a

theorem Beyond.trans (h1 : Beyond asc a b) (h2 : Beyond asc b c) : Beyond asc a c := by
  cases asc
  · exact le_trans h2 h1
  · exact le_trans h1 h2

/-! `ins` and `accumGo` test the strict part of `Beyond asc` -/

theorem Beyond.of_before (h : if asc = true then a < b else b < a) : Beyond asc a b := by
  cases asc <;> exact le_of_lt h

theorem Beyond.iff_not_before : Beyond asc b a ↔ ¬ if asc = true then a < b else b < a := by
  cases asc <;> exact not_lt.symm

end beyond

theorem Ordered.getElem?_beyond {asc : Bool} {s : List K} (hs : Ordered asc s) {i j : Nat} (hij : i ≤ j) {a b : K}
    (ha : s[i]? = some a) (hb : s[j]? = some b) : Beyond asc a b := by
  obtain ⟨hi, rfl⟩ := List.getElem?_eq_some_iff.mp ha
  obtain ⟨hj, rfl⟩ := List.getElem?_eq_some_iff.mp hb
  rcases Nat.eq_or_lt_of_le hij with rfl | hlt
  · exact .refl asc _
  · exact List.pairwise_iff_getElem.mp hs i j hi hj hlt

theorem ins_perm (asc : Bool) (a : K) (l : List K) : (ins asc a l).Perm (a :: l) := by
  induction l with
  | nil => exact .refl _
  | cons b t ih =>
    by_cases hab : (if asc = true then a < b else b < a)
    · rw [ins, if_pos hab]
    · rw [ins, if_neg hab]; exact (List.Perm.cons b ih).trans (List.Perm.swap a b t)

theorem ins_ordered (asc : Bool) (a : K) (l : List K) (h : Ordered asc l) : Ordered asc (ins asc a l) := by
  induction l with
  | nil => exact List.pairwise_singleton _ _
  | cons b t ih =>
    have hb : ∀ c ∈ t, Beyond asc b c := fun c hc => List.rel_of_pairwise_cons h hc
    by_cases hab : (if asc = true then a < b else b < a)
    · rw [ins, if_pos hab]
      have hab : Beyond asc a b := .of_before hab
      exact List.Pairwise.cons (List.forall_mem_cons.mpr ⟨hab, fun c hc => hab.trans (hb c hc)⟩) h
    · rw [ins, if_neg hab]
      refine List.Pairwise.cons (fun c hc => ?_) (ih (List.Pairwise.of_cons h))
      rcases List.mem_cons.mp ((ins_perm asc a t).subset hc) with rfl | hc
      · exact Beyond.iff_not_before.mpr hab
      · exact hb c hc

theorem foldl_ins_perm (asc : Bool) (l acc : List K) :
    (l.foldl (fun acc a => ins asc a acc) acc).Perm (acc ++ l) := by
  induction l generalizing acc with
  | nil => simp
  | cons a t ih => exact (ih _).trans (((ins_perm asc a acc).append_right t).trans List.perm_middle.symm)

theorem foldl_ins_ordered (asc : Bool) (l acc : List K) (h : Ordered asc acc) :
    Ordered asc (l.foldl (fun acc a => ins asc a acc) acc) := by
  induction l generalizing acc with
  | nil => exact h
  | cons a t ih => exact ih _ (ins_ordered asc a acc h)

theorem sortBy_perm (asc : Bool) (x : List K) : (sortBy asc x).Perm x := by
  simpa [sortBy] using foldl_ins_perm asc x []

theorem sortBy_ne_nil (asc : Bool) {x : List K} (h : x ≠ []) : sortBy asc x ≠ [] :=
  fun h' => h (List.Perm.eq_nil (h' ▸ (sortBy_perm asc x).symm))

theorem sortBy_ordered (asc : Bool) (x : List K) : Ordered asc (sortBy asc x) :=
  foldl_ins_ordered asc x [] List.Pairwise.nil

theorem ins_append (asc : Bool) (a : K) (l : List K) (h : ∀ b ∈ l, Beyond asc b a) : ins asc a l = l ++ [a] := by
  induction l with
  | nil => rfl
  | cons b t ih =>
    rw [ins, if_neg (Beyond.iff_not_before.mp (h b List.mem_cons_self)), ih fun c hc => h c (List.mem_cons_of_mem _ hc)]
    rfl

theorem foldl_ins_fix (asc : Bool) (l acc : List K) (h : Ordered asc (acc ++ l)) :
    l.foldl (fun acc a => ins asc a acc) acc = acc ++ l := by
  induction l generalizing acc with
  | nil => simp
  | cons a t ih =>
    have hins : ins asc a acc = acc ++ [a] :=
      ins_append asc a acc fun b hb => (List.pairwise_append.mp h).2.2 b hb a List.mem_cons_self
    rw [List.foldl_cons, hins, ih (acc ++ [a]) (by simpa using h), List.append_assoc, List.singleton_append]

/-- the step of `accumGo`: the further along of `m` and `b`, `b` on a tie -/
def further (asc : Bool) (m b : K) : K := if (if asc = true then b < m else m < b) then m else b

theorem accumGo_cons (asc : Bool) (m b : K) (t : List K) :
    accumGo asc m (b :: t) = further asc m b :: accumGo asc (further asc m b) t := rfl

theorem further_beyond (asc : Bool) (m b : K) : Beyond asc m (further asc m b) ∧ Beyond asc b (further asc m b) := by
  by_cases h : (if asc = true then b < m else m < b)
  · rw [further, if_pos h]; exact ⟨.refl asc m, .of_before h⟩
  · rw [further, if_neg h]; exact ⟨Beyond.iff_not_before.mpr h, .refl asc b⟩

theorem accumGo_spec (asc : Bool) (l : List K) (m : K) :
    Ordered asc (accumGo asc m l) ∧ ∀ b ∈ accumGo asc m l, Beyond asc m b := by
  induction l generalizing m with
  | nil => exact ⟨List.Pairwise.nil, fun _ h => nomatch h⟩
  | cons b t ih =>
    obtain ⟨h1, h2⟩ := ih (further asc m b)
    have hm := (further_beyond asc m b).1
    exact ⟨List.Pairwise.cons h2 h1, List.forall_mem_cons.mpr ⟨hm, fun c hc => hm.trans (h2 c hc)⟩⟩

theorem accum_ordered (asc : Bool) (x : List K) : Ordered asc (accum asc x) := by
  cases x with
  | nil => exact List.Pairwise.nil
  | cons a t =>
    obtain ⟨h1, h2⟩ := accumGo_spec asc t a
    exact List.Pairwise.cons h2 h1

theorem accumGo_fix (asc : Bool) (l : List K) (m : K) (h : Ordered asc (m :: l)) : accumGo asc m l = l := by
  induction l generalizing m with
  | nil => rfl
  | cons b t ih =>
    rw [accumGo_cons, further, if_neg (Beyond.iff_not_before.mp (List.rel_of_pairwise_cons h List.mem_cons_self)),
      ih b (List.Pairwise.of_cons h)]

theorem accumGo_forall₂_beyond (asc : Bool) (l : List K) (m : K) : List.Forall₂ (Beyond asc) l (accumGo asc m l) := by
  induction l generalizing m with
  | nil => exact .nil
  | cons b t ih => exact .cons (further_beyond asc m b).2 (ih _)

theorem accum_forall₂_beyond (asc : Bool) (x : List K) : List.Forall₂ (Beyond asc) x (accum asc x) := by
  cases x with
  | nil => exact .nil
  | cons c t => exact .cons (.refl asc c) (accumGo_forall₂_beyond asc t c)

end sort

section stats
variable {K : Type} [Field K]

theorem sum_map_add_const (x : List K) (s : K) : (x.map (· + s)).sum = x.sum + (x.length : K) * s := by
  induction x with
  | nil => simp
  | cons a t ih => simp only [List.map_cons, List.sum_cons, List.length_cons, ih]; push_cast; ring

theorem sum_map_div (x : List K) (w : K) : (x.map (· / w)).sum = x.sum / w := by
  induction x with
  | nil => simp
  | cons a t ih => simp only [List.map_cons, List.sum_cons, ih]; ring

theorem sum_map_mul_div (x : List K) (c d : K) : (x.map (fun a => c * a / d)).sum = c * x.sum / d := by
  induction x with
  | nil => simp
  | cons a t ih => simp only [List.map_cons, List.sum_cons, ih]; ring

variable [LinearOrder K]

theorem withMean_eq_ok {sum : List K → K} {ofNat : Nat → K} {atol rtol target : K} {x y : List K}
    (h : withMean sum ofNat atol rtol target x = .ok y) :
    x ≠ [] ∧ ((close atol rtol (meanL sum ofNat x) target = true ∧ y = x) ∨ y = imposeMean sum ofNat target x) := by
  unfold withMean at h
  split at h
  · cases h
  · rename_i hne
    refine ⟨fun h0 => hne (List.isEmpty_iff.mpr h0), ?_⟩
    split at h
    · exact .inl ⟨‹_›, (Except.ok.inj h).symm⟩
    · exact .inr (Except.ok.inj h).symm

variable [IsStrictOrderedRing K]

theorem close_iff (atol rtol a b : K) : close atol rtol a b = true ↔ |a - b| ≤ atol + rtol * |b| := by
  simp only [close, absR_eq_abs, decide_eq_true_eq]

theorem close_self (atol rtol a : K) (h0 : 0 ≤ atol) (h1 : 0 ≤ rtol) : close atol rtol a a = true := by
  rw [close_iff, sub_self, abs_zero]
  exact add_nonneg h0 (mul_nonneg h1 (abs_nonneg a))

theorem mean_imposeMean (m : K) (x : List K) (hx : x ≠ []) :
    meanL List.sum Nat.cast (imposeMean List.sum Nat.cast m x) = m := by
  unfold imposeMean meanL
  simp only [List.length_map]
  rw [sum_map_add_const]
  have hn : (x.length : K) ≠ 0 := by
    have : x.length ≠ 0 := fun h => hx (List.eq_nil_of_length_eq_zero h)
    exact_mod_cast this
  field_simp
  ring

theorem abs_sum_le (x : List K) : |x.sum| ≤ (x.map absR).sum := by
  induction x with
  | nil => simp
  | cons a t ih =>
    rw [List.map_cons, List.sum_cons, List.sum_cons, absR_eq_abs]
    exact (abs_add_le a t.sum).trans (add_le_add_right ih |a|)

theorem sum_abs_ne_zero (x : List K) (hs : x.sum ≠ 0) : (x.map absR).sum ≠ 0 := by
  intro h
  exact hs (abs_eq_zero.mp (le_antisymm (h ▸ abs_sum_le x) (abs_nonneg _)))

end stats

theorem rintHE_cases {K : Type} [Field K] [LinearOrder K] (floor : K → K) (a : K) :
    (rintHE floor a = floor a ∧ a - floor a ≤ 1 / 2) ∨ (rintHE floor a = floor a + 1 ∧ 1 / 2 ≤ a - floor a) := by
  unfold rintHE
  simp only
  split_ifs with h1 h2 h3
  · exact .inl ⟨rfl, le_of_lt h1⟩
  · exact .inr ⟨rfl, le_of_lt h2⟩
  · exact .inl ⟨rfl, not_lt.mp h2⟩
  · exact .inr ⟨rfl, not_lt.mp h1⟩

/-- `hf` is the contract `C16.IsFloor`: such a `floor` is `m` on `[m, m + 1)` -/
theorem floor_eq_of_le_of_lt {K : Type} [Field K] [LinearOrder K] [IsStrictOrderedRing K] {floor : K → K}
    (hf : ∀ a, ∃ n : ℤ, floor a = (n : K) ∧ (n : K) ≤ a ∧ a < (n : K) + 1) {a : K} {m : ℤ}
    (h1 : (m : K) ≤ a) (h2 : a < (m : K) + 1) : floor a = (m : K) := by
  obtain ⟨n, hn, g1, g2⟩ := hf a
  have e1 := g1.trans_lt h2
  have e2 := h1.trans_lt g2
  rw [← Int.cast_one, ← Int.cast_add, Int.cast_lt, Int.lt_add_one_iff] at e1 e2
  rw [hn, le_antisymm e1 e2]

section disc
variable {K : Type} [LinearOrder K]

theorem countLt_cons (b : K) (t : List K) (xi : K) :
    countLt (b :: t) xi = if b < xi then countLt t xi + 1 else countLt t xi := by
  by_cases h : b < xi <;> simp only [countLt, List.filter_cons, h, decide_true, decide_false, if_true, if_false,
    List.length_cons, Bool.false_eq_true]

/-- in an ascending list the entries `< xi` are exactly the first `countLt s xi` ones -/
theorem countLt_prefix (s : List K) (hs : Ordered true s) (xi : K) :
    (∀ i v, i < countLt s xi → s[i]? = some v → v < xi) ∧ (∀ i v, countLt s xi ≤ i → s[i]? = some v → xi ≤ v) := by
  induction s with
  | nil => exact ⟨fun i v hi => absurd hi (Nat.not_lt_zero i), fun i v _ hv => by rw [List.getElem?_nil] at hv; cases hv⟩
  | cons b t ih =>
    obtain ⟨ih1, ih2⟩ := ih (List.Pairwise.of_cons hs)
    rw [countLt_cons]
    by_cases hlt : b < xi
    · rw [if_pos hlt]
      constructor
      · intro i v hi hv
        cases i with
        | zero => rw [List.getElem?_cons_zero] at hv; cases hv; exact hlt
        | succ i => exact ih1 i v (Nat.lt_of_succ_lt_succ hi) hv
      · intro i v hi hv
        cases i with
        | zero => exact absurd hi (Nat.not_succ_le_zero _)
        | succ i => exact ih2 i v (Nat.le_of_succ_le_succ hi) hv
    · -- `b` is least: no entry is `< xi`
      have hge : ∀ c ∈ b :: t, xi ≤ c := List.forall_mem_cons.mpr
        ⟨not_lt.mp hlt, fun c hc => (not_lt.mp hlt).trans (List.rel_of_pairwise_cons hs hc)⟩
      have h0 : countLt t xi = 0 := by
        rw [countLt, List.length_eq_zero_iff, List.filter_eq_nil_iff]
        exact fun c hc => by rw [decide_eq_true_eq]; exact not_lt.mpr (hge c (List.mem_cons_of_mem _ hc))
      rw [if_neg hlt, h0]
      exact ⟨fun i v hi => absurd hi (Nat.not_lt_zero i), fun i v _ hv => hge v (List.mem_of_getElem? hv)⟩

theorem getElem?_countLt_of_mem (s : List K) (hs : Ordered true s) (xi : K) (hmem : xi ∈ s) :
    s[countLt s xi]? = some xi := by
  obtain ⟨h1, h2⟩ := countLt_prefix s hs xi
  obtain ⟨j, hj, hjx⟩ := List.getElem_of_mem hmem
  have hsj : s[j]? = some xi := by rw [List.getElem?_eq_getElem hj, hjx]
  have hcj : countLt s xi ≤ j := not_lt.mp fun h => lt_irrefl _ (h1 j xi h hsj)
  have hc : countLt s xi < s.length := lt_of_le_of_lt hcj hj
  rw [List.getElem?_eq_getElem hc]
  exact congrArg some (le_antisymm (hs.getElem?_beyond hcj (List.getElem?_eq_getElem hc) hsj)
    (h2 _ _ (le_refl _) (List.getElem?_eq_getElem hc)))

end disc

section near
variable {K : Type} [Field K] [LinearOrder K]

theorem near_cases {P : K → Prop} {xi lo hi : K} (hlo : P lo) (hhi : P hi) : P (near xi lo hi) := by
  unfold near
  split
  · exact hhi
  · exact hlo

theorem near_self_right [IsStrictOrderedRing K] {xi lo : K} (h : lo ≤ xi) : near xi lo xi = xi := by
  unfold near
  split
  · rfl
  · rename_i hn
    rw [sub_self, sub_pos] at hn
    exact le_antisymm h (not_lt.mp hn)

theorem discrete_eq_ok_iff (samples : List K) (idx : Option (List Int)) (x y : List K) :
    discrete samples idx x = .ok y ↔
      x ≠ [] ∧ samples ≠ [] ∧ maskMap (nearS (sortBy true samples)) (selMask x.length idx) x = y := by
  unfold discrete
  cases x <;> cases samples <;> simp

end near

section uniq
variable {R : Type} [BEq R] [LawfulBEq R]

-- invariant: the pool `new` has no repeats and is disjoint from `seen` and from the rest of the input
theorem uniqueGo_spec : ∀ (x seen new y : List R), uniqueGo x seen new = .ok y → new.Nodup →
    (∀ v ∈ new, v ∉ seen ∧ v ∉ x) →
    y.Nodup ∧ (∀ b ∈ y, b ∉ seen) ∧ (∀ b ∈ y, b ∈ x ∨ b ∈ new) := by
  intro x
  induction x with
  | nil =>
    intro seen new y hy _ _
    cases hy
    exact ⟨List.nodup_nil, List.forall_mem_nil _, List.forall_mem_nil _⟩
  | cons a t ih =>
    intro seen new y hy hnd hnew
    rw [uniqueGo] at hy
    split at hy
    · -- `a` is a repeat: `v`, popped from the pool, takes its place
      split at hy
      · cases hy
      · rename_i v rest hrev
        obtain rfl : new = rest.reverse ++ [v] := by rw [← List.reverse_reverse new, hrev, List.reverse_cons]
        cases hr : uniqueGo t seen rest.reverse with
        | error e => rw [hr] at hy; cases hy
        | ok y' =>
          rw [hr] at hy
          cases hy
          have hv : v ∉ rest.reverse := fun h => (List.nodup_append.mp hnd).2.2 v h v (List.mem_singleton_self v) rfl
          have hvn := hnew v (List.mem_append_right _ (List.mem_singleton_self v))
          obtain ⟨i1, i2, i3⟩ := ih seen rest.reverse y' hr (List.nodup_append.mp hnd).1 fun w hw =>
            ⟨(hnew w (List.mem_append_left _ hw)).1, fun h => (hnew w (List.mem_append_left _ hw)).2 (List.mem_cons_of_mem _ h)⟩
          refine ⟨List.nodup_cons.mpr ⟨fun h => ?_, i1⟩, List.forall_mem_cons.mpr ⟨hvn.1, i2⟩,
            List.forall_mem_cons.mpr ⟨.inr (List.mem_append_right _ (List.mem_singleton_self v)), fun b hb => ?_⟩⟩
          · exact (i3 v h).elim (fun h => hvn.2 (List.mem_cons_of_mem _ h)) hv
          · exact (i3 b hb).imp (List.mem_cons_of_mem _) (List.mem_append_left _)
    · -- `a` is new: kept, and from now on seen
      rename_i hseen
      cases hr : uniqueGo t (a :: seen) new with
      | error e => rw [hr] at hy; cases hy
      | ok y' =>
        rw [hr] at hy
        cases hy
        obtain ⟨i1, i2, i3⟩ := ih (a :: seen) new y' hr hnd fun w hw =>
          ⟨fun h => (List.mem_cons.mp h).elim (fun e => (hnew w hw).2 (e ▸ List.mem_cons_self)) (hnew w hw).1,
            fun h => (hnew w hw).2 (List.mem_cons_of_mem _ h)⟩
        exact ⟨List.nodup_cons.mpr ⟨fun h => i2 a h List.mem_cons_self, i1⟩,
          List.forall_mem_cons.mpr ⟨fun hm => hseen (List.contains_iff_mem.mpr hm),
            fun b hb h => i2 b hb (List.mem_cons_of_mem _ h)⟩,
          List.forall_mem_cons.mpr ⟨.inl List.mem_cons_self, fun b hb => (i3 b hb).imp_left (List.mem_cons_of_mem _)⟩⟩

end uniq

section argmin
variable {K : Type} [LinearOrder K] {α : Type}

/-- `c`, at index `i`, is the FIRST minimiser of `f` over `l` -/
structure FirstMin (f : α → K) (l : List α) (i : Nat) (c : α) : Prop where
  get : l[i]? = some c
  le : ∀ v ∈ l, f c ≤ f v
  lt : ∀ v ∈ l.take i, f c < f v

theorem FirstMin.lt_of_getElem? {f : α → K} {l : List α} {i : Nat} {c : α} (h : FirstMin f l i c) {j : Nat} {v : α}
    (hj : j < i) (hv : l[j]? = some v) : f c < f v :=
  h.lt v (List.mem_of_getElem? ((List.getElem?_take_of_lt hj).trans hv))

theorem FirstMin.snoc {pre : List K} {bi : Nat} {best : K} (h : FirstMin id pre bi best) (d : K) :
    FirstMin id (pre ++ [d]) (if d < best then pre.length else bi) (if d < best then d else best) := by
  by_cases hd : d < best
  · rw [if_pos hd, if_pos hd]
    refine ⟨List.getElem?_concat_length, List.forall_mem_append.mpr ⟨fun v hv => (hd.trans_le (h.le v hv)).le, ?_⟩, ?_⟩
    · exact List.forall_mem_singleton.mpr (le_refl d)
    · rw [List.take_left' rfl]
      exact fun v hv => hd.trans_le (h.le v hv)
  · have hbi : bi < pre.length := (List.getElem?_eq_some_iff.mp h.get).1
    rw [if_neg hd, if_neg hd]
    refine ⟨(List.getElem?_append_left hbi).trans h.get,
      List.forall_mem_append.mpr ⟨h.le, List.forall_mem_singleton.mpr (not_lt.mp hd)⟩, ?_⟩
    rw [List.take_append_of_le_length hbi.le]
    exact h.lt

theorem argminGo_spec (t : List K) (pre : List K) (best : K) (bi : Nat) (h : FirstMin id pre bi best) :
    ∃ b, FirstMin id (pre ++ t) (argminGo t pre.length best bi) b := by
  induction t generalizing pre best bi with
  | nil => exact ⟨best, by rw [List.append_nil]; exact h⟩
  | cons d t ih =>
    have := ih (pre ++ [d]) _ _ (h.snoc d)
    rw [List.length_append, List.length_singleton, List.append_assoc, List.singleton_append] at this
    by_cases hd : d < best
    · rw [argminGo, if_pos hd]
      rwa [if_pos hd, if_pos hd] at this
    · rw [argminGo, if_neg hd]
      rwa [if_neg hd, if_neg hd] at this

theorem argminFirst_firstMin (l : List K) (hl : l ≠ []) : ∃ b, FirstMin id l (argminFirst l) b := by
  cases l with
  | nil => exact absurd rfl hl
  | cons d t =>
    exact argminGo_spec t [d] d 0 ⟨rfl, List.forall_mem_singleton.mpr (le_refl d), fun _ hv => nomatch hv⟩

theorem argminFirst_map_spec (f : α → K) (l : List α) (hl : l ≠ []) :
    ∃ c, FirstMin f l (argminFirst (l.map f)) c := by
  obtain ⟨b, hb⟩ := argminFirst_firstMin (l.map f) (by rwa [ne_eq, List.map_eq_nil_iff])
  obtain ⟨c, hc, rfl⟩ := Option.map_eq_some_iff.mp ((List.getElem?_map ..).symm.trans hb.get)
  exact ⟨c, hc, fun v hv => hb.le (f v) (List.mem_map_of_mem hv),
    fun v hv => hb.lt (f v) (by rw [← List.map_take]; exact List.mem_map_of_mem hv)⟩

end argmin

section clipnear
variable {K : Type} [Field K] [LinearOrder K]

theorem bounded_of_ne_nil {ivs : List (K × K)} (hne : ivs ≠ []) (idx : Option (List Int)) (x : List K) :
    bounded ivs idx x = maskMap (boundedAt ivs) (selPos idx) x :=
  if_neg (mt List.isEmpty_iff.mp hne)

theorem boundedAt_of_inAny {ivs : List (K × K)} {a : K} (h : inAny ivs a = true) : boundedAt ivs a = a :=
  if_pos h

theorem clipNear_spec [IsStrictOrderedRing K] (ivs : List (K × K)) (hne : ivs ≠ []) (a : K) :
    ∃ iL iH C D, FirstMin (fun iv : K × K => |a - iv.1|) ivs iL C ∧ FirstMin (fun iv : K × K => |a - iv.2|) ivs iH D ∧
      clipNear ivs a = clipAt C.1 D.2 a := by
  obtain ⟨C, hC⟩ := argminFirst_map_spec (fun iv : K × K => absR (a - iv.1)) ivs hne
  obtain ⟨D, hD⟩ := argminFirst_map_spec (fun iv : K × K => absR (a - iv.2)) ivs hne
  have hclip : clipNear ivs a = clipAt C.1 D.2 a := by
    simp only [clipNear, List.map_map, List.getElem?_map, Function.comp_def, hC.get, hD.get, Option.map_some,
      Option.getD_some]
  simp only [absR_eq_abs] at hC hD
  exact ⟨_, _, C, D, hC, hD, hclip⟩

end clipnear

end MysticVerif.Trans
