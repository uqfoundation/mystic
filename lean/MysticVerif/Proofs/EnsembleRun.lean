/- lemmas for the runtime part of C09 (Model/EnsembleRun.lean): members as closed loops, evaluation logs, step-wise mode -/
import MysticVerif.Model.EnsembleRun
import MysticVerif.Proofs.ClosedLoop
import MysticVerif.Proofs.ReconfigNM
import MysticVerif.Props.C06Closed

namespace MysticVerif.Ens
open MysticVerif.Solver MysticVerif.Closed

section Run
variable {P S X E : Type}

theorem solveMembers_eq_map (nd : Nested P S X E) (fuel : Nat) (c0 : Ctl) (at_ : Nat) : ∀ (pts : List P) (i : Nat),
    solveMembers nd fuel c0 at_ i pts =
      (pts.zipIdx i).map fun q => memberOf nd (memberRun nd fuel c0 q.1).ctl (memberRun nd fuel c0 q.1).st (q.2 + at_) := by
  intro pts
  induction pts with
  | nil => intro i; simp [solveMembers]
  | cons p ps ih => intro i; simp [solveMembers, ih (i + 1), List.zipIdx_cons]

theorem solveMembers_length (nd : Nested P S X E) (fuel : Nat) (c0 : Ctl) (at_ : Nat) (pts : List P) (i : Nat) :
    (solveMembers nd fuel c0 at_ i pts).length = pts.length := by
  rw [solveMembers_eq_map]; simp

theorem solveMembers_get (nd : Nested P S X E) (fuel : Nat) (c0 : Ctl) (at_ : Nat) (pts : List P) (i j : Nat) :
    (solveMembers nd fuel c0 at_ i pts)[j]? =
      pts[j]?.map fun p => memberOf nd (memberRun nd fuel c0 p).ctl (memberRun nd fuel c0 p).st (i + j + at_) := by
  rw [solveMembers_eq_map, List.getElem?_map, List.getElem?_zipIdx]
  cases pts[j]? <;> simp

theorem solveMembers_map {β : Type} (nd : Nested P S X E) (fuel : Nat) (c0 : Ctl) (at_ : Nat) (f : Member X E → β)
    (g : P → β) (hfg : ∀ p id, f (memberOf nd (memberRun nd fuel c0 p).ctl (memberRun nd fuel c0 p).st id) = g p) :
    ∀ (pts : List P) (i : Nat), (solveMembers nd fuel c0 at_ i pts).map f = pts.map g := by
  intro pts
  induction pts with
  | nil => exact fun _ => rfl
  | cons p ps ih => intro i; rw [solveMembers, List.map_cons, List.map_cons, hfg, ih (i + 1)]

end Run

section NMAlg
variable {R : Type} [Add R] [Sub R] [Mul R] [Div R] [Neg R] [LinearOrder R] [BEq R] [OfNat R 0] [OfNat R 2]

/-- the invariant of a Nelder-Mead run: before the initial evaluation (`k = 0`) the evaluation log is empty -/
def nmFresh (s : NM R R) (k : Nat) : Prop := k = 0 → s.log.length = 0

theorem nmAlg_mono (o : Obj (Pt R) R) (coef : Coef R) (st clip0 mkVal : Pt R → Pt R) (cond : Term.Cond R) (x0 : Pt R)
    (s : NM R R) (k : Nat) (h : nmFresh s k) :
    (nmAlg o coef st clip0 mkVal cond x0).nlog s ≤
      (nmAlg o coef st clip0 mkVal cond x0).nlog ((nmAlg o coef st clip0 mkVal cond x0).step s k) := by
  simp only [nmAlg]
  by_cases h0 : k = 0
  · simp [h0, h h0]
  · by_cases h1 : k = 1
    · simp only [h1, if_true]
      simpa using (NM.gen1_appended o clip0 mkVal s).isPrefix.length_le
    · simp only [h0, h1, if_false]
      exact (NM.update_appended o coef st s).isPrefix.length_le

end NMAlg

section Steps
variable {P S X E : Type}

/-- `n` member `Step()`s -/
def memberSteps (a : Alg S) : Nat → MState S → MState S
  | 0, m => m
  | n + 1, m => memberSteps a n (memberStep a m)

theorem memberSteps_add (a : Alg S) : ∀ (j i : Nat) (m : MState S),
    memberSteps a (j + i) m = memberSteps a i (memberSteps a j m) := by
  intro j i
  induction j with
  | zero => intro m; rw [Nat.zero_add]; rfl
  | succ j ih =>
    intro m
    rw [Nat.add_right_comm j 1 i]
    exact ih (memberStep a m)

theorem ensSteps_eq_map (nd : Nested P S X E) : ∀ (n : Nat) (ms : List (P × MState S)),
    ensSteps nd n ms = ms.map fun pm => (pm.1, memberSteps (nd.alg pm.1) n pm.2) := by
  intro n
  induction n with
  | zero => intro ms; simp [ensSteps, memberSteps]
  | succ n ih =>
    intro ms
    simp only [ensSteps, ih, ensStep, List.map_map]
    apply List.map_congr_left
    intro pm _
    simp [memberSteps]

theorem viewMembers_eq_solveMembers (nd : Nested P S X E) (fuel : Nat) (c0 : Ctl) (at_ : Nat) (f : P → MState S) :
    ∀ (pts : List P) (i : Nat),
      (∀ p ∈ pts, (f p).st = (memberRun nd fuel c0 p).st ∧ (f p).ctl.evals = (memberRun nd fuel c0 p).ctl.evals ∧
        (f p).ctl.gens = (memberRun nd fuel c0 p).ctl.gens) →
      viewMembers nd at_ i (pts.map fun p => (p, f p)) = solveMembers nd fuel c0 at_ i pts := by
  intro pts
  induction pts with
  | nil => exact fun _ _ => rfl
  | cons p ps ih =>
    intro i h
    obtain ⟨e1, e2, e3⟩ := h p (List.mem_cons_self ..)
    rw [List.map_cons, viewMembers, solveMembers, ih (i + 1) fun q hq => h q (List.mem_cons_of_mem _ hq)]
    simp only [memberOf, e1, e2, e3]

/-- `_live = True` and nothing else -/
def relive (c : Ctl) : Ctl := { c with live := true }

theorem counters_of_relive {c d : Ctl} (h : relive c = relive d) :
    c.evals = d.evals ∧ c.gens = d.gens ∧ c.nstep = d.nstep :=
  ⟨(congrArg Ctl.evals h :), (congrArg Ctl.gens h :), (congrArg Ctl.nstep h :)⟩

/-- both limits are numbers (`_SetEvaluationLimits` has run) -/
def Resolved (c : Ctl) : Prop := (∃ g, c.maxiter = .val g) ∧ ∃ e, c.maxfun = .val e

theorem resolve_resolved (c : Ctl) : Resolved c.resolve := by
  refine ⟨C05.resolve_maxiter_isVal c, ?_⟩
  unfold Ctl.resolve
  cases c.maxfun <;> simp

theorem resolve_of_resolved (c : Ctl) (h : Resolved c) : c.resolve = c := by
  obtain ⟨⟨g, hg⟩, ⟨e, he⟩⟩ := h
  unfold Ctl.resolve
  rw [hg, he]
  cases c
  simp_all

theorem pre_of_resolved (c : Ctl) (h : Resolved c) (hn : c.nstep ≠ 0) : c.pre = relive c := by
  unfold Ctl.pre
  rw [if_neg hn]
  exact resolve_of_resolved _ h

theorem pre_resolved (c : Ctl) (hn : c.nstep ≠ 0) : Resolved c.pre := by
  unfold Ctl.pre
  rw [if_neg hn]
  exact resolve_resolved _

theorem after_resolved (c : Ctl) (d : Delta) : Resolved (c.after d) := by
  unfold Ctl.after
  exact resolve_resolved _

theorem pre_live (c : Ctl) : c.pre.live = true := by
  unfold Ctl.pre; split <;> simp [Ctl.resolve]

theorem after_live (c : Ctl) (d : Delta) : (c.after d).live = true := by
  unfold Ctl.after; simp [Ctl.resolve, pre_live]

theorem relive_of_live (c : Ctl) (h : c.live = true) : relive c = c := by
  cases c; cases h; rfl

theorem finalize_of_not_powell (c : Ctl) (h : c.powell = false) : c.finalize = { c with live := false } := by
  unfold Ctl.finalize; simp [h]

/-- the member's control state after its `_Step` has run -/
abbrev afterStep (a : Alg S) (m : MState S) : Ctl := m.ctl.after (stepDelta a m.ctl m.st m.k)

/-- the three ways a member's `Step()` can end -/
theorem memberStep_cases (a : Alg S) (m : MState S) :
    (∃ msg, m.ctl.preMsg (a.term m.st m.ctl.pre) = some msg ∧
      memberStep a m = { ctl := m.ctl.pre, st := m.st, k := m.k, msg := some msg }) ∨
    (m.ctl.preMsg (a.term m.st m.ctl.pre) = none ∧
      ∃ msg, (afterStep a m).message (a.term (a.step m.st m.k) (afterStep a m)) = some msg ∧
      memberStep a m = { ctl := (afterStep a m).finalize, st := a.step m.st m.k, k := m.k + 1,
                         msg := (afterStep a m).finalize.message (a.term (a.step m.st m.k) (afterStep a m)) }) ∨
    (m.ctl.preMsg (a.term m.st m.ctl.pre) = none ∧
      (afterStep a m).message (a.term (a.step m.st m.k) (afterStep a m)) = none ∧
      memberStep a m = { ctl := afterStep a m, st := a.step m.st m.k, k := m.k + 1, msg := none }) := by
  rcases C05.step_cases m.ctl (a.term m.st m.ctl.pre) (a.term (a.step m.st m.k) (afterStep a m))
      (stepDelta a m.ctl m.st m.k) with ⟨msg, hpm, hs⟩ | ⟨hpm, msg, hpost, hs⟩ | ⟨hpm, hpost, hs⟩
  · exact Or.inl ⟨msg, hpm, by rw [memberStep, stepOnce_eq, hs]; rfl⟩
  · exact Or.inr (Or.inl ⟨hpm, msg, hpost, by rw [memberStep, stepOnce_eq, hs]; rfl⟩)
  · exact Or.inr (Or.inr ⟨hpm, hpost, by rw [memberStep, stepOnce_eq, hs]; rfl⟩)

theorem memberStep_powell (a : Alg S) (m : MState S) : (memberStep a m).ctl.powell = m.ctl.powell := by
  rcases memberStep_cases a m with ⟨_, _, e⟩ | ⟨_, _, _, e⟩ | ⟨_, _, e⟩
  · rw [e]; exact C05.pre_powell _
  · rw [e]; simp only; rw [C05.finalize_powell, C05.after_powell]
  · rw [e]; exact C05.after_powell _ _

/-- the member has stopped: its step monitor is not empty, its limits are resolved, and `Terminated(info=True)` gives
`msg` on its present state -/
structure Stopped (a : Alg S) (m : MState S) (msg : Msg) : Prop where
  nstep : m.ctl.nstep ≠ 0
  res : Resolved m.ctl
  msgNow : (relive m.ctl).message (a.term m.st (relive m.ctl)) = some msg

/-- **a stopped member is not advanced**: its next `Step()` stops at the pre-check - no `_Step`, same algorithm state,
same counters, the same message -/
theorem memberStep_of_stopped (a : Alg S) (m : MState S) (msg : Msg) (h : Stopped a m msg) :
    memberStep a m = { ctl := relive m.ctl, st := m.st, k := m.k, msg := some msg } := by
  have hpre := pre_of_resolved m.ctl h.res h.nstep
  have hpm : m.ctl.preMsg (a.term m.st m.ctl.pre) = some msg := by
    unfold Ctl.preMsg
    rw [if_neg h.nstep, hpre]
    exact h.msgNow
  rcases memberStep_cases a m with ⟨msg', hpm', e⟩ | ⟨hpm', _⟩ | ⟨hpm', _⟩
  · rw [hpm] at hpm'; cases hpm'; rw [e, hpre]
  · rw [hpm] at hpm'; cases hpm'
  · rw [hpm] at hpm'; cases hpm'

theorem stopped_memberSteps (a : Alg S) (msg : Msg) : ∀ (j : Nat) (m : MState S), Stopped a m msg →
    Stopped a (memberSteps a j m) msg ∧ (memberSteps a j m).st = m.st ∧ (memberSteps a j m).k = m.k ∧
    relive (memberSteps a j m).ctl = relive m.ctl ∧ (1 ≤ j → (memberSteps a j m).msg = some msg) := by
  intro j
  induction j with
  | zero => intro m h; exact ⟨h, rfl, rfl, rfl, fun h0 => absurd h0 (Nat.not_succ_le_zero 0)⟩
  | succ j ih =>
    intro m h
    have e := memberStep_of_stopped a m msg h
    obtain ⟨i1, i2, i3, i4, i5⟩ := ih (memberStep a m) (by rw [e]; exact ⟨h.nstep, h.res, h.msgNow⟩)
    simp only [memberSteps]
    refine ⟨i1, ?_, ?_, ?_, ?_⟩
    · rw [i2, e]
    · rw [i3, e]
    · rw [i4, e]; rfl
    · intro _
      rcases Nat.eq_zero_or_pos j with hj | hj
      · subst hj; simp only [memberSteps]; rw [e]
      · exact i5 hj

/-- whenever a member's `Step()` returns a message (at the pre-check or after its iteration), the member is `Stopped`
from then on - for every solver but Powell (whose `Finalize` moves `generations`), provided its step monitor is not
empty afterwards -/
theorem stopped_after_message (a : Alg S) (m : MState S) (msg : Msg) (hp : m.ctl.powell = false)
    (hmsg : (memberStep a m).msg = some msg) (hn : (memberStep a m).ctl.nstep ≠ 0) :
    Stopped a (memberStep a m) msg := by
  rcases memberStep_cases a m with ⟨msg', hpm, e⟩ | ⟨hpm, msg', hpost, e⟩ | ⟨hpm, hpost, e⟩
  · -- stopped at the pre-check
    rw [e] at hmsg hn ⊢
    cases hmsg
    have hn0 : m.ctl.nstep ≠ 0 := fun h0 => by rw [Ctl.preMsg, if_pos h0] at hpm; cases hpm
    rw [Ctl.preMsg, if_neg hn0] at hpm
    exact ⟨hn, pre_resolved m.ctl hn0, by rw [relive_of_live _ (pre_live _)]; exact hpm⟩
  · -- stopped after the iteration: `Finalize` only clears `_live`
    rw [e] at hmsg hn ⊢
    have hpa : (afterStep a m).powell = false := (C05.after_powell _ _).trans hp
    have hfin := finalize_of_not_powell _ hpa
    rw [C05.finalize_message _ _ hpa] at hmsg
    refine ⟨hn, by rw [hfin]; exact after_resolved m.ctl _, ?_⟩
    have hrl : relive (afterStep a m).finalize = afterStep a m := by
      rw [hfin]; exact relive_of_live _ (after_live m.ctl _)
    rw [hrl]
    exact hmsg
  · rw [e] at hmsg
    cases hmsg

theorem solve_succ (a : Alg S) (fuel : Nat) (m : MState S) (n : Nat) :
    solve a (fuel + 1) m.ctl m.st m.k n =
      match (memberStep a m).msg with
      | some msg => { ctl := (memberStep a m).ctl, st := (memberStep a m).st, msg := some msg, iters := (memberStep a m).k,
                      steps := n + 1 }
      | none => solve a fuel (memberStep a m).ctl (memberStep a m).st (memberStep a m).k (n + 1) := rfl

/-- the closed loop `solve` is `memberStep` repeated until a message comes back or the budget is used up -/
theorem solve_eq_memberSteps (a : Alg S) : ∀ (fuel : Nat) (m : MState S) (n : Nat),
    ∃ j, j ≤ fuel ∧ (solve a fuel m.ctl m.st m.k n).steps = n + j ∧
      (memberSteps a j m).ctl = (solve a fuel m.ctl m.st m.k n).ctl ∧
      (memberSteps a j m).st = (solve a fuel m.ctl m.st m.k n).st ∧
      (memberSteps a j m).k = (solve a fuel m.ctl m.st m.k n).iters ∧
      ((solve a fuel m.ctl m.st m.k n).msg = none → j = fuel) ∧
      ((solve a fuel m.ctl m.st m.k n).msg.isSome = true → 1 ≤ j ∧
        (memberSteps a j m).msg = (solve a fuel m.ctl m.st m.k n).msg ∧
        ∃ m', memberSteps a j m = memberStep a m' ∧ m'.ctl.powell = m.ctl.powell) := by
  intro fuel
  induction fuel with
  | zero => exact fun m n => ⟨0, Nat.le_refl 0, rfl, rfl, rfl, rfl, fun _ => rfl, fun h => by cases h⟩
  | succ fuel ih =>
    intro m n
    rw [solve_succ]
    cases hm : (memberStep a m).msg with
    | some msg =>
      exact ⟨1, Nat.succ_le_succ (Nat.zero_le _), rfl, rfl, rfl, rfl, (fun h => nomatch h),
        fun _ => ⟨Nat.le_refl 1, hm, m, rfl, rfl⟩⟩
    | none =>
      obtain ⟨j, hj, hsteps, hctl, hst, hk, hnone, hsome⟩ := ih (memberStep a m) (n + 1)
      refine ⟨j + 1, Nat.succ_le_succ hj, by rw [hsteps, Nat.add_assoc, Nat.add_comm 1 j], hctl, hst, hk,
        fun h => congrArg (· + 1) (hnone h), fun h => ?_⟩
      obtain ⟨hj1, hmsg, m', hlast, hpow⟩ := hsome h
      exact ⟨Nat.le_succ_of_le hj1, hmsg, m', hlast, hpow.trans (memberStep_powell a m)⟩

/-- `Step()` called as often as `Solve()` called it, or more often, leaves the member where `Solve()` left it (but for `_live`) -/
theorem memberSteps_after_solve (a : Alg S) (fuel : Nat) (m : MState S) (msg : Msg) (hp : m.ctl.powell = false)
    (hmsg : (solve a fuel m.ctl m.st m.k 0).msg = some msg) (hn : (solve a fuel m.ctl m.st m.k 0).ctl.nstep ≠ 0)
    (n : Nat) (hge : (solve a fuel m.ctl m.st m.k 0).steps ≤ n) :
    Stopped a (memberSteps a n m) msg ∧ (memberSteps a n m).st = (solve a fuel m.ctl m.st m.k 0).st ∧
    (memberSteps a n m).k = (solve a fuel m.ctl m.st m.k 0).iters ∧
    relive (memberSteps a n m).ctl = relive (solve a fuel m.ctl m.st m.k 0).ctl ∧ (memberSteps a n m).msg = some msg := by
  obtain ⟨j, _, hsteps, hctl, hst, hk, _, hsome⟩ := solve_eq_memberSteps a fuel m 0
  obtain ⟨_, hmsgj, m', hlast, hpow⟩ := hsome (by rw [hmsg]; rfl)
  -- after the `j` Steps that `Solve()` made the member is stopped; the remaining `n - j` Steps change nothing
  have hstop : Stopped a (memberSteps a j m) msg := by
    rw [hlast]
    apply stopped_after_message a m' msg (hpow.trans hp)
    · rw [← hlast, hmsgj]; exact hmsg
    · rw [← hlast, hctl]; exact hn
  obtain ⟨s1, s2, s3, s4, s5⟩ := stopped_memberSteps a msg (n - j) _ hstop
  rw [hsteps, Nat.zero_add] at hge
  rw [← Nat.add_sub_cancel' hge, memberSteps_add]
  refine ⟨s1, s2.trans hst, s3.trans hk, s4.trans (congrArg relive hctl), ?_⟩
  rcases Nat.eq_zero_or_pos (n - j) with hz | hz
  · rw [hz]; exact hmsgj.trans hmsg
  · exact s5 hz

theorem solve_stable_le (a : Alg S) {f1 f2 : Nat} (h : f1 ≤ f2) (c : Ctl) (s : S) (k n : Nat)
    (hm : (solve a f1 c s k n).msg.isSome = true) : solve a f2 c s k n = solve a f1 c s k n := by
  rw [← Nat.add_sub_cancel' h]
  exact C06.solve_stable a f1 _ c s k n hm

/-- the count of `Step()` calls handed to `solve` only shows in its own `steps` field -/
theorem solve_calls_irrelevant (a : Alg S) : ∀ (fuel : Nat) (c : Ctl) (s : S) (k n n' : Nat),
    (solve a fuel c s k n).ctl = (solve a fuel c s k n').ctl ∧ (solve a fuel c s k n).st = (solve a fuel c s k n').st ∧
    (solve a fuel c s k n).msg = (solve a fuel c s k n').msg ∧ (solve a fuel c s k n).iters = (solve a fuel c s k n').iters := by
  intro fuel
  induction fuel with
  | zero => exact fun _ _ _ _ _ => ⟨rfl, rfl, rfl, rfl⟩
  | succ fuel ih =>
    intro c s k n n'
    simp only [solve]
    cases hm : (stepOnce a c s k).2.2.1 with
    | some m => exact ⟨rfl, rfl, rfl, rfl⟩
    | none => exact ih _ _ _ _ _

/-- the `Solve()` of a stopped member is the one `Step()` that stops at the pre-check -/
theorem memberContinue_of_stopped (a : Alg S) (fuel : Nat) (m : MState S) (msg : Msg) (h : Stopped a m msg) :
    memberContinue a (fuel + 1) m = { ctl := relive m.ctl, st := m.st, k := m.k, msg := some msg } := by
  rw [memberContinue, solve_succ, memberStep_of_stopped a m msg h]

end Steps

section Fillpts
variable {P R : Type}

theorem fillLoop_spec (opt : Nat → List P → P) : ∀ (n j : Nat) (pts : List P),
    ∃ new, fillLoop opt n j pts = pts ++ new ∧ new.length = n ∧ ∀ x ∈ new, ∃ i ps, x = opt i ps := by
  intro n
  induction n with
  | zero => exact fun _ pts => ⟨[], (List.append_nil pts).symm, rfl, fun x hx => nomatch hx⟩
  | succ n ih =>
    intro j pts
    obtain ⟨new, h1, h2, h3⟩ := ih (j + 1) (pts ++ [opt j pts])
    refine ⟨opt j pts :: new, by rw [fillLoop, h1, List.append_assoc]; rfl, congrArg (· + 1) h2, fun x hx => ?_⟩
    rcases List.mem_cons.mp hx with rfl | hx
    · exact ⟨j, pts, rfl⟩
    · exact h3 x hx

theorem foldl_min_spec [LinearOrder R] : ∀ (ds : List R) (d : R),
    (ds.foldl (fun m x => if x < m then x else m) d ∈ d :: ds) ∧
    ∀ y ∈ d :: ds, ds.foldl (fun m x => if x < m then x else m) d ≤ y := by
  intro ds
  induction ds with
  | nil => exact fun d => ⟨List.mem_cons_self .., fun y hy => (List.mem_singleton.mp hy) ▸ le_rfl⟩
  | cons a as ih =>
    intro d
    rw [List.foldl_cons]
    by_cases hc : a < d
    · rw [if_pos hc]
      obtain ⟨h1, h2⟩ := ih a
      exact ⟨List.mem_cons_of_mem _ h1,
        List.forall_mem_cons.mpr ⟨le_trans (h2 a (List.mem_cons_self ..)) hc.le, h2⟩⟩
    · rw [if_neg hc]
      obtain ⟨h1, h2⟩ := ih d
      have hd := h2 d (List.mem_cons_self ..)
      refine ⟨?_, fun y hy => ?_⟩
      · rcases List.mem_cons.mp h1 with e | h
        · rw [e]; exact List.mem_cons_self ..
        · exact List.mem_cons_of_mem _ (List.mem_cons_of_mem _ h)
      · rcases List.mem_cons.mp hy with rfl | hy
        · exact hd
        · rcases List.mem_cons.mp hy with rfl | hy
          · exact le_trans hd (not_lt.mp hc)
          · exact h2 y (List.mem_cons_of_mem _ hy)

end Fillpts

end MysticVerif.Ens
