/-
Lemmas about Model/Collapse.lean (C11): the numpy reductions over a linear order are `List.max?` / `List.min?`, hence
the tolerance tests; the window slice; the index sets; what a detector that returns and an `_extend_mask` that succeeds
have fixed; membership in merged masks; the number of unmasked items.
-/
import MysticVerif.Model.Collapse
import MysticVerif.Proofs.ScalarFacts
import Mathlib.Algebra.Order.Field.Basic
import Mathlib.Order.MinMax
import Mathlib.Data.List.Forall2

namespace MysticVerif.Clps

section Order
variable {K : Type} [LinearOrder K]

-- `y ≤ y` holds in a linear order, so the NaN test of the numpy reductions disappears
theorem maxStep_eq_max (m y : K) : maxStep m y = max m y := by
  rw [max_def_lt]
  simp only [maxStep, le_refl, not_true_eq_false, or_false]

theorem minStep_eq_min (m y : K) : minStep m y = min m y := by
  rw [min_comm, min_def_lt]
  simp only [minStep, le_refl, not_true_eq_false, or_false]

theorem maxL_eq_max? (c : List K) : maxL c = c.max? := by
  cases c with
  | nil => rfl
  | cons x xs => rw [List.max?_cons', ← funext₂ maxStep_eq_max]; rfl

theorem minL_eq_min? (c : List K) : minL c = c.min? := by
  cases c with
  | nil => rfl
  | cons x xs => rw [List.min?_cons', ← funext₂ minStep_eq_min]; rfl

theorem maxL_eq_some_iff (c : List K) (v : K) : maxL c = some v ↔ v ∈ c ∧ ∀ x ∈ c, x ≤ v := by
  rw [maxL_eq_max?]; exact List.max?_eq_some_iff

theorem minL_eq_some_iff (c : List K) (v : K) : minL c = some v ↔ v ∈ c ∧ ∀ x ∈ c, v ≤ x := by
  rw [minL_eq_min?]; exact List.min?_eq_some_iff

theorem leTol_maxL (tol : K) (c : List K) : leTol tol (maxL c) = true ↔ c ≠ [] ∧ ∀ x ∈ c, x ≤ tol := by
  cases c with
  | nil => exact ⟨fun h => (nomatch h), fun h => absurd rfl h.1⟩
  | cons x xs =>
    obtain ⟨hv, hle⟩ := (maxL_eq_some_iff (x :: xs) _).mp rfl
    exact decide_eq_true_iff.trans
      ⟨fun hvt => ⟨List.cons_ne_nil _ _, fun y hy => (hle y hy).trans hvt⟩, fun h => h.2 _ hv⟩

end Order

section Field
variable {K : Type} [Field K] [LinearOrder K] [IsStrictOrderedRing K]

theorem leTol_ptp (tol : K) (c : List K) :
    leTol tol (ptp c) = true ↔ c ≠ [] ∧ ∀ x ∈ c, ∀ y ∈ c, x - y ≤ tol := by
  cases c with
  | nil => exact ⟨fun h => (nomatch h), fun h => absurd rfl h.1⟩
  | cons x xs =>
    obtain ⟨ha, hmax⟩ := (maxL_eq_some_iff (x :: xs) _).mp rfl
    obtain ⟨hb, hmin⟩ := (minL_eq_some_iff (x :: xs) _).mp rfl
    exact decide_eq_true_iff.trans
      ⟨fun hv => ⟨List.cons_ne_nil _ _, fun y hy z hz => (sub_le_sub (hmax y hy) (hmin z hz)).trans hv⟩,
        fun h => h.2 _ ha _ hb⟩

theorem absR_eq_abs (x : K) : absR x = |x| := ite_neg_eq_abs x

end Field

theorem leAny_singleton {R : Type} [LE R] [DecidableLE R] (tol : R) (v : Option R) :
    leAny [tol] v = leTol tol v := by
  cases v with
  | none => rfl
  | some v => exact Bool.or_false _

theorem lastN_pos {α : Type} (xs : List α) (g : Nat) (hg : 0 < g) :
    lastN (some (g : Int)) xs = xs.drop (xs.length - g) := by
  unfold lastN
  simp only
  congr 1
  omega

theorem lastN_none {α : Type} (xs : List α) : lastN none xs = xs := rfl

/-- `generations = 0` is the slice `x[-0:] = x[0:]`: the WHOLE history -/
theorem lastN_zero {α : Type} (xs : List α) : lastN (some 0) xs = xs := by
  unfold lastN
  have : ¬ ((xs.length : Int) < 0) := Int.not_lt.mpr (Int.natCast_nonneg _)
  simp [this]

theorem allSome_some_mem {α : Type} (l : List (Option α)) (r : List α) (h : allSome l = some r) (a : α) :
    a ∈ r ↔ some a ∈ l := by
  induction l generalizing r with
  | nil => simp [allSome] at h; subst h; simp
  | cons x xs ih =>
    cases x with
    | none => simp [allSome] at h
    | some b =>
      simp only [allSome] at h
      cases hr : allSome xs with
      | none => simp [hr] at h
      | some r' =>
        simp only [hr, Option.some.injEq] at h
        subst h
        simp [ih r' hr]

theorem mem_pairsOf (n i j : Nat) : (i, j) ∈ pairsOf n ↔ i < j ∧ j < n := by
  simp only [pairsOf, List.mem_flatMap, List.mem_range, List.mem_map, List.mem_filter, decide_eq_true_eq,
    Prod.mk.injEq]
  constructor
  · rintro ⟨a, _, b, ⟨hb, hab⟩, rfl, rfl⟩
    exact ⟨hab, hb⟩
  · rintro ⟨h1, h2⟩
    exact ⟨i, Nat.lt_trans h1 h2, j, ⟨h2, h1⟩, rfl, rfl⟩

theorem mem_cellsOf (m k a i : Nat) : (a, i) ∈ cellsOf m k ↔ a < m ∧ i < k := by
  simp only [cellsOf, List.mem_flatMap, List.mem_range, List.mem_map, Prod.mk.injEq]
  constructor
  · rintro ⟨a', ha, i', hi, rfl, rfl⟩
    exact ⟨ha, hi⟩
  · rintro ⟨h1, h2⟩
    exact ⟨a, h1, i, h2, rfl, rfl⟩

theorem mem_pcellsOf (m k a i j : Nat) : (a, i, j) ∈ pcellsOf m k ↔ a < m ∧ i < j ∧ j < k := by
  simp only [pcellsOf, List.mem_flatMap, List.mem_range, List.mem_map, Prod.mk.injEq]
  constructor
  · rintro ⟨a', ha, ⟨i', j'⟩, hp, rfl, rfl, rfl⟩
    exact ⟨ha, (mem_pairsOf k _ _).mp hp⟩
  · rintro ⟨h1, h2⟩
    exact ⟨a, h1, (i, j), (mem_pairsOf k i j).mpr h2, rfl, rfl, rfl⟩

theorem colOf_ne_nil {R : Type} {r : List R} {i : Nat} (hi : i < r.length) (rest : List (List R)) :
    colOf (r :: rest) i ≠ [] := by
  rw [colOf, List.filterMap_cons, List.getElem?_eq_getElem hi]
  exact List.cons_ne_nil _ _

theorem distCol_ne_nil {R : Type} [Sub R] [Neg R] [LT R] [DecidableLT R] [OfNat R 0] {r : List R} {i j : Nat}
    (hi : i < r.length) (hj : j < r.length) (rest : List (List R)) : distCol (r :: rest) i j ≠ [] := by
  rw [distCol, List.filterMap_cons, List.getElem?_eq_getElem hi, List.getElem?_eq_getElem hj]
  exact List.cons_ne_nil _ _

/-- Every detector reports the candidates that pass its test `p` and are not masked by `m`: a mask `m'` that holds
whatever `m` held and whatever was reported leaves nothing to report. -/
theorem filter_unmasked_eq_nil {α : Type} (xs : List α) (p m m' : α → Bool)
    (hold : ∀ c ∈ xs, m c = true → m' c = true)
    (hnew : ∀ c ∈ xs.filter (fun c => p c && !m c), m' c = true) :
    xs.filter (fun c => p c && !m' c) = [] := by
  rw [List.filter_eq_nil_iff]
  intro c hc hpc
  rw [Bool.and_eq_true, Bool.not_eq_true'] at hpc
  cases hm : m c with
  | true => exact absurd (hold c hc hm) (by simp [hpc.2])
  | false => exact absurd (hnew c (List.mem_filter.mpr ⟨hc, by simp [hpc.1, hm]⟩)) (by simp [hpc.2])

theorem atMaskCheck_set_ok {es : List MElem} {ms : List Int} (h : atMaskCheck (.set es) = .ok ms) :
    (∀ e ∈ es, e.isIdx = true) ∧ ∀ a, a ∈ ms ↔ MElem.idx a ∈ es := by
  rw [atMaskCheck] at h
  split at h
  · next hall =>
    cases h
    refine ⟨List.all_eq_true.mp hall, fun a => ⟨fun ha => ?_, fun ha => ?_⟩⟩
    · obtain ⟨e, he, hea⟩ := List.mem_filterMap.mp ha
      cases e with
      | idx b => cases hea; exact he
      | seq q => cases hea
    · exact List.mem_filterMap.mpr ⟨_, ha, rfl⟩
  · cases h

section Detectors
variable {R : Type} [Sub R] [Neg R] [LT R] [DecidableLT R] [LE R] [DecidableLE R] [OfNat R 0]

theorem collapseAt_ok_iff (hist : List (List R)) (tgt : Target R) (tols : List R) (g : Option Int) (mask : SetMask)
    (l : List Nat) :
    collapseAt hist tgt tols g mask = .ok l ↔ ∃ ms r rest k, atMaskCheck mask = .ok ms ∧ lastN g hist = r :: rest ∧
      isRect r.length rest = true ∧ bwidth r.length tgt = some k ∧
      l = (List.range k).filter (fun i =>
        leAny tols (changeAt (r :: rest) r.length tgt i) && !(ms.contains (Int.ofNat i))) := by
  constructor
  · intro h
    unfold collapseAt at h
    split at h
    · cases h
    · next ms hm =>
      split at h
      · cases h
      · next r rest hw =>
        split at h
        · next hr =>
          split at h
          · cases h
          · next k hb => exact ⟨ms, r, rest, k, hm, hw, hr, hb, (Except.ok.inj h).symm⟩
        · cases h
  · rintro ⟨ms, r, rest, k, hm, hw, hr, hb, rfl⟩
    simp only [collapseAt, hm, hw, hr, hb, if_true]

theorem collapseAs_ok_iff (hist : List (List R)) (offset : Bool) (tol : R) (g : Option Int) (mask : SetMask)
    (l : List (Nat × Nat)) :
    collapseAs hist offset tol g mask = .ok l ↔ ∃ es r rest, asMaskCheck mask = .ok es ∧ lastN g hist = r :: rest ∧
      isRect r.length rest = true ∧ r.length ≠ 0 ∧
      l = (pairsOf r.length).filter (fun p =>
        leTol tol (pairChange (r :: rest) offset p.1 p.2) && !(asMasked es p.1 p.2)) := by
  constructor
  · intro h
    unfold collapseAs at h
    split at h
    · cases h
    · next es hm =>
      split at h
      · cases h
      · next r rest hw =>
        split at h
        · next hr =>
          split at h
          · cases h
          · next h0 => exact ⟨es, r, rest, hm, hw, hr, h0, (Except.ok.inj h).symm⟩
        · cases h
  · rintro ⟨es, r, rest, hm, hw, hr, h0, rfl⟩
    simp only [collapseAs, hm, hw, hr, h0, if_true, if_false]

end Detectors

theorem mem_zip_map_inj {α β γ : Type} (f : β → γ) (hf : Function.Injective f) (ms : List α) (ps : List β)
    (a : α) (q : β) : (a, f q) ∈ ms.zip (ps.map f) ↔ (a, q) ∈ ms.zip ps := by
  rw [List.zip_map_right]
  exact List.mem_map_of_injective (f := Prod.map id f) (a := (a, q)) (Function.injective_id.prodMap hf)

theorem mem_zip_append_left {α β : Type} (a a' : List α) (b b' : List β) (x : α × β) (h : x ∈ a.zip b) :
    x ∈ (a ++ a').zip (b ++ b') := by
  induction a generalizing b with
  | nil => simp at h
  | cons y ys ih =>
    cases b with
    | nil => simp at h
    | cons z zs =>
      simp only [List.cons_append, List.zip_cons_cons, List.mem_cons] at h ⊢
      rcases h with h | h
      · exact Or.inl h
      · exact Or.inr (ih zs h)

section Masks
variable {E : Type} [DecidableEq E]

theorem mem_unionL (a b : List E) (e : E) : e ∈ unionL a b ↔ e ∈ a ∨ e ∈ b := by
  simp only [unionL, List.mem_append, List.mem_filter, Bool.not_eq_true', List.contains_eq_mem, decide_eq_false_iff_not]
  by_cases h : e ∈ a <;> simp [h]

/-- membership under a key of a dict mask -/
def dictHas (d : List (Int × List E)) (key : Int) (e : E) : Prop := ∃ kv ∈ d, kv.1 = key ∧ e ∈ kv.2

theorem dict_has_iff (d : List (Int × List E)) (key : Int) (e : E) :
    (MaskV.dict d).has key e = true ↔ dictHas d key e := by
  simp only [MaskV.has, dictHas, List.any_eq_true, Bool.and_eq_true, beq_iff_eq, List.contains_eq_mem,
    decide_eq_true_eq]

theorem dictStep_has (old : List (Int × List E)) (k : Int) (v : List E) (key : Int) (e : E)
    (h : dictHas old key e ∨ (k = key ∧ e ∈ v)) :
    dictHas (if old.any (fun e => e.1 == k) = true
             then old.map (fun e => if e.1 == k then (e.1, unionL e.2 v) else e)
             else old ++ [(k, v)]) key e := by
  by_cases hk : old.any (fun e => e.1 == k) = true
  · rw [if_pos hk]
    rcases h with ⟨kv, hkv, h1, h2⟩ | ⟨h1, h2⟩
    · by_cases hq : kv.1 = k
      · exact ⟨(kv.1, unionL kv.2 v), List.mem_map.mpr ⟨kv, hkv, by simp [hq]⟩, h1, (mem_unionL _ _ _).mpr (Or.inl h2)⟩
      · exact ⟨kv, List.mem_map.mpr ⟨kv, hkv, by simp [hq]⟩, h1, h2⟩
    · obtain ⟨kv, hkv, hq⟩ := List.any_eq_true.mp hk
      refine ⟨(kv.1, unionL kv.2 v), List.mem_map.mpr ⟨kv, hkv, by simp [hq]⟩, ?_⟩
      simp only [beq_iff_eq] at hq
      simp [hq, h1, mem_unionL, h2]
  · rw [if_neg hk]
    rcases h with ⟨kv, hkv, h1, h2⟩ | ⟨h1, h2⟩
    · exact ⟨kv, List.mem_append_left _ hkv, h1, h2⟩
    · exact ⟨(k, v), by simp, h1, h2⟩

theorem dictMerge_has (old new : List (Int × List E)) (key : Int) (e : E)
    (h : dictHas old key e ∨ dictHas new key e) : dictHas (dictMerge old new) key e := by
  induction new generalizing old with
  | nil =>
    rcases h with h | ⟨kv, hkv, _⟩
    · exact h
    · simp at hkv
  | cons kv rest ih =>
    obtain ⟨k, v⟩ := kv
    simp only [dictMerge]
    apply ih
    rcases h with h | ⟨kv', hkv', h1, h2⟩
    · exact Or.inl (dictStep_has old k v key e (Or.inl h))
    · rcases List.mem_cons.mp hkv' with rfl | hr
      · exact Or.inl (dictStep_has old k v key e (Or.inr ⟨h1, h2⟩))
      · exact Or.inr ⟨kv', hr, h1, h2⟩

theorem MaskV.has_of_falsy {old : MaskV E} (hf : old.falsy = true) (key : Int) (e : E) : old.has key e = false := by
  cases old with
  | none | emptyseq => rfl
  | set es => rw [List.isEmpty_iff.mp hf]; rfl
  | dict d => rw [List.isEmpty_iff.mp hf]; rfl
  | wher t ms es => cases hf

/-- the ways `_extend_mask` succeeds: nothing to add; the old mask is empty and is replaced; two masks of the same
format are joined -/
theorem extendV_ok {old new m : MaskV E} (h : extendV old new = .ok m) :
    (new = .none ∧ m = old) ∨ (new ≠ .none ∧ old.falsy = true ∧ m = new) ∨
    (∃ a b, old = .set a ∧ new = .set b ∧ m = .set (unionL a b)) ∨
    (∃ a b, old = .dict a ∧ new = .dict b ∧ m = .dict (dictMerge a b)) ∨
    (∃ t ms es ms' es', old = .wher t ms es ∧ new = .wher t ms' es' ∧ m = .wher t (ms ++ ms') (es ++ es')) := by
  unfold extendV at h
  split at h
  · exact .inl ⟨rfl, (Except.ok.inj h).symm⟩
  · next hn =>
    split at h
    · next hf => exact .inr (.inl ⟨fun e => hn e, hf, (Except.ok.inj h).symm⟩)
    · split at h
      · exact .inr (.inr (.inl ⟨_, _, rfl, rfl, (Except.ok.inj h).symm⟩))
      · exact .inr (.inr (.inr (.inl ⟨_, _, rfl, rfl, (Except.ok.inj h).symm⟩)))
      · split at h
        · next ht =>
          subst ht
          exact .inr (.inr (.inr (.inr ⟨_, _, _, _, _, rfl, rfl, (Except.ok.inj h).symm⟩)))
        · cases h
      · cases h

theorem extendV_set_ok {old m : MaskV E} {b : List E} (h : extendV old (.set b) = .ok m) :
    ∃ es', m = .set es' ∧ ∀ key e, e ∈ es' ↔ old.has key e = true ∨ e ∈ b := by
  rcases extendV_ok h with ⟨hn, -⟩ | ⟨-, hf, rfl⟩ | ⟨a, _, rfl, hb, rfl⟩ | ⟨_, _, -, hb, -⟩ |
    ⟨_, _, _, _, _, -, hb, -⟩
  · cases hn
  · exact ⟨b, rfl, fun key e => by rw [MaskV.has_of_falsy hf]; exact (or_iff_right Bool.false_ne_true).symm⟩
  · cases hb
    exact ⟨_, rfl, fun key e => (mem_unionL a b e).trans (or_congr_left List.contains_iff_mem.symm)⟩
  · cases hb
  · cases hb

end Masks

theorem forall₂_trans {α : Type} {R : α → α → Prop} (htr : ∀ a b c, R a b → R b c → R a c) {l1 l2 l3 : List α}
    (h1 : List.Forall₂ R l1 l2) (h2 : List.Forall₂ R l2 l3) : List.Forall₂ R l1 l3 := by
  induction h1 generalizing l3 with
  | nil => cases h2; exact List.Forall₂.nil
  | cons hab _ ih =>
    cases h2 with
    | cons hbc h2' => exact List.Forall₂.cons (htr _ _ _ hab hbc) (ih h2')

/-- the number of members of the universe `0..n-1` that are not masked yet -/
def free (n : Nat) (mask : List Nat) : Nat := ((List.range n).filter (fun i => !(mask.contains i))).length

theorem free_le (n : Nat) (mask : List Nat) : free n mask ≤ n := by
  unfold free
  calc ((List.range n).filter _).length ≤ (List.range n).length := List.length_filter_le _ _
    _ = n := List.length_range

/-- adding a fresh member of the universe to the mask strictly decreases what is left -/
theorem free_lt (n : Nat) (a b : List Nat) (hsub : ∀ x ∈ a, x ∈ b) (f : Nat) (hf : f < n) (hfa : f ∉ a) (hfb : f ∈ b) :
    free n b < free n a := by
  -- what `b` leaves is a sublist of what `a` leaves, and a proper one: it misses `f`
  have hs : List.Sublist ((List.range n).filter fun i => !(b.contains i))
      ((List.range n).filter fun i => !(a.contains i)) :=
    List.monotone_filter_right _ fun x hx => by
      simp only [Bool.not_eq_true', List.contains_eq_mem, decide_eq_false_iff_not] at hx ⊢
      exact fun h => hx (hsub x h)
  refine lt_of_le_of_ne hs.length_le fun he => ?_
  have hmem : f ∈ (List.range n).filter (fun i => !(b.contains i)) := by
    rw [hs.eq_of_length he]
    exact List.mem_filter.mpr ⟨List.mem_range.mpr hf, by simpa using hfa⟩
  simpa [hfb] using (List.mem_filter.mp hmem).2

end MysticVerif.Clps
