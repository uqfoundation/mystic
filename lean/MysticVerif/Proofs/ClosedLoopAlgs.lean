/- the open loops of Nelder-Mead and Powell: iteration 0 builds the state, iteration 1 is generation 1, the later ones are
   one function; what 0 and 1 establish and the later ones preserve holds of every state reached -/
import MysticVerif.Proofs.ClosedLoop
import MysticVerif.Proofs.PowellS

namespace MysticVerif.Closed
open MysticVerif.Solver

variable {S : Type}

/-- an algorithm whose iteration 0 builds its state from nothing, whose iteration 1 is `g1` and whose later
    iterations are all `f`: `n + 2` iterations from ANY starting state give `f^[n] (g1 g0)` -/
theorem iterate_three_phase (a : Alg S) (g0 : S) (g1 f : S → S) (h0 : ∀ s, a.step s 0 = g0)
    (h1 : ∀ s, a.step s 1 = g1 s) (h2 : ∀ s k, 2 ≤ k → a.step s k = f s) :
    ∀ (n : Nat) (s : S), iterate a (n + 2) s 0 = f^[n] (g1 g0) := by
  intro n
  induction n with
  | zero =>
    intro s
    simp only [iterate, Function.iterate_zero, id]
    rw [h0, h1]
  | succ n ih =>
    intro s
    rw [iterate_succ_last, ih s, Function.iterate_succ_apply']
    exact h2 _ _ (Nat.le_add_left 2 (0 + n))

theorem iterate_one (a : Alg S) (s : S) : iterate a 1 s 0 = a.step s 0 := rfl

theorem iterate_three_phase_mem (a : Alg S) (g0 : S) (g1 f : S → S) (h0 : ∀ s, a.step s 0 = g0)
    (h1 : ∀ s, a.step s 1 = g1 s) (h2 : ∀ s k, 2 ≤ k → a.step s k = f s) (P : S → Prop) (p0 : P g0) (p1 : P (g1 g0))
    (pf : ∀ s, P s → P (f s)) : ∀ (m : Nat) (s : S), 1 ≤ m → P (iterate a m s 0) := by
  have hf : ∀ n, P (f^[n] (g1 g0)) := by
    intro n
    induction n with
    | zero => exact p1
    | succ n ih => rw [Function.iterate_succ_apply']; exact pf _ ih
  intro m s hm
  rcases m with _ | _ | n
  · exact absurd hm (by decide)
  · rw [iterate_one, h0]; exact p0
  · rw [iterate_three_phase a g0 g1 f h0 h1 h2]; exact hf n

theorem run_eq_iterate {R E : Type} [Sub R] [Mul R] [LT E] [DecidableLT E] (o : Obj (Pt R) E) (cfg : PowellS.PwCfg R E)
    (ls : Nat → Pt R → Pt R → PowellS.LsRec R) :
    ∀ (n : Nat) (s : PowellS.Pw R E), PowellS.run o cfg ls n s = (PowellS.genN o cfg ls)^[n] s := by
  intro n
  induction n with
  | zero => intro s; rfl
  | succ n ih => intro s; rw [PowellS.run, ih, Function.iterate_succ_apply]

theorem ite_ite_of_two_le {α : Type} {k : Nat} (hk : 2 ≤ k) (a b c : α) :
    (if k = 0 then a else if k = 1 then b else c) = c := by
  rw [if_neg (Nat.ne_of_gt (Nat.lt_of_lt_of_le Nat.zero_lt_two hk)), if_neg (Nat.ne_of_gt hk)]

section Algs
variable {R : Type} [Add R] [Sub R] [Mul R] [Div R] [Neg R] [LT R] [DecidableLT R] [LE R] [DecidableLE R]
  [BEq R] [OfNat R 0] [OfNat R 2]

theorem nmAlg_step_ge_two (o : Obj (Pt R) R) (coef : Coef R) (st clip0 mkVal : Pt R → Pt R) (cond : Term.Cond R)
    (x0 : Pt R) (s : NM R R) (k : Nat) (hk : 2 ≤ k) :
    (nmAlg o coef st clip0 mkVal cond x0).step s k = (NM.update o coef st s).1 :=
  ite_ite_of_two_le hk _ _ _

theorem iterate_nmAlg (o : Obj (Pt R) R) (coef : Coef R) (st clip0 mkVal : Pt R → Pt R) (cond : Term.Cond R)
    (x0 : Pt R) (n : Nat) (s : NM R R) :
    iterate (nmAlg o coef st clip0 mkVal cond x0) (n + 2) s 0
      = (fun s => (NM.update o coef st s).1)^[n] (NM.gen1 o clip0 mkVal (NM.gen0 o 0 (clip0 x0))) :=
  iterate_three_phase _ (NM.gen0 o 0 (clip0 x0)) (NM.gen1 o clip0 mkVal) _ (fun _ => rfl) (fun _ => rfl)
    (nmAlg_step_ge_two o coef st clip0 mkVal cond x0) n s

theorem pwAlg_step_ge_two (o : Obj (Pt R) R) (cfg : PowellS.PwCfg R R) (ls : Nat → Pt R → Pt R → PowellS.LsRec R)
    (cond : Term.Cond R) (record : Bool) (x0 : Pt R) (direc : List (Pt R)) (s : PowellS.Pw R R) (k : Nat) (hk : 2 ≤ k) :
    (pwAlg o cfg ls cond record x0 direc).step s k = PowellS.genN o cfg ls s :=
  ite_ite_of_two_le hk _ _ _

theorem iterate_pwAlg (o : Obj (Pt R) R) (cfg : PowellS.PwCfg R R) (ls : Nat → Pt R → Pt R → PowellS.LsRec R)
    (cond : Term.Cond R) (record : Bool) (x0 : Pt R) (direc : List (Pt R)) (n : Nat) (s : PowellS.Pw R R) :
    iterate (pwAlg o cfg ls cond record x0 direc) (n + 2) s 0 = PowellS.reach o cfg ls record x0 direc n := by
  unfold PowellS.reach
  rw [run_eq_iterate]
  exact iterate_three_phase _ (PowellS.gen0 o cfg record x0 direc) (PowellS.gen1 o cfg ls) _ (fun _ => rfl)
    (fun _ => rfl) (pwAlg_step_ge_two o cfg ls cond record x0 direc) n s

end Algs

end MysticVerif.Closed
