/- helper lemmas for Props/C16/Unique.lean: `unique` / `impose_unique` with ANY sequence of allowed values -/
import MysticVerif.Proofs.Transforms

namespace MysticVerif.Trans

section uniq
variable {R : Type} [BEq R] [LawfulBEq R]

theorem nodupB_iff (l : List R) : nodupB l = true ↔ l.Nodup := by
  induction l with
  | nil => exact ⟨fun _ => List.nodup_nil, fun _ => rfl⟩
  | cons a t ih =>
    rw [nodupB, Bool.and_eq_true, Bool.not_eq_true', List.nodup_cons, ih, ← Bool.not_eq_true, List.contains_iff_mem]

/-- an input without repeats (none of them seen before) passes through `uniqueGo` unchanged, whatever `new` is -/
theorem uniqueGo_nodup (x seen new : List R) (hnd : x.Nodup) (hs : ∀ a ∈ x, a ∉ seen) : uniqueGo x seen new = .ok x := by
  induction x generalizing seen with
  | nil => rfl
  | cons a t ih =>
    obtain ⟨hat, hndt⟩ := List.nodup_cons.mp hnd
    have ha : seen.contains a = false := Bool.eq_false_iff.mpr (mt List.contains_iff_mem.mp (hs a List.mem_cons_self))
    rw [uniqueGo, ha, if_neg Bool.false_ne_true, ih (a :: seen) hndt fun b hb h =>
      (List.mem_cons.mp h).elim (fun hba => hat (hba ▸ hb)) (hs b (List.mem_cons_of_mem _ hb))]
    rfl

theorem unique_eq_ok_iff (full x new y : List R) :
    unique full x new = .ok y ↔ (∀ a ∈ x, a ∈ full) ∧ x.length ≤ full.length ∧ uniqueGo x [] new = .ok y := by
  have hall : x.all (fun a => full.contains a) = true ↔ ∀ a ∈ x, a ∈ full := by
    simp only [List.all_eq_true, List.contains_iff_mem]
  unfold unique
  split
  · rename_i h
    exact ⟨nofun, fun h' => absurd (hall.mpr h'.1) (by rw [h]; exact Bool.false_ne_true)⟩
  · rename_i h
    split
    · rename_i hlen
      exact ⟨nofun, fun h' => absurd h'.2.1 (Nat.not_le.mpr hlen)⟩
    · rename_i hlen
      exact ⟨fun h' => ⟨hall.mp (Bool.eq_true_of_not_eq_false h), Nat.not_lt.mp hlen, h'⟩, fun h' => h'.2.2⟩

theorem uniqueGo_cons_eq_ok {a : R} {t seen new y : List R} (hy : uniqueGo (a :: t) seen new = .ok y) :
    ∃ b y' seen' new', y = b :: y' ∧ uniqueGo t seen' new' = .ok y' ∧ (a ∉ seen → b = a) ∧ seen' ⊆ a :: seen := by
  unfold uniqueGo at hy
  split at hy
  · rename_i hseen
    split at hy
    · cases hy
    · rename_i v rest _
      cases hr : uniqueGo t seen rest.reverse with
      | error e => simp [hr, Except.map] at hy
      | ok y' =>
        simp only [hr, Except.map, Except.ok.injEq] at hy
        exact ⟨v, y', seen, _, hy.symm, hr, fun h => absurd (List.contains_iff_mem.mp hseen) h, List.subset_cons_self _ _⟩
  · cases hr : uniqueGo t (a :: seen) new with
    | error e => simp [hr, Except.map] at hy
    | ok y' =>
      simp only [hr, Except.map, Except.ok.injEq] at hy
      exact ⟨a, y', _, _, hy.symm, hr, fun _ => rfl, List.Subset.refl _⟩

/-- length is kept and every FIRST occurrence (not seen before, not among the earlier entries) stays where it is -/
theorem uniqueGo_first (x seen new y : List R) (hy : uniqueGo x seen new = .ok y) :
    y.length = x.length ∧ ∀ (k : Nat) (a : R), x[k]? = some a → a ∉ seen → a ∉ x.take k → y[k]? = some a := by
  induction x generalizing seen new y with
  | nil =>
    obtain rfl : [] = y := Except.ok.inj hy
    exact ⟨rfl, fun k a ha => nomatch ha⟩
  | cons c t ih =>
    obtain ⟨b, y', seen', new', rfl, hr, hb, hsub⟩ := uniqueGo_cons_eq_ok hy
    obtain ⟨i1, i2⟩ := ih seen' new' y' hr
    refine ⟨congrArg Nat.succ i1, fun k a ha has hat => ?_⟩
    cases k with
    | zero =>
      obtain rfl : c = a := Option.some.inj ha
      rw [hb has]
      rfl
    | succ k =>
      rw [List.take_succ_cons, List.mem_cons, not_or] at hat
      exact i2 k a ha (fun h => (List.mem_cons.mp (hsub h)).elim hat.1 has) hat.2

end uniq

end MysticVerif.Trans
