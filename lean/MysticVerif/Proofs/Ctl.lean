/- what `Terminated`, `_SetEvaluationLimits`, `Finalize` and `Step` of the control model (`Ctl`, Model/Solver.lean) do to the
   counters, limits and flags, field by field, and the three ways `Step` can end -/
import MysticVerif.Model.Solver

namespace MysticVerif.C05
open MysticVerif.Solver

theorem message_isSome_iff (c : Ctl) (term : Bool) :
    (c.message term).isSome = true ↔
      (c.maxfun.reached c.evals = true ∨ c.maxiter.reached c.gens = true ∨ c.earlyExit = true ∨ term = true) := by
  unfold Ctl.message
  by_cases h1 : c.maxfun.reached c.evals = true
  · simp [h1]
  · by_cases h2 : c.maxiter.reached c.gens = true
    · simp [h1, h2]
    · by_cases h3 : c.earlyExit = true
      · simp [h1, h2, h3]
      · by_cases h4 : term = true
        · simp [h1, h2, h3, h4]
        · simp [h1, h2, h3, h4]

theorem resolve_maxiter_val (c : Ctl) (g : Nat) (h : c.maxiter = .val g) : c.resolve.maxiter = .val g := by
  simp [Ctl.resolve, h]

@[simp] theorem pre_gens (c : Ctl) : c.pre.gens = c.gens := by unfold Ctl.pre; split <;> rfl

@[simp] theorem pre_evals (c : Ctl) : c.pre.evals = c.evals := by unfold Ctl.pre; split <;> rfl

@[simp] theorem pre_nstep (c : Ctl) : c.pre.nstep = c.nstep := by unfold Ctl.pre; split <;> rfl

@[simp] theorem pre_powell (c : Ctl) : c.pre.powell = c.powell := by unfold Ctl.pre; split <;> rfl

@[simp] theorem pre_earlyExit (c : Ctl) : c.pre.earlyExit = c.earlyExit := by unfold Ctl.pre; split <;> rfl

theorem pre_maxiter_val (c : Ctl) (g : Nat) (h : c.maxiter = .val g) : c.pre.maxiter = .val g := by
  unfold Ctl.pre; split
  · exact h
  · exact resolve_maxiter_val _ g h

theorem after_maxiter_val (c : Ctl) (d : Delta) (g : Nat) (h : c.maxiter = .val g) : (c.after d).maxiter = .val g := by
  unfold Ctl.after
  exact resolve_maxiter_val _ g (pre_maxiter_val c g h)

theorem after_gens (c : Ctl) (d : Delta) (hp : c.powell = false) : (c.after d).gens = c.gens + d.dGens := by
  show (if c.pre.powell = true then _ else c.pre.gens + d.dGens) = _
  rw [pre_powell, hp, pre_gens]
  rfl

@[simp] theorem after_powell (c : Ctl) (d : Delta) : (c.after d).powell = c.powell :=
  pre_powell c

@[simp] theorem after_nstep (c : Ctl) (d : Delta) : (c.after d).nstep = c.nstep + d.dStep :=
  congrArg (· + d.dStep) (pre_nstep c)

theorem after_evals (c : Ctl) (d : Delta) : (c.after d).evals = c.evals + d.dEvals :=
  congrArg (· + d.dEvals) (pre_evals c)

theorem finalize_evals (c : Ctl) : c.finalize.evals = c.evals := by
  unfold Ctl.finalize; split <;> rfl

theorem finalize_gens (c : Ctl) (hp : c.powell = false) : c.finalize.gens = c.gens := by
  unfold Ctl.finalize; rw [hp]; rfl

theorem finalize_maxiter (c : Ctl) : c.finalize.maxiter = c.maxiter := by
  unfold Ctl.finalize; split <;> rfl

theorem finalize_powell (c : Ctl) : c.finalize.powell = c.powell := by
  unfold Ctl.finalize; split <;> rfl

theorem finalize_nstep_ge (c : Ctl) : c.nstep ≤ c.finalize.nstep := by
  unfold Ctl.finalize; split <;> simp

/-- for every solver but Powell `Finalize` changes nothing `Terminated` reads -/
theorem finalize_message (c : Ctl) (t : Bool) (hp : c.powell = false) : c.finalize.message t = c.message t := by
  unfold Ctl.finalize; rw [hp]; rfl

/-- the three ways `Step` can end -/
theorem step_cases (c : Ctl) (tp tq : Bool) (d : Delta) :
    (∃ m, c.preMsg tp = some m ∧ c.step tp tq d = (c.pre, some m, false)) ∨
    (c.preMsg tp = none ∧ ∃ m, (c.after d).message tq = some m ∧
      c.step tp tq d = ((c.after d).finalize, (c.after d).finalize.message tq, true)) ∨
    (c.preMsg tp = none ∧ (c.after d).message tq = none ∧ c.step tp tq d = (c.after d, none, true)) := by
  unfold Ctl.step
  cases h1 : c.preMsg tp with
  | some m => exact Or.inl ⟨m, rfl, rfl⟩
  | none =>
    cases h2 : (c.after d).message tq with
    | some m => exact Or.inr (Or.inl ⟨rfl, m, rfl, rfl⟩)
    | none => exact Or.inr (Or.inr ⟨rfl, rfl, rfl⟩)

/-- an iteration runs only if no stop condition held at that moment -/
theorem step_ran_only_if_not_stopped (c : Ctl) (termPre termPost : Bool) (d : Delta)
    (hran : (c.step termPre termPost d).2.2 = true) : c.preMsg termPre = none := by
  unfold Ctl.step at hran
  cases hmsg : c.preMsg termPre with
  | none => rfl
  | some m => rw [hmsg] at hran; cases hran

theorem step_nstep_ge (c : Ctl) (tp tq : Bool) (d : Delta) : c.nstep ≤ (c.step tp tq d).1.nstep := by
  have h1 : c.nstep ≤ (c.after d).nstep := by rw [after_nstep]; exact Nat.le_add_right _ _
  rcases step_cases c tp tq d with ⟨m, _, hs⟩ | ⟨_, m, _, hs⟩ | ⟨_, _, hs⟩ <;> rw [hs]
  · exact Nat.le_of_eq (pre_nstep c).symm
  · exact Nat.le_trans h1 (finalize_nstep_ge _)
  · exact h1

theorem step_evals (c : Ctl) (tp tq : Bool) (d : Delta) :
    (c.step tp tq d).1.evals = c.evals + (if (c.step tp tq d).2.2 = true then d.dEvals else 0) := by
  rcases step_cases c tp tq d with ⟨m, _, hs⟩ | ⟨_, m, _, hs⟩ | ⟨_, _, hs⟩ <;> rw [hs]
  · exact pre_evals c
  · exact (finalize_evals _).trans (after_evals c d)
  · exact after_evals c d

theorem step_evals_of_ran (c : Ctl) (tp tq : Bool) (d : Delta) (hran : (c.step tp tq d).2.2 = true) :
    (c.step tp tq d).1.evals = c.evals + d.dEvals := by
  rw [step_evals, hran]
  rfl

theorem step_gens (c : Ctl) (tp tq : Bool) (d : Delta) (hp : c.powell = false) :
    (c.step tp tq d).1.gens = c.gens + (if (c.step tp tq d).2.2 = true then d.dGens else 0) ∧
    (c.step tp tq d).1.powell = false := by
  rcases step_cases c tp tq d with ⟨m, _, hs⟩ | ⟨_, m, _, hs⟩ | ⟨_, _, hs⟩ <;> rw [hs]
  · exact ⟨pre_gens c, (pre_powell c).trans hp⟩
  · have hpa := (after_powell c d).trans hp
    exact ⟨(finalize_gens _ hpa).trans (after_gens c d hp), (finalize_powell _).trans hpa⟩
  · exact ⟨after_gens c d hp, (after_powell c d).trans hp⟩

end MysticVerif.C05
