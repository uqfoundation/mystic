/- helper lemmas for Props/C16/{Insert,Stats,Select}.lean: `scatter` / `gather` (last write wins), the insertion loop of
`masked`, maximum and minimum of a list, mean / variance / spread under an affine map, the loop of `synchronized` -/
import MysticVerif.Proofs.Transforms

namespace MysticVerif.Trans

variable {R : Type}

/-- the last value `scatter ks vs` writes to slot `k`, if any -/
def lastScatter : List Nat → List R → Nat → Option R
  | k0 :: ks, v :: vs, k =>
    match lastScatter ks vs k with
    | some w => some w
    | none => if k0 = k then some v else none
  | _, _, _ => none

theorem scatter_getElem? (ks : List Nat) (vs : List R) (x : List R) (k : Nat) :
    (scatter ks vs x)[k]? = (x[k]?).map (fun a => (lastScatter ks vs k).getD a) := by
  induction ks generalizing vs x with
  | nil => simp [scatter, lastScatter]
  | cons k0 ks ih =>
    cases vs with
    | nil => simp [scatter, lastScatter]
    | cons v vs =>
      rw [scatter, ih, lastScatter, List.getElem?_set']
      cases x[k]? with
      | none => split <;> rfl
      | some a =>
        cases lastScatter ks vs k with
        | some w => split <;> rfl
        | none => split <;> rfl

theorem lastScatter_not_mem (ks : List Nat) (vs : List R) (k : Nat) (hk : k ∉ ks) : lastScatter ks vs k = none := by
  induction ks generalizing vs with
  | nil => simp [lastScatter]
  | cons k0 ks ih =>
    cases vs with
    | nil => simp [lastScatter]
    | cons v vs =>
      rw [lastScatter, ih vs (fun h => hk (List.mem_cons_of_mem _ h)), if_neg (fun h : k0 = k => hk (h ▸ List.mem_cons_self))]

theorem lastScatter_nodup (ks : List Nat) (vs : List R) (hnd : ks.Nodup) (r k : Nat) (v : R)
    (hk : ks[r]? = some k) (hv : vs[r]? = some v) : lastScatter ks vs k = some v := by
  induction ks generalizing vs r with
  | nil => cases hk
  | cons k0 ks ih =>
    cases vs with
    | nil => cases hv
    | cons v0 vs =>
      obtain ⟨hnm, hnd⟩ := List.nodup_cons.mp hnd
      rw [lastScatter]
      cases r with
      | zero =>
        obtain rfl : k0 = k := Option.some.inj hk
        obtain rfl : v0 = v := Option.some.inj hv
        rw [lastScatter_not_mem ks vs k0 hnm, if_pos rfl]
      | succ r => rw [ih vs hnd r hk hv]

theorem scatter_scatter (ks : List Nat) (vs : List R) (x : List R) :
    scatter ks vs (scatter ks vs x) = scatter ks vs x := by
  apply List.ext_getElem?
  intro k
  rw [scatter_getElem?, scatter_getElem?]
  cases x[k]? with
  | none => rfl
  | some a => cases lastScatter ks vs k <;> simp

theorem gather_cons (k : Nat) (ks : List Nat) (x : List R) (a : R) (h : x[k]? = some a) :
    gather (k :: ks) x = a :: gather ks x := by
  rw [gather, List.filterMap_cons, h]
  rfl

theorem gather_congr (ks : List Nat) (x y : List R) (h : ∀ k ∈ ks, x[k]? = y[k]?) : gather ks x = gather ks y :=
  List.filterMap_congr h

theorem gather_length (ks : List Nat) (x : List R) (h : ∀ k ∈ ks, k < x.length) : (gather ks x).length = ks.length := by
  induction ks with
  | nil => rfl
  | cons k ks ih =>
    have hk := h k List.mem_cons_self
    rw [gather_cons k ks x x[k] (List.getElem?_eq_getElem hk)]
    simp [ih (fun k' hk' => h k' (List.mem_cons_of_mem _ hk'))]

theorem gather_scatter (ks : List Nat) (vs : List R) (x : List R) (hnd : ks.Nodup) (hlt : ∀ k ∈ ks, k < x.length)
    (hlen : vs.length = ks.length) : gather ks (scatter ks vs x) = vs := by
  induction ks generalizing vs x with
  | nil => rw [List.eq_nil_of_length_eq_zero hlen]; rfl
  | cons k ks ih =>
    cases vs with
    | nil => cases hlen
    | cons v vs =>
      obtain ⟨hnm, hnd⟩ := List.nodup_cons.mp hnd
      have hk := hlt k List.mem_cons_self
      have hget : (scatter (k :: ks) (v :: vs) x)[k]? = some v := by
        rw [scatter, scatter_not_mem _ _ _ _ hnm, List.getElem?_set_self hk]
      rw [gather_cons k ks _ v hget, scatter, ih vs (x.set k v) hnd
        (fun k' hk' => by rw [List.length_set]; exact hlt k' (List.mem_cons_of_mem _ hk')) (Nat.succ.inj hlen)]

theorem scatter_gather (ks : List Nat) (x : List R) (hlt : ∀ k ∈ ks, k < x.length) : scatter ks (gather ks x) x = x := by
  induction ks with
  | nil => rfl
  | cons k ks ih =>
    have hk := hlt k List.mem_cons_self
    rw [gather_cons k ks x x[k] (List.getElem?_eq_getElem hk), scatter, List.set_getElem_self]
    exact ih (fun k' hk' => hlt k' (List.mem_cons_of_mem _ hk'))

/-- the entries of `l` whose position (counted from `i`) is not in `S`, in order -/
def dropPos (S : List Nat) : List R → Nat → List R
  | [], _ => []
  | a :: t, i => if i ∈ S then dropPos S t (i + 1) else a :: dropPos S t (i + 1)

theorem dropPos_all_before (S : List Nat) (l : List R) (i : Nat) (h : ∀ s ∈ S, s < i) : dropPos S l i = l := by
  induction l generalizing i with
  | nil => rfl
  | cons a t ih =>
    simp only [dropPos]
    have : i ∉ S := fun hi => Nat.lt_irrefl _ (h i hi)
    rw [if_neg this, ih (i + 1) (fun s hs => Nat.lt_succ_of_lt (h s hs))]

theorem insertAt_zero (v : R) (l : List R) : insertAt 0 v l = v :: l := by simp [insertAt]

theorem insertAt_succ (j : Nat) (v a : R) (t : List R) : insertAt (j + 1) v (a :: t) = a :: insertAt j v t := by
  simp [insertAt]

theorem insertAt_length (k : Nat) (v : R) (l : List R) : (insertAt k v l).length = l.length + 1 := by
  simp only [insertAt, List.length_append, List.length_cons, List.length_take, List.length_drop]
  omega

theorem insertAt_getElem?_lt (k : Nat) (v : R) (l : List R) (j : Nat) (hj : j < k) (hk : k ≤ l.length) :
    (insertAt k v l)[j]? = l[j]? := by
  rw [insertAt, List.getElem?_append_left (by rw [List.length_take_of_le hk]; exact hj), List.getElem?_take_of_lt hj]

theorem insertAt_getElem?_self (k : Nat) (v : R) (l : List R) (hk : k ≤ l.length) :
    (insertAt k v l)[k]? = some v := by
  have hlen : (l.take k).length = k := List.length_take_of_le hk
  rw [insertAt, List.getElem?_append_right (Nat.le_of_eq hlen), hlen, Nat.sub_self]
  rfl

theorem dropPos_insertAt (S : List Nat) (k : Nat) (v : R) (l : List R) (i : Nat) (hS : ∀ s ∈ S, s < k) (hik : i ≤ k)
    (hk : k - i ≤ l.length) : dropPos (k :: S) (insertAt (k - i) v l) i = dropPos S l i := by
  induction l generalizing i with
  | nil =>
    obtain rfl : k = i := Nat.le_antisymm (Nat.sub_eq_zero_iff_le.mp (Nat.le_zero.mp hk)) hik
    rw [Nat.sub_self, insertAt_zero]
    simp only [dropPos, List.mem_cons_self, if_true]
  | cons a t ih =>
    by_cases hki : k = i
    · -- the inserted entry is dropped, and no later position is listed
      subst hki
      rw [Nat.sub_self, insertAt_zero, dropPos, if_pos List.mem_cons_self,
        dropPos_all_before (k :: S) (a :: t) (k + 1) (fun s hs => by
          rcases List.mem_cons.mp hs with h | h
          · exact h ▸ Nat.lt_succ_self k
          · exact Nat.lt_succ_of_lt (hS s h)),
        dropPos_all_before S (a :: t) k hS]
    · have hlt : i < k := lt_of_le_of_ne hik (Ne.symm hki)
      have hmem : i ∈ k :: S ↔ i ∈ S := List.mem_cons.trans (or_iff_right (Nat.ne_of_lt hlt))
      rw [show k - i = (k - (i + 1)) + 1 by omega, insertAt_succ]
      simp only [dropPos, hmem, ih (i + 1) hlt (by rw [List.length_cons] at hk; omega)]

theorem dropPos_congr (S S' : List Nat) (l : List R) (i : Nat) (h : ∀ j, j ∈ S ↔ j ∈ S') :
    dropPos S l i = dropPos S' l i := by
  induction l generalizing i with
  | nil => rfl
  | cons a t ih =>
    simp only [dropPos]
    by_cases hi : i ∈ S
    · rw [if_pos hi, if_pos ((h i).mp hi), ih]
    · rw [if_neg hi, if_neg (fun h' => hi ((h i).mpr h')), ih]

/-- the insertion loop of `insert_missing` (tools.py l.536-538) over an already sorted key list -/
def maskedFold (mask : List (Int × R)) (ks : List Int) (x : List R) : List R :=
  ks.foldl (fun l k => match mask.find? (fun e => e.1 == k) with
    | some e => insertAt k.toNat e.2 l
    | none => l) x

/-- strictly ascending non-negative keys, the largest at most `len(x) + len(mask) - 1`: every value ends up at its
key, and the other positions are the input in its order -/
theorem maskedFold_spec (mask : List (Int × R)) (ks : List Int) (x : List R)
    (hpw : ks.Pairwise (· < ·)) (h0 : ∀ k ∈ ks, 0 ≤ k)
    (hfind : ∀ k ∈ ks, ∃ e, mask.find? (fun e => e.1 == k) = some e)
    (hub : ∀ k ∈ ks, k ≤ ((x.length + ks.length : Nat) : Int) - 1) :
    (maskedFold mask ks x).length = x.length + ks.length ∧
    (∀ k ∈ ks, ∀ e, mask.find? (fun e => e.1 == k) = some e → (maskedFold mask ks x)[k.toNat]? = some e.2) ∧
    ∀ S : List Nat, (∀ j, j ∈ S ↔ j ∈ ks.map Int.toNat) → dropPos S (maskedFold mask ks x) 0 = x := by
  obtain ⟨l, rfl⟩ : ∃ l, ks = l.reverse := ⟨ks.reverse, ks.reverse_reverse.symm⟩
  induction l with
  | nil =>
    exact ⟨rfl, fun k hk => absurd hk List.not_mem_nil,
      fun S hS => dropPos_all_before S x 0 (fun s hs => absurd ((hS s).mp hs) List.not_mem_nil)⟩
  | cons k l ih =>
    -- the keys ascend, so the head of the reversed list is the largest key and is inserted last
    rw [List.reverse_cons] at hpw h0 hfind hub ⊢
    generalize l.reverse = r at *
    obtain ⟨hpw', _, hlt⟩ := List.pairwise_append.mp hpw
    have hltk : ∀ k' ∈ r, k' < k := fun k' hk' => hlt k' hk' k (List.mem_singleton_self k)
    have hmem : ∀ k' ∈ r, k' ∈ r ++ [k] := fun k' hk' => List.mem_append_left _ hk'
    have hk : k ∈ r ++ [k] := List.mem_append_right _ (List.mem_singleton_self k)
    have hk0 := h0 k hk
    have hkub := hub k hk
    rw [List.length_append, List.length_singleton] at hkub
    obtain ⟨ihl, ihv, ihd⟩ := ih hpw' (fun k' hk' => h0 k' (hmem k' hk')) (fun k' hk' => hfind k' (hmem k' hk'))
      (fun k' hk' => by have := hltk k' hk'; omega)
    obtain ⟨e, he⟩ := hfind k hk
    have hstep : maskedFold mask (r ++ [k]) x = insertAt k.toNat e.2 (maskedFold mask r x) := by
      simp only [maskedFold, List.foldl_append, List.foldl_cons, List.foldl_nil, he]
    have hkl : k.toNat ≤ (maskedFold mask r x).length := by rw [ihl]; omega
    have hsmall : ∀ k' ∈ r, k'.toNat < k.toNat := fun k' hk' => by
      have h1 := hltk k' hk'
      have h2 := h0 k' (hmem k' hk')
      omega
    rw [hstep]
    refine ⟨by rw [insertAt_length, ihl, List.length_append, List.length_singleton, Nat.add_assoc], ?_, ?_⟩
    · intro k' hk' e' he'
      rcases List.mem_append.mp hk' with h | h
      · rw [insertAt_getElem?_lt _ _ _ _ (hsmall k' h) hkl]
        exact ihv k' h e' he'
      · obtain rfl := List.mem_singleton.mp h
        obtain rfl := Option.some.inj (he.symm.trans he')
        exact insertAt_getElem?_self _ _ _ hkl
    · intro S hS
      rw [dropPos_congr S (k.toNat :: r.map Int.toNat) _ 0 (fun j => by
        rw [hS, List.map_append, List.mem_append, List.mem_cons, or_comm]; simp)]
      have := dropPos_insertAt (r.map Int.toNat) k.toNat e.2 (maskedFold mask r x) 0
        (fun s hs => by
          obtain ⟨k', hk', rfl⟩ := List.mem_map.mp hs
          exact hsmall k' hk') (Nat.zero_le _) (by rwa [Nat.sub_zero])
      rw [Nat.sub_zero] at this
      rw [this, ihd _ (fun _ => Iff.rfl)]

theorem find?_key_of_nodup (mask : List (Int × R)) (hnd : (mask.map (·.1)).Nodup) (e : Int × R) (he : e ∈ mask) :
    mask.find? (fun e' => e'.1 == e.1) = some e := by
  induction mask with
  | nil => cases he
  | cons a t ih =>
    simp only [List.map_cons, List.nodup_cons] at hnd
    rcases List.mem_cons.mp he with h | h
    · subst h; simp
    · have hne : a.1 ≠ e.1 := fun heq => hnd.1 (heq ▸ List.mem_map_of_mem (f := (·.1)) h)
      have hb : (a.1 == e.1) = false := beq_false_of_ne hne
      rw [List.find?_cons, hb]
      exact ih hnd.2 h

section extremes
variable {K : Type} [LinearOrder K]

theorem foldl_max_le_iff (l : List K) (a c : K) : l.foldl max a ≤ c ↔ a ≤ c ∧ ∀ k ∈ l, k ≤ c := by
  induction l generalizing a with
  | nil => simp
  | cons b t ih => rw [List.foldl_cons, ih, max_le_iff, List.forall_mem_cons, and_assoc]

theorem le_foldl_min_iff (l : List K) (a c : K) : c ≤ l.foldl min a ↔ c ≤ a ∧ ∀ k ∈ l, c ≤ k := by
  induction l generalizing a with
  | nil => simp
  | cons b t ih => rw [List.foldl_cons, ih, le_min_iff, List.forall_mem_cons, and_assoc]

/-- the fold step of `maxL` is `max` (a tie returns either, they are equal) -/
theorem maxL_eq_max? (l : List K) : maxL l = l.max? := by
  cases l with
  | nil => rfl
  | cons a t =>
    have : (fun m b : K => if m < b then b else m) = max := by
      funext m b
      split
      · exact (max_eq_right_of_lt ‹_›).symm
      · exact (max_eq_left (not_lt.mp ‹_›)).symm
    rw [maxL, this, List.max?_cons']

theorem minL_eq_min? (l : List K) : minL l = l.min? := by
  cases l with
  | nil => rfl
  | cons a t =>
    have : (fun m b : K => if b < m then b else m) = min := by
      funext m b
      split
      · exact (min_eq_right_of_lt ‹_›).symm
      · exact (min_eq_left (not_lt.mp ‹_›)).symm
    rw [minL, this, List.min?_cons']

theorem maxL_eq_some_iff {l : List K} {m : K} : maxL l = some m ↔ m ∈ l ∧ ∀ b ∈ l, b ≤ m := by
  rw [maxL_eq_max?]; exact List.max?_eq_some_iff

theorem minL_eq_some_iff {l : List K} {m : K} : minL l = some m ↔ m ∈ l ∧ ∀ b ∈ l, m ≤ b := by
  rw [minL_eq_min?]; exact List.min?_eq_some_iff

end extremes

section affine
variable {K : Type} [Field K]

theorem sum_map_affine (x : List K) (c d : K) : (x.map (fun a => a * c + d)).sum = x.sum * c + (x.length : K) * d := by
  induction x with
  | nil => simp
  | cons a t ih => simp only [List.map_cons, List.sum_cons, List.length_cons, ih]; push_cast; ring

theorem sum_map_sq_affine (x : List K) (c d mu : K) :
    (x.map (fun a => (a * c + d - (mu * c + d)) * (a * c + d - (mu * c + d)))).sum
      = c * c * (x.map (fun a => (a - mu) * (a - mu))).sum := by
  induction x with
  | nil => simp
  | cons a t ih => simp only [List.map_cons, List.sum_cons, ih]; ring

variable [LinearOrder K]

theorem withVariance_eq_ok {sqrt : K → K} {atol rtol nan target : K} {x y : List K}
    (hy : withVariance List.sum Nat.cast sqrt atol rtol nan target x = .ok y) :
    x ≠ [] ∧
      ((close atol rtol (variance List.sum Nat.cast x) target = true ∧ y = x)
       ∨ (variance List.sum Nat.cast x = 0 ∧ target = 0 ∧ y = x)
       ∨ (variance List.sum Nat.cast x = 0 ∧ target ≠ 0 ∧ y = x.map (fun _ => nan))
       ∨ (variance List.sum Nat.cast x ≠ 0 ∧ y = imposeMean List.sum Nat.cast (meanL List.sum Nat.cast x)
            (x.map (· * sqrt (target / variance List.sum Nat.cast x))))) := by
  unfold withVariance at hy
  split at hy
  · cases hy
  · rename_i hxe
    refine ⟨fun h => hxe (h ▸ rfl), ?_⟩
    simp only [eqR_iff] at hy
    split at hy
    · rename_i hc
      exact .inl ⟨hc, (Except.ok.inj hy).symm⟩
    · split at hy
      · rename_i _ he
        split at hy
        · rename_i ht0
          exact .inr (.inl ⟨he, ht0, (Except.ok.inj hy).symm⟩)
        · rename_i ht0
          exact .inr (.inr (.inl ⟨he, ht0, (Except.ok.inj hy).symm⟩))
      · rename_i _ he
        exact .inr (.inr (.inr ⟨he, (Except.ok.inj hy).symm⟩))

variable [IsStrictOrderedRing K]

theorem mean_map_affine (x : List K) (hx : x ≠ []) (c d : K) :
    meanL List.sum Nat.cast (x.map (fun a => a * c + d)) = meanL List.sum Nat.cast x * c + d := by
  rw [meanL, meanL, sum_map_affine, List.length_map, add_div, mul_div_right_comm,
    mul_div_cancel_left₀ _ (Nat.cast_ne_zero.mpr (mt List.eq_nil_of_length_eq_zero hx))]

/-- `variance(c*x + d) = c^2 * variance(x)` -/
theorem variance_map_affine (x : List K) (hx : x ≠ []) (c d : K) :
    variance List.sum Nat.cast (x.map (fun a => a * c + d)) = c * c * variance List.sum Nat.cast x := by
  unfold variance
  simp only
  rw [mean_map_affine x hx c d]
  unfold meanL
  simp only [List.map_map, List.length_map, Function.comp_def]
  rw [sum_map_sq_affine]
  ring

theorem sum_map_sq_sub_nonneg (x : List K) (mu : K) : 0 ≤ (x.map (fun a => (a - mu) * (a - mu))).sum := by
  induction x with
  | nil => exact le_refl 0
  | cons a t ih =>
    rw [List.map_cons, List.sum_cons]
    exact add_nonneg (mul_self_nonneg _) ih

theorem variance_nonneg (x : List K) : 0 ≤ variance List.sum Nat.cast x := by
  unfold variance meanL
  simp only [List.length_map]
  exact div_nonneg (sum_map_sq_sub_nonneg x _) (Nat.cast_nonneg _)

/-- `spread(c*x + d) = |c| * spread(x)`: `c ≥ 0` keeps maximum and minimum in place, `c ≤ 0` swaps them -/
theorem spread_map_affine (x : List K) (c d mx mn : K) (hmx : maxL x = some mx) (hmn : minL x = some mn) :
    ∃ my ny, maxL (x.map (fun a => a * c + d)) = some my ∧ minL (x.map (fun a => a * c + d)) = some ny
      ∧ my - ny = |c| * (mx - mn) := by
  obtain ⟨hmx, hmax⟩ := maxL_eq_some_iff.mp hmx
  obtain ⟨hmn, hmin⟩ := minL_eq_some_iff.mp hmn
  rcases le_total 0 c with hc | hc
  · have hmono : ∀ a b : K, a ≤ b → a * c + d ≤ b * c + d :=
      fun a b h => add_le_add_left (mul_le_mul_of_nonneg_right h hc) d
    exact ⟨mx * c + d, mn * c + d,
      maxL_eq_some_iff.mpr ⟨List.mem_map_of_mem hmx, List.forall_mem_map.mpr fun b hb => hmono b mx (hmax b hb)⟩,
      minL_eq_some_iff.mpr ⟨List.mem_map_of_mem hmn, List.forall_mem_map.mpr fun b hb => hmono mn b (hmin b hb)⟩,
      by rw [abs_of_nonneg hc]; ring⟩
  · have hanti : ∀ a b : K, a ≤ b → b * c + d ≤ a * c + d :=
      fun a b h => add_le_add_left (mul_le_mul_of_nonpos_right h hc) d
    exact ⟨mn * c + d, mx * c + d,
      maxL_eq_some_iff.mpr ⟨List.mem_map_of_mem hmn, List.forall_mem_map.mpr fun b hb => hanti mn b (hmin b hb)⟩,
      minL_eq_some_iff.mpr ⟨List.mem_map_of_mem hmx, List.forall_mem_map.mpr fun b hb => hanti b mx (hmax b hb)⟩,
      by rw [abs_of_nonpos hc]; ring⟩

end affine

theorem getPy_congr (x y : List R) (i : Int) (hl : y.length = x.length)
    (h : ∀ k, wrapIdx x.length i = some k → y[k]? = x[k]?) : getPy y i = getPy x i := by
  unfold getPy
  rw [hl]
  cases hw : wrapIdx x.length i with
  | none => rfl
  | some k => simp only [Option.bind_some]; exact h k hw

section sync
variable {R : Type} [Mul R]

/-- the index a mask value reads -/
def Track.src : Track R → Int
  | .idx j => j
  | .scaled j0 _ => j0

/-- the value one mask entry assigns, read from `x` (`none`: the entry is skipped) -/
def syncVal (isArray : Bool) (x : List R) : Track R → Option R
  | .idx j => getPy x j
  | .scaled j0 c => if isArray = true then none else (getPy x j0).map (c * ·)

/-- one iteration of the loop of `synchronized` -/
def syncStep (isArray : Bool) (xp : List R) (e : Int × Track R) : List R :=
  match syncVal isArray xp e.2 with
  | some v => setPy xp e.1 v
  | none => xp

theorem synchronized_eq_foldl (isArray : Bool) (mask : List (Int × Track R)) (x : List R) :
    synchronized isArray mask x = mask.foldl (syncStep isArray) x := by
  unfold synchronized
  congr 1
  funext xp e
  unfold syncStep syncVal
  cases e.2 with
  | idx j => simp only; cases getPy xp j <;> rfl
  | scaled j0 c =>
    simp only
    by_cases h : isArray = true
    · simp [h]
    · simp only [h]
      cases getPy xp j0 <;> rfl

theorem syncStep_length (isArray : Bool) (xp : List R) (e : Int × Track R) :
    (syncStep isArray xp e).length = xp.length := by
  unfold syncStep; split
  · exact setPy_length _ _ _
  · rfl

theorem foldl_syncStep_length (isArray : Bool) (mask : List (Int × Track R)) (xp : List R) :
    (mask.foldl (syncStep isArray) xp).length = xp.length := by
  induction mask generalizing xp with
  | nil => rfl
  | cons e rest ih => simp only [List.foldl_cons]; rw [ih, syncStep_length]

theorem syncStep_getElem? (isArray : Bool) (xp : List R) (e : Int × Track R) (k : Nat) :
    (syncStep isArray xp e)[k]? =
      (xp[k]?).map (fun a => if wrapIdx xp.length e.1 = some k then (syncVal isArray xp e.2).getD a else a) := by
  unfold syncStep
  cases syncVal isArray xp e.2 with
  | none => simp
  | some v =>
    rw [setPy_getElem?]
    split
    · rename_i hw
      rw [List.getElem?_eq_getElem (wrapIdx_lt hw)]
      rfl
    · simp

theorem syncStep_getElem?_other (isArray : Bool) (xp : List R) (e : Int × Track R) (k : Nat)
    (h : wrapIdx xp.length e.1 ≠ some k) : (syncStep isArray xp e)[k]? = xp[k]? := by
  rw [syncStep_getElem?]
  simp [h]

theorem foldl_syncStep_frame (isArray : Bool) (mask : List (Int × Track R)) (xp : List R) (k : Nat)
    (h : ∀ e ∈ mask, wrapIdx xp.length e.1 ≠ some k) : (mask.foldl (syncStep isArray) xp)[k]? = xp[k]? := by
  induction mask generalizing xp with
  | nil => rfl
  | cons e rest ih =>
    simp only [List.foldl_cons]
    rw [ih _ (fun e' he' => by rw [syncStep_length]; exact h e' (List.mem_cons_of_mem _ he'))]
    exact syncStep_getElem?_other isArray xp e k (h e List.mem_cons_self)

theorem syncVal_congr (isArray : Bool) (x y : List R) (t : Track R) (h : getPy y t.src = getPy x t.src) :
    syncVal isArray y t = syncVal isArray x t := by
  cases t with
  | idx j => simpa [syncVal, Track.src] using h
  | scaled j0 c =>
    simp only [syncVal, Track.src] at h ⊢
    rw [h]

/-- the last value the mask assigns to slot `k`, every value read from the ORIGINAL `x` -/
def lastSync (isArray : Bool) (x : List R) : List (Int × Track R) → Nat → Option R
  | [], _ => none
  | e :: rest, k =>
    match lastSync isArray x rest k with
    | some v => some v
    | none => if wrapIdx x.length e.1 = some k then syncVal isArray x e.2 else none

/-- "keys and values should be different": no tracked index addresses a slot some key addresses -/
def SrcNotKey (n : Nat) (mask : List (Int × Track R)) : Prop :=
  ∀ e ∈ mask, ∀ e' ∈ mask, ∀ w, wrapIdx n e.1 = some w → wrapIdx n e'.2.src ≠ some w

theorem foldl_syncStep_spec (isArray : Bool) (x : List R) (mask : List (Int × Track R)) (xp : List R)
    (hl : xp.length = x.length)
    (hsrc : ∀ e' ∈ mask, getPy xp e'.2.src = getPy x e'.2.src)
    (hdis : SrcNotKey x.length mask) (k : Nat) :
    (mask.foldl (syncStep isArray) xp)[k]? = (xp[k]?).map (fun a => (lastSync isArray x mask k).getD a) := by
  induction mask generalizing xp with
  | nil => simp [lastSync]
  | cons e rest ih =>
    simp only [List.foldl_cons]
    have hl' : (syncStep isArray xp e).length = x.length := by rw [syncStep_length, hl]
    have hsrc' : ∀ e' ∈ rest, getPy (syncStep isArray xp e) e'.2.src = getPy x e'.2.src := by
      intro e' he'
      rw [← hsrc e' (List.mem_cons_of_mem _ he')]
      apply getPy_congr _ _ _ (syncStep_length isArray xp e)
      intro w hw
      apply syncStep_getElem?_other
      intro hkey
      rw [hl] at hkey hw
      exact hdis e List.mem_cons_self e' (List.mem_cons_of_mem _ he') w hkey hw
    rw [ih _ hl' hsrc' (fun a ha b hb => hdis a (List.mem_cons_of_mem _ ha) b (List.mem_cons_of_mem _ hb))]
    rw [syncStep_getElem?, syncVal_congr isArray x xp e.2 (hsrc e List.mem_cons_self), hl, Option.map_map]
    congr 1
    funext a
    simp only [Function.comp, lastSync]
    cases lastSync isArray x rest k with
    | some v => rfl
    | none => split <;> rfl

end sync

end MysticVerif.Trans
