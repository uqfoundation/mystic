/- Helper lemmas for the argument shapes of generate_constraint (model: Model/EmittedShape.lean). -/
import MysticVerif.Model.EmittedShape
import MysticVerif.Proofs.EmittedJoin

namespace MysticVerif.Emitted

namespace Nest
variable {α β : Type}

theorem flatL_cons (t : Nest α) (ts : List (Nest α)) : flatL (t :: ts) = flat t ++ flatL ts := by
  rw [flatL]

theorem flatL_nil : flatL ([] : List (Nest α)) = [] := by rw [flatL]

theorem flat_leaf (a : α) : flat (.leaf a) = [a] := by rw [flat]

theorem flat_node (ts : List (Nest α)) : flat (.node ts) = flatL ts := by rw [flat]

theorem flatL_append (ts us : List (Nest α)) : flatL (ts ++ us) = flatL ts ++ flatL us := by
  induction ts with
  | nil => simp [flatL_nil]
  | cons t ts ih => rw [List.cons_append, flatL_cons, flatL_cons, ih, List.append_assoc]

theorem flatL_leaves (l : List α) : flatL (l.map .leaf) = l := by
  induction l with
  | nil => simp [flatL_nil]
  | cons a l ih => rw [List.map_cons, flatL_cons, flat_leaf, ih]; rfl

mutual
theorem flat_map (f : α → β) : ∀ t : Nest α, flat (map f t) = (flat t).map f
  | .leaf a => by rw [map, flat_leaf, flat_leaf]; rfl
  | .node ts => by rw [map, flat_node, flat_node]; exact flatL_mapL f ts
theorem flatL_mapL (f : α → β) : ∀ ts : List (Nest α), flatL (mapL f ts) = (flatL ts).map f
  | [] => by rw [mapL, flatL_nil]; rfl
  | t :: ts => by rw [mapL, flatL_cons, flatL_cons, flat_map f t, flatL_mapL f ts, List.map_append]
end

theorem top_map (f : α → β) (t : Nest α) : (map f t).top = mapL f t.top := by
  cases t with
  | leaf a => rw [map]; simp only [top]; rw [mapL, mapL, map]
  | node ts => rw [map]; simp only [top]

theorem flatL_top_map (f : α → β) (t : Nest α) : flatL (map f t).top = (flatL t.top).map f := by
  rw [top_map, flatL_mapL]

/-- a single function and the one-element list around it are the same `conditions` -/
theorem top_leaf (a : α) : (Nest.leaf a).top = (Nest.node [.leaf a]).top := rfl

theorem flat_eq_flatL_top (t : Nest α) : flat t = flatL t.top := by
  cases t with
  | leaf a => simp only [top]; rw [flat_leaf, flatL_cons, flat_leaf, flatL_nil]; rfl
  | node ts => simp only [top]; rw [flat_node]

theorem mem_flatL_iff (ts : List (Nest α)) (a : α) : a ∈ flatL ts ↔ ∃ t ∈ ts, a ∈ flatL t.top := by
  induction ts with
  | nil => rw [flatL_nil]; simp
  | cons t ts ih =>
    rw [flatL_cons, List.mem_append, ih, flat_eq_flatL_top]
    simp only [List.mem_cons, exists_eq_or_imp]

end Nest

theorem ctypeList_none_length (n : Nat) : (ctypeList .none n).length = n := by simp [ctypeList]

theorem ctypeList_one_length (c : CType) (n : Nat) : (ctypeList (.one c) n).length = n := by simp [ctypeList]

/-- `ctype` has a coupler for each of `n` solvers: always for `None` / one coupler (they are replicated to the
flattened length), for a list when its flattening is long enough -/
def CArg.covers (ct : CArg) (n : Nat) : Prop :=
  match ct with
  | .many ts => n ≤ (Nest.flatL ts).length
  | _ => True

theorem ctypeList_length_of_covers (ct : CArg) (n : Nat) (h : ct.covers n) : n ≤ (ctypeList ct n).length := by
  cases ct with
  | none => simp [ctypeList]
  | one c => simp [ctypeList]
  | many ts => simpa [ctypeList, CArg.covers] using h

theorem gcItems_snd {α : Type} (conds : Nest α) (ct : CArg) (h : ct.covers (Nest.flatL conds.top).length) :
    (gcItems conds ct).map (·.2) = Nest.flatL conds.top := by
  unfold gcItems
  exact List.map_snd_zip (ctypeList_length_of_covers ct _ h)

theorem gcItems_snd_mem {α : Type} (conds : Nest α) (ct : CArg) (w : CType × α) (h : w ∈ gcItems conds ct) :
    w.2 ∈ Nest.flatL conds.top := (List.of_mem_zip h).2

theorem gcItems_map {α β : Type} (f : α → β) (conds : Nest α) (ct : CArg) :
    gcItems (Nest.map f conds) ct = (gcItems conds ct).map fun w => (w.1, f w.2) := by
  unfold gcItems
  rw [Nest.flatL_top_map, List.length_map, List.zip_map_right]; rfl

section
-- implicit instances: see Proofs/Emitted.lean
variable {C R : Type} {_ : Add R} {_ : Sub R} {_ : Mul R} {_ : Div R} {_ : Neg R} {_ : LT R} {_ : DecidableLT R} {_ : BEq R}
  {_ : OfNat R 0} {_ : OfNat R 1}

/-- **Distinct targets: a chain that returns its input leaves it unchanged at every step.** Every variable is written by
one statement only, so no statement can undo what another one did. -/
theorem chain_fixed_all_fixed (env : Env C R) (codes : List (Assign C)) (x : List R)
    (hnd : (codes.map (·.i)).Nodup) (hfix : chain env codes x = x) : ∀ c ∈ codes, c.exec env x = x := by
  induction codes with
  | nil => exact fun _ hc => nomatch hc
  | cons c cs ih =>
    rw [List.map_cons, List.nodup_cons] at hnd
    rw [chain_cons] at hfix
    -- the state before the last-applied statement `c` already equals `x`: off `c.i` because `c` writes only there,
    -- at `c.i` because no statement of `cs` writes there
    have hz : chain env cs x = x := by
      refine eq_of_getD_eq (d := 0) _ _ (chain_length env cs x) fun j => ?_
      by_cases hj : j = c.i
      · subst hj
        exact chain_getD_of_not_target env cs x c.i fun c' hc' h => hnd.1 (List.mem_map.mpr ⟨c', hc', h⟩)
      · rw [← exec_getD_ne env c _ j hj, hfix]
    rw [hz] at hfix
    exact List.forall_mem_cons.mpr ⟨hfix, ih hnd.2 hz⟩

theorem compose_fixed_all_fixed (env : Env C R) (ws : List (CType × Assign C)) (x : List R)
    (hnd : (ws.map (·.2.i)).Nodup) (hfix : compose env ws x = x) : ∀ w ∈ ws, w.2.exec env x = x := by
  rw [compose_eq_chain] at hfix
  have hnd' : ((order ws).map (·.i)).Nodup := by
    refine ((order_perm ws).map _).nodup_iff.mpr ?_
    rw [List.map_map]; exact hnd
  exact fun w hw => chain_fixed_all_fixed env (order ws) x hnd' hfix w.2 (mem_order.mpr ⟨w, hw, rfl⟩)

theorem gmember_of_lt (env : Env C R) (ms : List (List (CType × Assign C))) {i : Nat} (h : i < ms.length) (x : List R) :
    gmember env ms i x = compose? env ms[i] x := by
  unfold gmember; rw [List.getElem?_eq_getElem h]

end

end MysticVerif.Emitted
