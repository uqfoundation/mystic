/- the counter and monitor cells of Model/Checkpoint.lean (Part B): what a read sees after a write through the same or
   another pointer, after an allocation, and after the copy of a pair of cells that preserves sharing (Props/C06*) -/
import MysticVerif.Model.Checkpoint
import MysticVerif.Proofs.ListFacts

namespace MysticVerif.Checkpoint

/-- cells `i`, `j` copied behind the array, once if `i = j`: sharing and contents are kept, no old cell changes -/
theorem copy_cells {α : Type} (cells : List α) (d : α) (i j : Nat) :
    (cells.length = (if decide (i = j) = true then cells.length else cells.length + 1) ↔ i = j) ∧
    (cells ++ [cells.getD i d] ++ (if decide (i = j) = true then [] else [cells.getD j d])).getD cells.length d
      = cells.getD i d ∧
    (cells ++ [cells.getD i d] ++ (if decide (i = j) = true then [] else [cells.getD j d])).getD
      (if decide (i = j) = true then cells.length else cells.length + 1) d = cells.getD j d ∧
    cells.length < (cells ++ [cells.getD i d] ++ (if decide (i = j) = true then [] else [cells.getD j d])).length ∧
    (if decide (i = j) = true then cells.length else cells.length + 1)
      < (cells ++ [cells.getD i d] ++ (if decide (i = j) = true then [] else [cells.getD j d])).length ∧
    cells.length ≤ (if decide (i = j) = true then cells.length else cells.length + 1) ∧
    (∀ k, k < cells.length →
      (cells ++ [cells.getD i d] ++ (if decide (i = j) = true then [] else [cells.getD j d])).getD k d
        = cells.getD k d) := by
  by_cases h : i = j
  · simp only [decide_eq_true h, if_true, List.append_nil]
    exact ⟨⟨fun _ => h, fun _ => trivial⟩, getD_append_length cells [] _ d, h ▸ getD_append_length cells [] _ d,
      by rw [List.length_append]; exact Nat.lt_succ_self _, by rw [List.length_append]; exact Nat.lt_succ_self _,
      Nat.le_refl _, fun k hk => getD_append_of_lt cells _ d hk⟩
  · simp only [decide_eq_false h, Bool.false_eq_true, if_false]
    have h3 := getD_append_length (cells ++ [cells.getD i d]) [] (cells.getD j d) d
    rw [List.length_append] at h3
    refine ⟨⟨fun e => absurd e (Nat.ne_of_lt (Nat.lt_succ_self _)), fun e => absurd e h⟩, ?_, h3, ?_, ?_,
      Nat.le_succ _, fun k hk => ?_⟩
    · rw [List.append_assoc]; exact getD_append_length cells _ _ d
    · rw [List.length_append, List.length_append]; exact Nat.lt_succ_of_lt (Nat.lt_succ_self _)
    · rw [List.length_append, List.length_append]; exact Nat.lt_succ_self _
    · rw [List.append_assoc]; exact getD_append_of_lt cells _ d hk

theorem call_ctr_length (h : Heap) (l : Links) (t : Nat) : (call h l t).ctr.length = h.ctr.length :=
  List.length_set

theorem call_mon_length (h : Heap) (l : Links) (t : Nat) : (call h l t).mon.length = h.mon.length :=
  List.length_set

theorem evaluations_call_ne (h : Heap) {a b : Links} (t : Nat) (hne : a.closureCtr ≠ b.solverCtr) :
    evaluations (call h a t) b = evaluations h b :=
  getD_set_ne h.ctr _ 0 hne

theorem hiddenCount_call_ne (h : Heap) {a b : Links} (t : Nat) (hne : a.closureCtr ≠ b.closureCtr) :
    hiddenCount (call h a t) b = hiddenCount h b :=
  getD_set_ne h.ctr _ 0 hne

theorem mon_call_ne (h : Heap) (a : Links) (t : Nat) {j : Nat} (hne : a.closureMon ≠ j) :
    (call h a t).mon.getD j [] = h.mon.getD j [] :=
  getD_set_ne h.mon _ [] hne

theorem monitor_call_ne (h : Heap) {a b : Links} (t : Nat) (hne : a.closureMon ≠ b.solverMon) :
    monitor (call h a t) b = monitor h b :=
  mon_call_ne h a t hne

theorem evaluations_call_self (h : Heap) {l : Links} (t : Nat) (he : l.solverCtr = l.closureCtr)
    (hv : l.solverCtr < h.ctr.length) : evaluations (call h l t) l = evaluations h l + 1 := by
  unfold evaluations call
  rw [← he]
  exact getD_set_self h.ctr _ 0 hv

theorem monitor_call_self (h : Heap) {l : Links} (t : Nat) (he : l.solverMon = l.closureMon)
    (hv : l.solverMon < h.mon.length) : monitor (call h l t) l = monitor h l ++ [t] := by
  unfold monitor call
  rw [← he]
  exact getD_set_self h.mon _ [] hv

theorem calls_invariant {α : Type} (l : Links) (f : Heap → α) (hf : ∀ g t, f (call g l t) = f g) :
    ∀ (ts : List Nat) (h : Heap), f (calls h l ts) = f h := by
  intro ts
  induction ts with
  | nil => intro _; rfl
  | cons t ts ih => intro h; exact (ih (call h l t)).trans (hf h t)

theorem calls_valid {l : Links} (l' : Links) (ts : List Nat) {h : Heap} (hv : l.Valid h) : l.Valid (calls h l' ts) :=
  (calls_invariant l' (fun g => l.Valid g)
    (fun g t => by unfold Links.Valid; rw [call_ctr_length, call_mon_length]) ts h) ▸ hv

theorem calls_evaluations_self {l : Links} (he : l.solverCtr = l.closureCtr) :
    ∀ (ts : List Nat) (h : Heap), l.solverCtr < h.ctr.length →
      evaluations (calls h l ts) l = evaluations h l + ts.length := by
  intro ts
  induction ts with
  | nil => intro _ _; rfl
  | cons t ts ih =>
    intro h hv
    rw [calls, ih _ ((call_ctr_length h l t).symm ▸ hv), evaluations_call_self h t he hv, List.length_cons, Nat.add_assoc,
      Nat.add_comm 1]

theorem calls_monitor_self {l : Links} (he : l.solverMon = l.closureMon) :
    ∀ (ts : List Nat) (h : Heap), l.solverMon < h.mon.length → monitor (calls h l ts) l = monitor h l ++ ts := by
  intro ts
  induction ts with
  | nil => intro _ _; exact (List.append_nil _).symm
  | cons t ts ih =>
    intro h hv
    rw [calls, ih _ ((call_mon_length h l t).symm ▸ hv), monitor_call_self h t he hv, List.append_assoc,
      List.singleton_append]

end MysticVerif.Checkpoint
