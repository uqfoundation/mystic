/- lemmas on Model/Config.lean.  C07 part 1: independent `Set*` calls commute, from the footprint table `writes` /
`reads` / `finFp`, which is checked against the method bodies once (`own_framed`, `finalizeWith_framed`).  At the end: what
`newPopRandom` and `clipGuess` compute (C02, C07). -/
import MysticVerif.Model.Config

namespace MysticVerif.Config

variable {R : Type}

theorem disj_iff {A B : List Field} : disj A B = true ↔ ∀ f ∈ A, f ∉ B := by
  simp only [disj, List.all_eq_true, Bool.not_eq_true', List.contains_eq_mem, decide_eq_false_iff_not]

theorem disj_contains {A B : List Field} (h : disj A B = true) {f : Field} (hf : A.contains f = true) :
    B.contains f = false := by
  simpa using disj_iff.mp h f (by simpa using hf)

theorem disj_symm (a b : List Field) (h : disj a b = true) : disj b a = true :=
  disj_iff.mpr fun f hf hfa => disj_iff.mp h f hfa hf

def pick {α : Type} (W : List Field) (f : Field) (a b : α) : α := bif W.contains f then a else b

/-- the attribute groups listed in `W` from `x`, every other group and the static attributes from `y` -/
def mix (W : List Field) (x y : Cfg R) : Cfg R :=
  { y with reducer := pick W .reducer x.reducer y.reducer, penalty := pick W .penalty x.penalty y.penalty,
           constraints := pick W .constraints x.constraints y.constraints, term := pick W .termination x.term y.term,
           stepmon := pick W .stepmon x.stepmon y.stepmon, evalmon := pick W .evalmon x.evalmon y.evalmon,
           hist := pick W .hist x.hist y.hist, ranges := pick W .ranges x.ranges y.ranges,
           limits := pick W .limits x.limits y.limits, cost := pick W .cost x.cost y.cost,
           live := pick W .live x.live y.live, save := pick W .save x.save y.save, mapc := pick W .map x.mapc y.mapc,
           sigint := pick W .sigint x.sigint y.sigint, pop := pick W .population x.pop y.pop,
           fcalls := pick W .fcalls x.fcalls y.fcalls }

theorem mix_self (W : List Field) (x : Cfg R) : mix W x x = x := by
  have h : ∀ {α : Type} (f : Field) (a : α), pick W f a a = a := fun f a => by
    unfold pick; cases W.contains f <;> rfl
  simp only [mix, h]

theorem mix_of_disj {V W : List Field} (hd : disj V W = true) (y s : Cfg R) : mix W s (mix V y s) = mix V y s := by
  have h : ∀ {α : Type} (f : Field) (a b : α), pick W f b (pick V f a b) = pick V f a b := fun f a b => by
    unfold pick
    cases hV : V.contains f
    · cases W.contains f <;> rfl
    · rw [disj_contains hd hV]; rfl
  simp only [mix, h]

theorem mix_comm {V W : List Field} (hd : disj V W = true) (x y s : Cfg R) :
    mix V x (mix W y s) = mix W y (mix V x s) := by
  have h : ∀ {α : Type} (f : Field) (a b c : α), pick V f a (pick W f b c) = pick W f b (pick V f a c) :=
    fun f a b c => by
      unfold pick
      cases hV : V.contains f
      · rfl
      · rw [disj_contains hd hV]; rfl
  simp only [mix, h]

/-- the attributes that no `Set*` and no `Finalize` assigns -/
def Cfg.static (c : Cfg R) := (c.kind, c.nDim, c.dmin, c.dmax, c.best, c.bestIdx, c.ndec)

theorem kind_of_static {s t : Cfg R} (h : s.static = t.static) : s.kind = t.kind := congrArg (·.1) h

theorem ndec_of_static {s t : Cfg R} (h : s.static = t.static) : s.ndec = t.ndec := congrArg (·.2.2.2.2.2.2) h

-- two functions, not one into `Cfg R × Bool`: the kernel is slow to reduce the instance of `Framed.comm` at `own`
-- when the projections sit outside the lambdas
/-- `F` assigns only the groups `W`; what it assigns, and the outcome `r` (does it raise?), are computed from the
    groups `Rd` and the static attributes -/
def Framed (F : Cfg R → Cfg R) (r : Cfg R → Bool) (W Rd : List Field) : Prop :=
  ∀ s t, s.static = t.static → F (mix Rd s t) = mix W (F s) (mix Rd s t) ∧ r (mix Rd s t) = r s

section
variable {F G : Cfg R → Cfg R} {r q : Cfg R → Bool} {V W Rd WF RF WG RG : List Field}

theorem Framed.eq_mix (h : Framed F r W Rd) (s : Cfg R) : F s = mix W (F s) s := by
  have := (h s s rfl).1
  rwa [mix_self] at this

theorem Framed.of_disj (h : Framed F r W Rd) (hd : disj V Rd = true) (y s : Cfg R) :
    F (mix V y s) = mix W (F s) (mix V y s) ∧ r (mix V y s) = r s := by
  have := h s (mix V y s) rfl
  rwa [mix_of_disj hd] at this

/-- operations with disjoint footprints commute, and whether one raises does not depend on the other -/
theorem Framed.comm (hF : Framed F r WF RF) (hG : Framed G q WG RG)
    (hww : disj WF WG = true) (hwr : disj WF RG = true) (hrw : disj WG RF = true) (s : Cfg R) :
    G (F s) = F (G s) ∧ q (F s) = q s := by
  have hG' := hG.of_disj hwr (F s) s
  have hF' := hF.of_disj hrw (G s) s
  rw [← hF.eq_mix s] at hG'
  rw [← hG.eq_mix s] at hF'
  refine ⟨?_, hG'.2⟩
  calc G (F s) = mix WG (G s) (F s) := hG'.1
    _ = mix WG (G s) (mix WF (F s) s) := congrArg _ (hF.eq_mix s)
    _ = mix WF (F s) (mix WG (G s) s) := (mix_comm hww _ _ _).symm
    _ = mix WF (F s) (G s) := congrArg _ (hG.eq_mix s).symm
    _ = F (G s) := hF'.1.symm

end

theorem finalizeWith_framed (pl : Bool) :
    Framed (Cfg.finalizeWith pl : Cfg R → Cfg R) (fun _ => false) (finFp pl) (finFp pl) := by
  intro s t h
  cases t
  simp only [Cfg.static, Prod.mk.injEq] at h
  obtain ⟨-, -, -, -, hb, -, -⟩ := h
  subst hb
  cases pl <;> exact ⟨rfl, rfl⟩

theorem finalize_idem (s : Cfg R) : s.finalize.finalize = s.finalize := by
  have h : s.finalize.pl = false := Bool.and_false _
  show Cfg.finalizeWith s.finalize.pl s.finalize = s.finalize
  rw [h]
  rfl

theorem finalize_kind (s : Cfg R) : s.finalize.kind = s.kind := rfl

theorem finFp_anti {p q : Bool} (hpq : q = true → p = true) (x : List Field) (h : disj (finFp p) x = true) :
    disj (finFp q) x = true := by
  -- `finFp false = [.live]`, `finFp true = .live :: [.stepmon, .hist, .save]`
  cases q
  · cases p
    · exact h
    · have h' : (!x.contains Field.live && disj [.stepmon, .hist, .save] x) = true := h
      show (!x.contains Field.live && true) = true
      rw [((Bool.and_eq_true _ _).mp h').1]
      rfl
  · rw [hpq rfl] at h; exact h

theorem independent_symm (pl : Bool) (k : Kind) (a b : Op R) (h : Independent pl k a b = true) :
    Independent pl k b a = true := by
  simp only [Independent, Bool.and_eq_true] at *
  obtain ⟨⟨⟨⟨hww, hwr⟩, hrw⟩, hfa⟩, hfb⟩ := h
  exact ⟨⟨⟨⟨disj_symm _ _ hww, hrw⟩, hwr⟩, hfb⟩, hfa⟩

theorem independent_anti {p q : Bool} (hpq : q = true → p = true) (k : Kind) (a b : Op R)
    (h : Independent p k a b = true) : Independent q k a b = true := by
  have key : ∀ (c : Bool) x, (if c = true then disj (finFp p) x else true) = true →
      (if c = true then disj (finFp q) x else true) = true := fun c x hc => by
    cases c
    · rfl
    · exact finFp_anti hpq x hc
  simp only [Independent, Bool.and_eq_true] at *
  exact ⟨⟨h.1.1, key _ _ h.1.2⟩, key _ _ h.2⟩

/-- the states reachable from a solver of kind `k` whose "live Powell" flag was `pl` at the start:
    the kind never changes and no `Set*` makes a solver live -/
def Below (pl : Bool) (k : Kind) (t : Cfg R) : Prop := t.kind = k ∧ (t.pl = true → pl = true)

theorem independent_below (pl : Bool) (k : Kind) (t : Cfg R) (a b : Op R) (h : Below pl k t)
    (hi : Independent pl k a b = true) : Independent t.pl t.kind a b = true := by
  rw [h.1]
  exact independent_anti h.2 k a b hi

theorem pl_mono {s t : Cfg R} (hs : t.static = s.static) (hl : t.live = true → s.live = true) (h : t.pl = true) :
    s.pl = true := by
  simp only [Cfg.pl, Bool.and_eq_true] at h ⊢
  exact ⟨kind_of_static hs ▸ h.1, hl h.2⟩

/-- `Finalize` when `c` holds -/
def finIf (c : Bool) (t : Cfg R) : Cfg R := bif c then t.finalize else t

theorem finIf_finIf (c d : Bool) (t : Cfg R) : finIf c (finIf d t) = finIf (c || d) t := by
  cases c
  · rfl
  · cases d
    · rfl
    · exact finalize_idem t

theorem writes_population (a : Op R) : (writes a).contains .population = consumesRng a := by
  cases a <;> rfl

section
variable [Add R] [Sub R] [Mul R] [Neg R] [OfNat R 0] [OfNat R 1] [BEq R] [LT R] [DecidableLT R]

/-- the footprint table is that of the method bodies -/
theorem own_framed (u : Nat → R) (a : Op R) :
    Framed (fun s => (own u s a).1) (fun s => (own u s a).2) (writes a) (reads a) := by
  intro s t h
  cases t
  simp only [Cfg.static, Prod.mk.injEq] at h
  obtain ⟨hk, hn, hmin, hmax, -, -, -⟩ := h
  subst hk hn hmin hmax
  cases a with
  | setEvaluationLimits g e new => cases new <;> constructor <;> rfl
  | _ => constructor <;> rfl

theorem own_comm (u : Nat → R) (s : Cfg R) (a b : Op R) (hww : disj (writes a) (writes b) = true)
    (hwr : disj (writes a) (reads b) = true) (hrw : disj (writes b) (reads a) = true) :
    (own u (own u s a).1 b).1 = (own u (own u s b).1 a).1 ∧ (own u (own u s a).1 b).2 = (own u s b).2 :=
  (own_framed u a).comm (own_framed u b) hww hwr hrw s

/-- no `Set*` changes the class of the solver or the number of decorations -/
theorem own_static (u : Nat → R) (s : Cfg R) (a : Op R) : (own u s a).1.static = s.static := by
  rw [(own_framed u a).eq_mix s]
  rfl

/-- a call that is not a random-number consumer leaves the population and the random stream alone -/
theorem own_pop (u : Nat → R) (s : Cfg R) (a : Op R) (h : consumesRng a = false) : (own u s a).1.pop = s.pop := by
  rw [congrArg Cfg.pop ((own_framed u a).eq_mix s)]
  show pick (writes a) .population _ _ = _
  unfold pick
  rw [writes_population, h]
  rfl

/-- no `Set*` makes a solver live -/
theorem own_live (u : Nat → R) (s : Cfg R) (a : Op R) (h : (own u s a).1.live = true) : s.live = true := by
  cases a with
  | setObjective c =>
    have h' : (if s.cost.raw = some c then s.live else false) = true := h
    split at h'
    · exact h'
    · cases h'
  | _ => exact h

/-- `Finalize` commutes with a method body that neither reads nor writes what `Finalize` touches -/
theorem own_finalize (u : Nat → R) (s : Cfg R) (b : Op R) (h : disj (finFp s.pl) (writes b ++ reads b) = true) :
    own u s.finalize b = ((own u s b).1.finalize, (own u s b).2) := by
  have hw : disj (finFp s.pl) (writes b) = true :=
    disj_iff.mpr fun f hf hb => disj_iff.mp h f hf (List.mem_append_left _ hb)
  have hr : disj (finFp s.pl) (reads b) = true :=
    disj_iff.mpr fun f hf hb => disj_iff.mp h f hf (List.mem_append_right _ hb)
  have hl : (writes b).contains .live = false := disj_contains hw (by cases s.pl <;> rfl)
  -- `b` does not assign `_live`, so `Finalize` does after `b` what it does before
  have hpl : (own u s b).1.pl = s.pl := by
    rw [(own_framed u b).eq_mix s]
    show (decide (s.kind = .powell) && pick (writes b) .live _ s.live) = _
    unfold pick
    rw [hl]
    rfl
  have := (finalizeWith_framed s.pl).comm (own_framed u b) hw hr (disj_symm _ _ hw) s
  unfold Cfg.finalize
  rw [hpl]
  exact Prod.ext this.1 this.2

/-! ### assembling: `apply` = stub test, method body, optional `Finalize` -/

theorem apply_blocked (u : Nat → R) (t : Cfg R) (k : Kind) (hk : t.kind = k) (op : Op R) (hb : blocked k op = true) :
    apply u t op = (t, true) := by
  subst hk; unfold apply; rw [if_pos hb]

theorem apply_unblocked (u : Nat → R) (t : Cfg R) (k : Kind) (hk : t.kind = k) (op : Op R) (hb : blocked k op = false) :
    apply u t op = (finIf (fin k op && !(own u t op).2) (own u t op).1, (own u t op).2) := by
  subst hk
  unfold apply
  rw [if_neg (by rw [hb]; exact Bool.false_ne_true)]
  cases fin t.kind op && !(own u t op).2 <;> rfl

theorem apply_ind (u : Nat → R) (s : Cfg R) (op : Op R) (P : Cfg R → Prop) (h0 : P s) (h1 : P (own u s op).1)
    (h2 : P (own u s op).1.finalize) : P (apply u s op).1 := by
  unfold apply
  split
  · exact h0
  · split
    · exact h2
    · exact h1

theorem apply_static (u : Nat → R) (s : Cfg R) (op : Op R) : (apply u s op).1.static = s.static :=
  apply_ind u s op (fun t => t.static = s.static) rfl (own_static u s op) (own_static u s op)

theorem apply_live (u : Nat → R) (s : Cfg R) (op : Op R) : (apply u s op).1.live = true → s.live = true :=
  apply_ind u s op (fun t => t.live = true → s.live = true) id (own_live u s op) (fun h => nomatch h)

theorem apply_pop (u : Nat → R) (s : Cfg R) (op : Op R) (h : consumesRng op = false) : (apply u s op).1.pop = s.pop :=
  apply_ind u s op (fun t => t.pop = s.pop) rfl (own_pop u s op h) (own_pop u s op h)

/-- what a second call does after a first one, in terms of the method bodies -/
theorem apply_after (u : Nat → R) (s : Cfg R) (a b : Op R) (hww : disj (writes a) (writes b) = true)
    (hwr : disj (writes a) (reads b) = true) (hrw : disj (writes b) (reads a) = true)
    (hfa : fin s.kind a = true → disj (finFp s.pl) (writes b ++ reads b) = true)
    (hba : blocked s.kind a = false) (hbb : blocked s.kind b = false) :
    apply u (apply u s a).1 b =
      (finIf ((fin s.kind b && !(own u s b).2) || (fin s.kind a && !(own u s a).2)) (own u (own u s a).1 b).1,
        (own u s b).2) := by
  have hk : ∀ c, (finIf c (own u s a).1).kind = s.kind := fun c =>
    (show _ = (own u s a).1.kind by cases c <;> rfl).trans (kind_of_static (own_static u s a))
  -- the method body of `b` commutes with the `Finalize` of `a`
  have hfin : ∀ c, (c = true → fin s.kind a = true) →
      own u (finIf c (own u s a).1) b = (finIf c (own u (own u s a).1 b).1, (own u (own u s a).1 b).2) := by
    intro c hc
    cases c
    · exact Prod.ext rfl rfl
    · exact own_finalize u _ b (finFp_anti (pl_mono (own_static u s a) (own_live u s a)) _ (hfa (hc rfl)))
  rw [apply_unblocked u s s.kind rfl a hba, apply_unblocked u _ s.kind (hk _) b hbb,
    hfin _ fun hc => ((Bool.and_eq_true _ _).mp hc).1, (own_comm u s a b hww hwr hrw).2, finIf_finIf]

/-- **two independent `Set*` calls commute**; whether one of them raises does not depend on the other -/
theorem apply_comm (u : Nat → R) (s : Cfg R) (a b : Op R) (h : Independent s.pl s.kind a b = true) :
    (apply u (apply u s a).1 b).1 = (apply u (apply u s b).1 a).1 ∧
    (apply u (apply u s a).1 b).2 = (apply u s b).2 ∧ (apply u (apply u s b).1 a).2 = (apply u s a).2 := by
  have h' := h
  simp only [Independent, Bool.and_eq_true] at h'
  obtain ⟨⟨⟨⟨hww, hwr⟩, hrw⟩, hfa⟩, hfb⟩ := h'
  cases hba : blocked s.kind a
  case true =>
    -- `a` is a "must be overwritten" stub
    rw [apply_blocked u s s.kind rfl a hba, apply_blocked u _ s.kind (kind_of_static (apply_static u s b)) a hba]
    exact ⟨rfl, rfl, rfl⟩
  case false =>
    cases hbb : blocked s.kind b
    case true =>
      rw [apply_blocked u s s.kind rfl b hbb, apply_blocked u _ s.kind (kind_of_static (apply_static u s a)) b hbb]
      exact ⟨rfl, rfl, rfl⟩
    case false =>
      rw [apply_after u s a b hww hwr hrw (fun hf => by rw [if_pos hf] at hfa; exact hfa) hba hbb,
        apply_after u s b a (disj_symm _ _ hww) hrw hwr (fun hf => by rw [if_pos hf] at hfb; exact hfb) hbb hba]
      rw [(own_comm u s a b hww hwr hrw).1, Bool.or_comm, apply_unblocked u s s.kind rfl a hba,
        apply_unblocked u s s.kind rfl b hbb]
      exact ⟨rfl, rfl, rfl⟩

theorem cfgAfter_invariant (u : Nat → R) (P : Cfg R → Prop) : ∀ (l : List (Op R)) (s : Cfg R),
    (∀ t, ∀ op ∈ l, P t → P (apply u t op).1) → P s → P (cfgAfter u s l) := by
  intro l
  induction l with
  | nil => intro s _ h; exact h
  | cons a l ih =>
    intro s hstep h
    exact ih _ (fun t op hop => hstep t op (List.mem_cons_of_mem _ hop)) (hstep s a List.mem_cons_self h)

theorem cfgAfter_static (u : Nat → R) (l : List (Op R)) (s : Cfg R) : (cfgAfter u s l).static = s.static :=
  cfgAfter_invariant u (fun t => t.static = s.static) l s (fun t op _ h => (apply_static u t op).trans h) rfl

theorem cfgAfter_live (u : Nat → R) (l : List (Op R)) (s : Cfg R) (h : (cfgAfter u s l).live = true) : s.live = true :=
  cfgAfter_invariant u (fun t => t.live = true → s.live = true) l s (fun t op _ ht hl => ht (apply_live u t op hl))
    id h

theorem cfgAfter_pop (u : Nat → R) (l : List (Op R)) (s : Cfg R) (h : ∀ op ∈ l, consumesRng op = false) :
    (cfgAfter u s l).pop = s.pop :=
  cfgAfter_invariant u (fun t => t.pop = s.pop) l s (fun t op hop ht => (apply_pop u t op (h op hop)).trans ht) rfl

theorem below_apply (u : Nat → R) (pl : Bool) (k : Kind) (t : Cfg R) (op : Op R) (h : Below pl k t) :
    Below pl k (apply u t op).1 :=
  ⟨(kind_of_static (apply_static u t op)).trans h.1,
    fun hp => h.2 (pl_mono (apply_static u t op) (apply_live u t op) hp)⟩

theorem cfgAfter_perm (u : Nat → R) (pl : Bool) (k : Kind) {l l' : List (Op R)} (hp : l.Perm l') :
    ∀ t : Cfg R, Below pl k t → l.Pairwise (fun a b => Independent pl k a b = true) →
      cfgAfter u t l = cfgAfter u t l' := by
  induction hp with
  | nil => intro t _ _; rfl
  | cons x _ ih =>
    intro t ht hpw
    exact ih _ (below_apply u pl k t x ht) (List.pairwise_cons.mp hpw).2
  | swap x y l =>
    intro t ht hpw
    have hyx : Independent pl k y x = true := (List.pairwise_cons.mp hpw).1 x List.mem_cons_self
    show cfgAfter u (apply u (apply u t y).1 x).1 l = cfgAfter u (apply u (apply u t x).1 y).1 l
    rw [(apply_comm u t y x (independent_below pl k t y x ht hyx)).1]
  | trans h1 _ ih1 ih2 =>
    intro t ht hpw
    rw [ih1 t ht hpw]
    exact ih2 t ht ((h1.pairwise_iff (fun h => independent_symm pl k _ _ h)).mp hpw)

/-- whether a call raises does not depend on the independent calls made before it -/
theorem raisedAfter_eq (u : Nat → R) (pl : Bool) (k : Kind) :
    ∀ (l : List (Op R)) (t : Cfg R), Below pl k t → l.Pairwise (fun a b => Independent pl k a b = true) →
      raisedAfter u t l = l.map (fun op => (apply u t op).2) := by
  intro l
  induction l with
  | nil => intro _ _ _; rfl
  | cons b l ih =>
    intro t ht hpw
    rw [List.pairwise_cons] at hpw
    show (apply u t b).2 :: raisedAfter u (apply u t b).1 l = (apply u t b).2 :: l.map _
    rw [ih _ (below_apply u pl k t b ht) hpw.2]
    exact congrArg _ (List.map_congr_left fun c hc =>
      (apply_comm u t b c (independent_below pl k t b c ht (hpw.1 c hc))).2.1)

/-- a finalising `Set*` that does not raise leaves the solver not live: the next `Step` has to re-decorate -/
theorem apply_fin_live (u : Nat → R) (s : Cfg R) (op : Op R) (hb : blocked s.kind op = false)
    (hf : fin s.kind op = true) (hr : (apply u s op).2 = false) : (apply u s op).1.live = false := by
  rw [apply_unblocked u s s.kind rfl op hb] at hr ⊢
  simp only at hr
  rw [hf, hr]
  rfl

theorem bootstrap_ndec (u : Nat → R) (s : Cfg R) (c : Nat) :
    (bootstrap u s c).ndec = s.ndec + (if (decide (s.cost.raw = some c) && s.live) = true then 0 else 1) := by
  unfold bootstrap
  split
  · rfl
  · exact congrArg (· + 1) (ndec_of_static (own_static u s (.setObjective c)))

end

theorem newPopRandom_eq [Add R] [Sub R] [Mul R] [OfNat R 0] (u : Nat → R) (nDim : Nat) (dmin dmax : List R)
    (cur : Pop R) (mn mx : Option (List R))
    (h : randomRaise nDim dmin dmax mn mx = false) :
    newPopRandom u nDim dmin dmax cur mn mx =
      { population := (List.range cur.population.length).map fun i => (List.range nDim).map fun j =>
          uniform (u (cur.rngPos + i * nDim + j)) ((mn.getD dmin).getD j 0) ((mx.getD dmax).getD j 0),
        rngPos := cur.rngPos + cur.population.length * nDim } := by
  unfold newPopRandom
  rw [if_neg (by rw [h]; exact Bool.false_ne_true)]

section
variable [Add R] [Sub R] [Mul R] [BEq R] [LT R] [DecidableLT R] (smin smax x : List R) (at_ : Bool) (r : R)

theorem clipGuess_of_nonempty (hs : smin.isEmpty = false) :
    clipGuess smin smax at_ r x = (x.zip (smin.zip smax)).map fun t =>
      if at_ = true then clipCoord t.2.1 t.2.2 t.1
      else if (clipCoord t.2.1 t.2.2 t.1 != t.1) = true then uniform r t.2.1 t.2.2 else t.1 := by
  unfold clipGuess
  rw [hs, if_neg Bool.false_ne_true]

theorem clipGuess_length (hs : smin.isEmpty = false) (hlen1 : smin.length = x.length)
    (hlen2 : smax.length = x.length) : (clipGuess smin smax at_ r x).length = x.length := by
  simp [clipGuess_of_nonempty smin smax x at_ r hs, hlen1, hlen2]

theorem clipGuess_getElem (hs : smin.isEmpty = false) (j : Nat) (h : j < (clipGuess smin smax at_ r x).length)
    (hx : j < x.length) (h1 : j < smin.length) (h2 : j < smax.length) :
    (clipGuess smin smax at_ r x)[j] =
      if at_ = true then clipCoord smin[j] smax[j] x[j]
      else if (clipCoord smin[j] smax[j] x[j] != x[j]) = true then uniform r smin[j] smax[j] else x[j] := by
  rw [List.getElem_of_eq (clipGuess_of_nonempty smin smax x at_ r hs) h, List.getElem_map, List.getElem_zip,
    List.getElem_zip]

end

end MysticVerif.Config
