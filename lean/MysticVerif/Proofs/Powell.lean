/- mystic's staged Powell machine refines the reference direction-set loop -/
import MysticVerif.Model.Powell
import Mathlib.Tactic.SplitIfs
import Mathlib.Order.Basic
import Mathlib.Order.Lattice

namespace MysticVerif.Powell
open MysticVerif.Solver

variable {R E : Type}

theorem dirLoop_frame [Sub E] [LT E] [DecidableLT E] (ls : Pt R → Pt R → LsOut R E) (ds : List (Pt R)) (i : Nat)
    (s : St R E) :
    (dirLoop ls ds i s).fx = s.fx ∧ (dirLoop ls ds i s).iter = s.iter ∧ (dirLoop ls ds i s).x1 = s.x1 ∧
      (dirLoop ls ds i s).direc = s.direc ∧ (dirLoop ls ds i s).exts = s.exts := by
  fun_induction dirLoop ls ds i s with
  | case1 => exact ⟨rfl, rfl, rfl, rfl, rfl⟩
  | case2 d ds i s ih => exact ih

theorem sweep_fx [Sub E] [LT E] [DecidableLT E] (c : Cfg R E) (s : St R E) : (sweep c s).fx = s.fval := by
  unfold sweep
  simp only
  exact (dirLoop_frame c.ls s.direc 0 _).1

theorem sweep_iter [Sub E] [LT E] [DecidableLT E] (c : Cfg R E) (s : St R E) : (sweep c s).iter = s.iter + 1 := rfl

theorem extrapolate_iter [Sub R] [Mul R] [Add E] [Sub E] [Mul E] [LT E] [DecidableLT E] (c : Cfg R E) (s : St R E) :
    (extrapolate c s).iter = s.iter := by
  simp only [extrapolate, apply_ite St.iter, ite_self]

theorem dirStep_cases [Sub E] [LT E] [DecidableLT E] (ls : Pt R → Pt R → LsOut R E) (d : Pt R) (i : Nat) (s : St R E) :
    (s.delta < s.fval - (ls s.x d).fret ∧ (dirStep ls d i s).delta = s.fval - (ls s.x d).fret ∧
      (dirStep ls d i s).bigind = i) ∨
    (¬ s.delta < s.fval - (ls s.x d).fret ∧ (dirStep ls d i s).delta = s.delta ∧
      (dirStep ls d i s).bigind = s.bigind) := by
  by_cases h : s.delta < s.fval - (ls s.x d).fret
  · exact Or.inl ⟨h, if_pos h, if_pos h⟩
  · exact Or.inr ⟨h, if_neg h, if_neg h⟩

theorem dirLoop_bigind [Sub E] [LT E] [DecidableLT E] (ls : Pt R → Pt R → LsOut R E) (ds : List (Pt R)) (i : Nat)
    (s : St R E) :
    (dirLoop ls ds i s).bigind = s.bigind ∨
      (i ≤ (dirLoop ls ds i s).bigind ∧ (dirLoop ls ds i s).bigind < i + ds.length) := by
  fun_induction dirLoop ls ds i s with
  | case1 => exact Or.inl rfl
  | case2 d ds i s ih =>
    rw [List.length_cons]
    rcases ih with h1 | h1
    · rcases dirStep_cases ls d i s with ⟨_, _, hb⟩ | ⟨_, _, hb⟩
      · rw [h1.trans hb]; exact Or.inr ⟨Nat.le_refl i, Nat.lt_add_of_pos_right (Nat.succ_pos _)⟩
      · exact Or.inl (h1.trans hb)
    · exact Or.inr ⟨Nat.le_of_succ_le h1.1, Nat.add_right_comm i 1 ds.length ▸ h1.2⟩

/-- the decreases `s.fval - fret` (scipy: `fx2 - fval`) the direction loop sees, in order -/
def decs [Sub E] [LT E] [DecidableLT E] (ls : Pt R → Pt R → LsOut R E) : List (Pt R) → Nat → St R E → List E
  | [], _, _ => []
  | d :: ds, i, s => (s.fval - (ls s.x d).fret) :: decs ls ds (i + 1) (dirStep ls d i s)

/-- `delta` ends as the largest of its start value and all decreases; `bigind` is untouched when no decrease
exceeded the start value, otherwise it is the FIRST index at which the largest decrease occurred -/
theorem dirLoop_delta [Sub E] [LinearOrder E] (ls : Pt R → Pt R → LsOut R E) (ds : List (Pt R)) (i : Nat) (s : St R E) :
    s.delta ≤ (dirLoop ls ds i s).delta ∧ (∀ e ∈ decs ls ds i s, e ≤ (dirLoop ls ds i s).delta) ∧
      (((dirLoop ls ds i s).delta = s.delta ∧ (dirLoop ls ds i s).bigind = s.bigind) ∨
       ∃ k, (decs ls ds i s)[k]? = some (dirLoop ls ds i s).delta ∧ (dirLoop ls ds i s).bigind = i + k ∧
            s.delta < (dirLoop ls ds i s).delta ∧
            ∀ j, j < k → ∀ e, (decs ls ds i s)[j]? = some e → e < (dirLoop ls ds i s).delta) := by
  fun_induction dirLoop ls ds i s with
  | case1 => exact ⟨le_refl _, List.forall_mem_nil _, Or.inl ⟨rfl, rfl⟩⟩
  | case2 d ds i s ih =>
    obtain ⟨h1, h2, h3⟩ := ih
    have hc := dirStep_cases ls d i s
    have hd : s.delta ≤ (dirStep ls d i s).delta ∧ s.fval - (ls s.x d).fret ≤ (dirStep ls d i s).delta := by
      rcases hc with ⟨hlt, hd, _⟩ | ⟨hnl, hd, _⟩
      · rw [hd]; exact ⟨le_of_lt hlt, le_refl _⟩
      · rw [hd]; exact ⟨le_refl _, not_lt.mp hnl⟩
    refine ⟨le_trans hd.1 h1, List.forall_mem_cons.mpr ⟨le_trans hd.2 h1, h2⟩, ?_⟩
    rcases h3 with ⟨ha, hb⟩ | ⟨k, hk1, hk2, hk3, hk4⟩
    · -- no later decrease was larger
      rcases hc with ⟨hlt, hd', hbi⟩ | ⟨_, hd', hbi⟩
      · exact Or.inr ⟨0, congrArg some (ha.trans hd').symm, hb.trans hbi, (ha.trans hd') ▸ hlt,
          fun j hj => absurd hj (Nat.not_lt_zero j)⟩
      · exact Or.inl ⟨ha.trans hd', hb.trans hbi⟩
    · refine Or.inr ⟨k + 1, hk1, hk2.trans (Nat.add_right_comm i 1 k), lt_of_le_of_lt hd.1 hk3, fun j hj e he => ?_⟩
      cases j with
      | zero => exact Option.some.inj he ▸ lt_of_le_of_lt hd.2 hk3
      | succ j => exact hk4 j (Nat.lt_of_succ_lt_succ hj) e he

/-- the invariant between two `Step`s of mystic from generation 1 on: one history entry per iteration plus the
initial one -/
def MInv (m : MSt R E) : Prop := m.hist.length = m.s.iter + 1 ∧ 1 ≤ m.s.iter

section machine
variable [Sub R] [Mul R] [Add E] [Sub E] [Mul E] [LT E] [DecidableLT E]

theorem mGenN_iter (c : Cfg R E) (m : MSt R E) : (mGenN c m).s.iter = m.s.iter + 1 :=
  congrArg (· + 1) (extrapolate_iter c m.s)

theorem mGenN_inv (c : Cfg R E) (m : MSt R E) (h : MInv m) : MInv (mGenN c m) := by
  refine ⟨?_, (mGenN_iter c m).symm ▸ Nat.le_add_left 1 _⟩
  rw [mGenN_iter]
  show (m.hist.dropLast ++ [_] ++ [_]).length = _
  rw [List.length_append, List.length_append, List.length_dropLast, h.1]
  rfl

theorem mStop_eq_refStop (c : Cfg R E) (m : MSt R E) (h : MInv m) : mStop c (mGenN c m) = refStop c (mGenN c m).s := by
  have hinv := mGenN_inv c m h
  have hn : ncog2 c.conv (mGenN c m).hist = c.conv (mGenN c m).s.fx (mGenN c m).s.fval := by
    unfold ncog2
    rw [if_neg (by have := hinv.1; have := h.2; have := mGenN_iter c m; omega)]
    unfold mGenN
    simp only [List.reverse_append, List.reverse_cons, List.reverse_nil, List.nil_append, List.cons_append, sweep_fx]
  unfold mStop refStop
  rw [hn, hinv.1, Nat.add_sub_cancel]
  exact (Bool.or_comm _ _).trans (Bool.or_assoc _ _ _).symm

/-- from generation 2 on the two programs are the same loop -/
theorem mLoop_eq_refLoop (c : Cfg R E) :
    ∀ (fuel : Nat) (m : MSt R E), MInv m → mLoop c fuel (mGenN c m) = refLoop c fuel (extrapolate c m.s) := by
  intro fuel
  induction fuel with
  | zero => intro m _; rfl
  | succ fuel ih =>
    intro m h
    unfold mLoop refLoop
    have hs : (mGenN c m).s = sweep c (extrapolate c m.s) := rfl
    rw [mStop_eq_refStop c m h, hs]
    split_ifs
    · rfl
    · rw [← hs]; exact ih (mGenN c m) (mGenN_inv c m h)

theorem mLoop_iter_le (c : Cfg R E) (fuel : Nat) (m : MSt R E) (o : Out R E) (h : mLoop c fuel m = some o) :
    m.s.iter ≤ o.st.iter := by
  fun_induction mLoop c fuel m with
  | case1 => cases h
  | case2 fuel m hstop => cases h; exact Nat.le_refl _
  | case3 fuel m hstop ih =>
    have := ih h
    rw [mGenN_iter] at this
    exact Nat.le_of_succ_le this

end machine

/-- after generation 1 the history has two entries and `ncog2` needs three: its term is `false` (F15) -/
theorem mStop_gen1 [Sub E] [LT E] [DecidableLT E] (c : Cfg R E) (x0 : Pt R) (direc : List (Pt R)) :
    mStop c (mGen1 c (mGen0 c x0 direc)) =
      (decide (c.maxfun ≤ (sweep c (init c x0 direc)).fcalls) || decide (c.maxiter ≤ 1)) :=
  Bool.or_false _

end MysticVerif.Powell
