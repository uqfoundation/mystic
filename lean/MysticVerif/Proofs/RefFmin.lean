/- mystic's staged Nelder-Mead machine refines the reference `fmin` of mystic/_scipy060optimize.py -/
import MysticVerif.Model.RefFmin
import MysticVerif.Proofs.NelderMead
import Mathlib.Tactic.SplitIfs

namespace MysticVerif.Solver

variable {R E : Type}

/-- "unconstrained problem" (the property's hypothesis): no constraints, no strict ranges, no penalty
(`wrap_penalty` adds `0.0`, neutral for every energy) -/
structure Unconstrained (o : Obj (Pt R) E) : Prop where
  K_id : ∀ x, o.K x = x
  noRange : o.useRange = false
  pen0 : ∀ e y, o.add e (o.pen y) = e

theorem objK_unc {o : Obj (Pt R) E} (h : Unconstrained o) (y : Pt R) (log : List (Pt R × E)) :
    o.objK y log = (o.raw y, log ++ [(y, o.raw y)]) := by
  simp [Obj.objK, Obj.objAt, Obj.evalB, h.K_id, h.noRange, h.pen0]

theorem buildRows_unc {o : Obj (Pt R) E} (h : Unconstrained o) (x0 : Pt R) :
    ∀ (vs : List R) (k : Nat) (log : List (Pt R × E)),
      (buildRows o x0 vs k log).1 = refRows o.raw x0 vs k ∧
      (buildRows o x0 vs k log).2.length = log.length + vs.length := by
  intro vs
  induction vs with
  | nil => exact fun _ _ => ⟨rfl, rfl⟩
  | cons v vs ih =>
    intro k log
    have ih := ih (k + 1) (log ++ [(x0.set k v, o.raw (x0.set k v))])
    simp only [buildRows, refRows, objK_unc h]
    exact ⟨congrArg _ ih.1, ih.2.trans (by rw [List.length_append, List.length_singleton, List.length_cons]; omega)⟩

theorem refRows_length (f : Pt R → E) (x0 : Pt R) (vs : List R) (k : Nat) : (refRows f x0 vs k).length = vs.length := by
  fun_induction refRows f x0 vs k with
  | case1 => rfl
  | case2 v vs k ih => rw [List.length_cons, ih, List.length_cons]

theorem sortByE_nil [LT E] [DecidableLT E] : sortByE ([] : List (Pt R × E)) = [] := rfl
theorem sortByE_single [LT E] [DecidableLT E] (p : Pt R × E) : sortByE [p] = [p] := rfl

theorem insertByE_ne_nil [LT E] [DecidableLT E] (p : Pt R × E) : ∀ l : List (Pt R × E), insertByE p l ≠ []
  | [] => List.cons_ne_nil _ _
  | q :: qs => by unfold insertByE; split <;> exact List.cons_ne_nil _ _

theorem sortByE_ne_nil [LT E] [DecidableLT E] : ∀ (l : List (Pt R × E)), l ≠ [] → sortByE l ≠ []
  | [], h => absurd rfl h
  | a :: l, _ => List.foldlRecOn (motive := (· ≠ [])) l _ (insertByE_ne_nil a []) fun acc _ p _ => insertByE_ne_nil p acc

theorem finish_of_ne_nil [LT E] [DecidableLT E] (s : NM R E) {sx : List (Pt R × E)} (log : List (Pt R × E))
    (h : sx ≠ []) : (NM.finish s sx log).simplex = sortByE sx ∧ (NM.finish s sx log).log = log := by
  unfold NM.finish
  cases hsort : sortByE sx with
  | nil => exact absurd hsort (sortByE_ne_nil _ h)
  | cons b rest => exact ⟨rfl, rfl⟩

theorem gen0_log_unc {o : Obj (Pt R) E} (h : Unconstrained o) (zero : R) (x0 : Pt R) :
    (NM.gen0 o zero x0).log = [(x0, o.raw x0)] := by
  show (o.objK (o.K x0) []).2 = _
  rw [h.K_id, objK_unc h]
  rfl

theorem init_unc [LT E] [DecidableLT E] {o : Obj (Pt R) E} (h : Unconstrained o) (zero : R) (mkVal : Pt R → Pt R)
    (x0 : Pt R) :
    (NM.gen1 o id mkVal (NM.gen0 o zero x0)).simplex = sortByE ((x0, o.raw x0) :: refRows o.raw x0 (mkVal x0) 0) ∧
    (NM.gen1 o id mkVal (NM.gen0 o zero x0)).log.length = 1 + (refRows o.raw x0 (mkVal x0) 0).length := by
  unfold NM.gen1 NM.gen0
  simp only [h.K_id, objK_unc h, id, List.nil_append]
  have hb := buildRows_unc h x0 (mkVal x0) 0 [(x0, o.raw x0)]
  have hf := fun s : NM R E => finish_of_ne_nil s (buildRows o x0 (mkVal x0) 0 [(x0, o.raw x0)]).2
    (List.cons_ne_nil (x0, o.raw x0) (buildRows o x0 (mkVal x0) 0 [(x0, o.raw x0)]).1)
  rw [(hf _).1, (hf _).2, hb.1, hb.2, refRows_length]
  exact ⟨rfl, rfl⟩

theorem shrinkAll_unc [Add R] [Sub R] [Mul R] {o : Obj (Pt R) E} (h : Unconstrained o) (c : Coef R) (x0 : Pt R) :
    ∀ (tl : List (Pt R × E)) (log : List (Pt R × E)),
      (shrinkAll o c id x0 tl log).1 = refShrink o.raw c x0 tl ∧
      (shrinkAll o c id x0 tl log).2.length = log.length + tl.length := by
  intro tl
  induction tl with
  | nil => exact fun _ => ⟨rfl, rfl⟩
  | cons p tl ih =>
    intro log
    have ih := ih (log ++ [(shrinkPt c x0 p.1, o.raw (shrinkPt c x0 p.1))])
    simp only [shrinkAll, refShrink, objK_unc h, id]
    exact ⟨congrArg _ ih.1, ih.2.trans (by rw [List.length_append, List.length_singleton, List.length_cons]; omega)⟩

theorem nmStop_eq_false (conv : List (Pt R × E) → Bool) (maxiter maxfun : Nat) (s : NM R E) (g : Nat) :
    nmStop conv maxiter maxfun s g = false ↔ (s.log.length < maxfun ∧ g < maxiter) ∧ conv s.simplex = false := by
  simp only [nmStop, Bool.or_eq_false_iff, decide_eq_false_iff_not, Nat.not_le]

theorem ite_rel {α β : Type} (r : α → β → Prop) {c : Prop} [Decidable c] {a a' : α} {b b' : β}
    (h : c → r a b) (h' : ¬ c → r a' b') : r (if c then a else a') (if c then b else b') := by
  split
  · exact h ‹_›
  · exact h' ‹_›

/-- mystic's update `a` against the reference's `b` -/
structure SameStep (log : List (Pt R × E)) (a : List (Pt R × E) × List (Pt R × E) × Branch) (b : List (Pt R × E) × Nat) :
    Prop where
  sim : a.1 = b.1
  calls : a.2.1.length = log.length + b.2
  /-- `NM.finish` sorts only a non-empty simplex -/
  ne : b.1 ≠ []

section compare
variable [Add R] [Sub R] [Mul R] [Div R] [LT E] [DecidableLT E] [LE E] [DecidableLE E] {o : Obj (Pt R) E}

/-- one `_Step` of mystic at generation >= 2 before the sort = one pass of the reference loop body, branch by branch -/
theorem core_unc (h : Unconstrained o) (c : Coef R) (x0 : Pt R) (f0 : E) (tl : List (Pt R × E))
    (xw : Pt R) (fw fsw : E) (log : List (Pt R × E)) :
    SameStep log (NM.core o c id x0 f0 tl xw fw fsw log) (refCore o.raw c x0 f0 tl xw fw fsw) := by
  have two : ∀ {p q : Pt R × E}, (log ++ [p] ++ [q]).length = log.length + 2 := by
    intro p q; rw [List.length_append, List.length_append]; rfl
  have shr : ∀ {p q : Pt R × E} {b : Branch},
      SameStep log ((x0, f0) :: (shrinkAll o c id x0 tl (log ++ [p] ++ [q])).1,
        (shrinkAll o c id x0 tl (log ++ [p] ++ [q])).2, b) ((x0, f0) :: refShrink o.raw c x0 tl, 2 + tl.length) :=
    ⟨congrArg _ (shrinkAll_unc h c x0 tl _).1,
      ((shrinkAll_unc h c x0 tl _).2.trans (congrArg (· + tl.length) two)).trans (Nat.add_assoc _ _ _),
      List.cons_ne_nil _ _⟩
  have app : ∀ {l : List (Pt R × E)} {p : Pt R × E}, l ++ [p] ≠ [] :=
    List.append_ne_nil_of_right_ne_nil _ (List.cons_ne_nil _ [])
  unfold NM.core refCore
  simp only [objK_unc h]
  exact ite_rel _
    (fun _ => ite_rel _ (fun _ => ⟨rfl, two, app⟩) fun _ => ⟨rfl, two, app⟩)               -- expansion | reflection
    fun _ => ite_rel _ (fun _ => ⟨rfl, List.length_append, app⟩)                            -- reflection
      fun _ => ite_rel _ (fun _ => ite_rel _ (fun _ => ⟨rfl, two, app⟩) fun _ => shr)       -- outside contraction | shrink
        fun _ => ite_rel _ (fun _ => ⟨rfl, two, app⟩) fun _ => shr                          -- inside contraction | shrink

theorem update_unc (h : Unconstrained o) (c : Coef R) (s : NM R E) :
    (NM.update o c id s).1.simplex = sortByE (refBody o.raw c s.simplex).1 ∧
    (NM.update o c id s).1.log.length = s.log.length + (refBody o.raw c s.simplex).2 := by
  unfold NM.update refBody
  rcases hs : s.simplex with _ | ⟨⟨x0, f0⟩, _ | ⟨q, qs⟩⟩
  · exact ⟨hs, rfl⟩
  · exact ⟨hs, rfl⟩     -- a single row: nothing happens on either side
  · simp only [h.K_id]
    obtain ⟨⟨xw, fw⟩, hw⟩ : ∃ w, ((x0, f0) :: q :: qs).getLast? = some w :=
      ⟨_, List.getLast?_eq_some_getLast (List.cons_ne_nil _ _)⟩
    obtain ⟨⟨_, fsw⟩, hw2⟩ : ∃ w, ((x0, f0) :: q :: qs).dropLast.getLast? = some w :=
      ⟨_, List.getLast?_eq_some_getLast (List.cons_ne_nil _ _)⟩
    rw [hw, hw2]
    have hc := core_unc h c x0 f0 (q :: qs) xw fw fsw s.log
    have hf := finish_of_ne_nil s (NM.core o c id x0 f0 (q :: qs) xw fw fsw s.log).2.1 (hc.sim ▸ hc.ne)
    exact ⟨hf.1.trans (congrArg sortByE hc.sim), (congrArg List.length hf.2).trans hc.calls⟩

/-- the two loops: same stop tests at the same states, same updates -/
theorem loop_unc (h : Unconstrained o) (c : Coef R) (conv : List (Pt R × E) → Bool) (maxiter maxfun fuel : Nat)
    (s : NM R E) (g : Nat) :
    ((mysticLoop o c conv maxiter maxfun fuel s g).1.simplex,
     (mysticLoop o c conv maxiter maxfun fuel s g).1.log.length,
     (mysticLoop o c conv maxiter maxfun fuel s g).2)
      = refLoop o.raw c conv maxiter maxfun fuel s.simplex s.log.length g := by
  fun_induction mysticLoop o c conv maxiter maxfun fuel s g with
  | case1 s g => rfl
  | case2 fuel s g hst =>
    unfold refLoop
    by_cases h3 : s.log.length < maxfun ∧ g < maxiter
    · rw [if_pos h3, if_pos]
      exact (Bool.not_eq_false _).mp fun hc =>
        Bool.false_ne_true (((nmStop_eq_false conv maxiter maxfun s g).mpr ⟨h3, hc⟩).symm.trans hst)
    · rw [if_neg h3]
  | case3 fuel s g hst ih =>
    obtain ⟨h3, hcv⟩ := (nmStop_eq_false conv maxiter maxfun s g).mp ((Bool.not_eq_true _).mp hst)
    unfold refLoop
    rw [if_pos h3, if_neg (hcv ▸ Bool.false_ne_true), ih, (update_unc h c s).1, (update_unc h c s).2]

end compare

theorem refLoop_sorted [Add R] [Sub R] [Mul R] [Div R] [LinearOrder E] (f : Pt R → E) (c : Coef R)
    (conv : List (Pt R × E) → Bool) (maxiter maxfun fuel : Nat) (sim : List (Pt R × E)) (fc it : Nat) (hs : SortedE sim) :
    SortedE (refLoop f c conv maxiter maxfun fuel sim fc it).1 := by
  fun_induction refLoop f c conv maxiter maxfun fuel sim fc it with
  | case1 => exact hs
  | case2 => exact hs
  | case3 fuel sim fc it _ _ ih => exact ih (sorted_sortByE _)
  | case4 => exact hs

theorem minE_of_sorted [LinearOrder E] : ∀ (l : List (Pt R × E)), SortedE l → minE (l.map Prod.snd) = l.head?.map Prod.snd
  | [], _ => rfl
  | p :: ps, hl => congrArg some <| List.foldlRecOn (motive := (· = p.2)) _ _ rfl fun b hb a ha => by
    obtain ⟨q, hq, rfl⟩ := List.mem_map.mp ha
    rw [hb, if_neg (not_lt.mpr ((List.pairwise_cons.mp hl).1 q hq))]

end MysticVerif.Solver
