/-
Lemmas about the bounds-collapse model (Model/CollapseCost.lean): the interval algebra of
`tools._interval_intersection` over a linear order, and the mask step of `collapse_cost`.
-/
import MysticVerif.Model.CollapseCost
import Mathlib.Order.Basic
import Mathlib.Order.Lattice
import Mathlib.Order.MinMax

namespace MysticVerif.Clps

/-- in a dict with duplicate-free keys every entry is what the lookup of its key finds -/
theorem bLookup_of_mem {α : Type} (D : BDict α) (hnd : (D.map (·.1)).Nodup) (kv : Option Int × Ivs α) (h : kv ∈ D) :
    bLookup D kv.1 = some kv.2 := by
  induction D with
  | nil => cases h
  | cons a D ih =>
    simp only [List.map_cons, List.nodup_cons] at hnd
    rcases List.mem_cons.mp h with rfl | h'
    · simp [bLookup, List.find?]
    · have hne : (a.1 == kv.1) = false := by
        rw [beq_eq_false_iff_ne]
        intro e
        exact hnd.1 (e ▸ List.mem_map_of_mem h')
      have := ih hnd.2 h'
      unfold bLookup at this ⊢
      rw [List.find?_cons, hne]
      exact this

theorem filterMap_eq_self {α : Type} (l : List α) (f : α → Option α) (h : ∀ a ∈ l, f a = some a) :
    l.filterMap f = l := by
  induction l with
  | nil => rfl
  | cons a l ih =>
    rw [List.filterMap_cons, h a (List.mem_cons_self ..)]
    simp only
    rw [ih (fun b hb => h b (List.mem_cons_of_mem _ hb))]

section lin
variable {K : Type} [LinearOrder K]

theorem pyMax_eq (a b : K) : pyMax a b = max a b := (max_def_lt a b).symm

theorem pyMin_eq (a b : K) : pyMin a b = min a b := by rw [min_comm, min_def_lt]; rfl

theorem mem_ivRow (b : K × K) (B : Ivs K) (r : K × K) :
    r ∈ ivRow b B ↔ ∃ c ∈ B, r = (max b.1 c.1, min b.2 c.2) ∧ max b.1 c.1 < min b.2 c.2 := by
  simp only [ivRow, List.mem_filterMap, pyMax_eq, pyMin_eq, Option.ite_none_right_eq_some, Option.some.injEq]
  exact exists_congr fun c => and_congr_right fun _ => and_comm.trans (and_congr_left' eq_comm)

theorem mem_ivInter (A B : Ivs K) (hA : A ≠ []) (hB : B ≠ []) (r : K × K) :
    r ∈ ivInter A B ↔ ∃ a ∈ A, ∃ c ∈ B, r = (max a.1 c.1, min a.2 c.2) ∧ max a.1 c.1 < min a.2 c.2 := by
  unfold ivInter
  rw [if_neg (by rwa [List.isEmpty_iff]), if_neg (by rwa [List.isEmpty_iff])]
  simp only [List.mem_flatMap, mem_ivRow]

/-- an interval list in which every interval lies at or after the end of `b` (or `b` is after it) gives an empty row -/
theorem ivRow_eq_nil (b : K × K) (B : Ivs K) (h : ∀ c ∈ B, b.2 ≤ c.1 ∨ c.2 ≤ b.1) : ivRow b B = [] := by
  refine List.eq_nil_iff_forall_not_mem.mpr fun r hr => ?_
  obtain ⟨c, hc, -, hlt⟩ := (mem_ivRow b B r).mp hr
  obtain ⟨hb, hc'⟩ := max_lt_iff.mp hlt
  rcases h c hc with h' | h'
  · exact absurd (lt_min_iff.mp hc').1 (not_lt.mpr h')
  · exact absurd (lt_min_iff.mp hb).2 (not_lt.mpr h')

theorem ivRow_append (b : K × K) (B C : Ivs K) : ivRow b (B ++ C) = ivRow b B ++ ivRow b C :=
  List.filterMap_append

theorem ivRow_self (a : K × K) (ha : a.1 < a.2) : ivRow a [a] = [a] := by
  simp only [ivRow, List.filterMap_cons, List.filterMap_nil, pyMax, pyMin, ite_self, if_pos ha]

/-- `chainOrd` unfolded: non-degenerate intervals, each before every later one -/
theorem chainOrd_cons (a : K × K) (R : Ivs K) (h : chainOrd (a :: R) = true) :
    a.1 < a.2 ∧ chainOrd R = true ∧ ∀ c ∈ R, a.2 ≤ c.1 ∧ c.1 < c.2 := by
  induction R generalizing a with
  | nil => exact ⟨of_decide_eq_true h, rfl, fun _ hc => nomatch hc⟩
  | cons b R ih =>
    simp only [chainOrd, Bool.and_eq_true, decide_eq_true_eq] at h
    obtain ⟨⟨h1, h2⟩, h3⟩ := h
    obtain ⟨hb, hR, hall⟩ := ih b h3
    refine ⟨h1, h3, ?_⟩
    intro c hc
    rcases List.mem_cons.mp hc with rfl | hc
    · exact ⟨h2, hb⟩
    · exact ⟨le_trans h2 (le_trans (le_of_lt hb) (hall c hc).1), (hall c hc).2⟩

/-- rows of a chain-ordered list against itself: only the diagonal survives (`P`: the intervals already passed, all
left of `R`) -/
theorem flatMap_ivRow_chain (R : Ivs K) (hR : chainOrd R = true) (P : Ivs K)
    (hP : ∀ p ∈ P, ∀ c ∈ R, p.2 ≤ c.1) :
    R.flatMap (fun b => ivRow b (P ++ R)) = R := by
  induction R generalizing P with
  | nil => rfl
  | cons a R ih =>
    obtain ⟨ha, hR', hall⟩ := chainOrd_cons a R hR
    rw [List.flatMap_cons]
    have hrow : ivRow a (P ++ a :: R) = [a] := by
      rw [show P ++ a :: R = P ++ ([a] ++ R) from rfl, ivRow_append, ivRow_append, ivRow_self a ha,
        ivRow_eq_nil a P (fun p hp => Or.inr (hP p hp a (List.mem_cons_self ..))),
        ivRow_eq_nil a R (fun c hc => Or.inl (hall c hc).1)]
      rfl
    rw [hrow]
    have hrest := ih hR' (P ++ [a]) (by
      intro p hp c hc
      rcases List.mem_append.mp hp with hp | hp
      · exact hP p hp c (List.mem_cons_of_mem _ hc)
      · rw [List.mem_singleton] at hp; subst hp; exact (hall c hc).1)
    rw [List.append_assoc, List.singleton_append] at hrest
    rw [hrest]
    rfl

theorem ivInter_self_of_chain (R : Ivs K) (hR : chainOrd R = true) : ivInter R R = R := by
  cases R with
  | nil => rfl
  | cons a R => exact flatMap_ivRow_chain (a :: R) hR [] (fun _ h => nomatch h)

theorem ivsEq_self (R : Ivs K) : ivsEq R R = true := by
  induction R with
  | nil => rfl
  | cons a R ih => simp [ivsEq, eqS, ih]

/-- `interval_overlap(D, D) = D` when the keys are duplicate free and every value is a non-empty chain-ordered list -/
theorem overlap_self (D : BDict K) (hnd : (D.map (·.1)).Nodup)
    (hch : ∀ kv ∈ D, chainOrd kv.2 = true ∧ kv.2 ≠ []) : overlap D D = D := by
  unfold overlap
  refine (congrArg₂ (· ++ ·) ?_ ?_).trans (List.append_nil D)
  · apply filterMap_eq_self
    intro kv hkv
    rw [bLookup_of_mem D hnd kv hkv]
    simp only
    rw [ivInter_self_of_chain kv.2 (hch kv hkv).1, if_neg (mt List.isEmpty_iff.mp (hch kv hkv).2)]
  · rw [List.filter_eq_nil_iff]
    intro kv hkv
    rw [bLookup_of_mem D hnd kv hkv]
    simp

/-- with no results every entry of the mask is taken over as it is (tools.py l.946-947) -/
theorem overlap_nil_left (D : BDict K) : overlap [] D = D := by
  simp only [overlap, bLookup, List.filterMap_nil, List.find?_nil, Option.map_none, Option.isNone_none,
    List.nil_append]
  exact List.filter_eq_self.mpr fun _ _ => rfl

theorem bdictEq_self (D : BDict K) (hnd : (D.map (·.1)).Nodup) : bdictEq D D = true := by
  unfold bdictEq
  simp only [beq_self_eq_true, Bool.true_and, List.all_eq_true]
  intro kv hkv
  rw [bLookup_of_mem D hnd kv hkv]
  exact ivsEq_self kv.2

/-- the mask step of `collapse_cost` (collapse.py l.324-333) with the results themselves as mask gives `{}` -/
theorem costMaskStep_self (D : BDict K) (hnd : (D.map (·.1)).Nodup)
    (hch : ∀ kv ∈ D, chainOrd kv.2 = true ∧ kv.2 ≠ []) : costMaskStep D (some D) = [] := by
  unfold costMaskStep
  simp only
  rw [overlap_self D hnd hch]
  have : D.map (fun kv => if kv.2.isEmpty = true then (kv.1, (bLookup D kv.1).getD []) else kv) = D :=
    (List.map_congr_left fun kv hkv => if_neg (mt List.isEmpty_iff.mp (hch kv hkv).2)).trans (List.map_id' D)
  rw [this, bdictEq_self D hnd]
  rfl

end lin

end MysticVerif.Clps
