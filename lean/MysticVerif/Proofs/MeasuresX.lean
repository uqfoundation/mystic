/-
Helper lemmas for C18 (Model/MeasuresX.lean, the median family of Model/Measures.lean): the mask selection over `cumsum`,
the sort-based median as the midpoint of two samples, scale / shift of median and mad, moments with a tolerance cut, the
reflected samples of `impose_moment`, the rescaling of `impose_product`, the L-q sum under a division.
-/
import MysticVerif.Proofs.Trimmed
import MysticVerif.Model.MeasuresX

namespace MysticVerif.Meas

section
variable {K : Type} [Field K]

theorem pairsOf_fst_mem (xs : List K) (ws : Option (List K)) : ∀ q ∈ pairsOf xs ws, q.1 ∈ xs := by
  intro q hq
  cases ws with
  | none =>
    obtain ⟨y, hy, rfl⟩ := List.mem_map.mp hq
    exact hy
  | some w => exact (List.of_mem_zip (show (q.1, q.2) ∈ xs.zip w from hq)).1

/-- the mask selection `x[Q(x, cumsum(w))]` is non-empty when `Q` holds at the total -/
theorem sel_ne_nil (Q : K × K → Bool) (acc : K) (W A : List K) (hl : A.length = W.length) (hW : W ≠ [])
    (hQ : ∀ a, Q (a, acc + W.sum) = true) : (A.zip (cumsumFrom acc W)).filter Q ≠ [] := by
  induction W generalizing acc A with
  | nil => exact absurd rfl hW
  | cons w W ih =>
    cases A with
    | nil => exact absurd hl (Nat.succ_ne_zero _).symm
    | cons a A =>
      rw [cumsumFrom, List.zip_cons_cons, List.filter_cons]
      split
      · exact List.cons_ne_nil _ _
      · rename_i hn
        by_cases hW' : W = []
        · subst hW'
          rw [List.sum_singleton] at hQ
          exact absurd (hQ a) hn
        · exact ih (acc + w) A (Nat.succ.inj hl) hW' fun a => by rw [add_assoc, ← List.sum_cons]; exact hQ a

theorem cumsumFrom_getElem? (acc : K) (l : List K) (k : Nat) (hk : k < l.length) :
    (cumsumFrom acc l)[k]? = some (acc + (l.take (k + 1)).sum) := by
  induction l generalizing acc k with
  | nil => simp at hk
  | cons w l ih =>
    cases k with
    | zero => simp [cumsumFrom]
    | succ k =>
      simp only [List.length_cons, Nat.add_lt_add_iff_right] at hk
      simp only [cumsumFrom, List.getElem?_cons_succ, ih (acc + w) k hk]
      rw [List.take_succ_cons, List.sum_cons, add_assoc]

theorem lprod_eq (l : List K) : lprod l = l.prod := List.prod_eq_foldl.symm

theorem prod_map_div (ws : List K) (r : K) : (ws.map fun x => x / r).prod = ws.prod / r ^ ws.length := by
  induction ws with
  | nil => simp
  | cons w ws ih => simp only [List.map_cons, List.prod_cons, ih, List.length_cons, pow_succ]; ring

theorem prod_map_negdiv (ws : List K) (r : K) :
    (ws.map fun x => -x / r).prod = (-1) ^ ws.length * ws.prod / r ^ ws.length := by
  induction ws with
  | nil => simp
  | cons w ws ih => simp only [List.map_cons, List.prod_cons, ih, List.length_cons, pow_succ]; ring

end

section
variable {K : Type} [Field K] [LinearOrder K]

/-- the inputs for which the sort-based median is defined: at least one (sample, weight) pair and a non-negative
total weight (individual weights may be zero or negative) -/
def MedValid (xs : List K) (ws : Option (List K)) : Prop :=
  pairsOf xs ws ≠ [] ∧ 0 ≤ ((pairsOf xs ws).map (·.2)).sum

theorem MedValid.map {xs : List K} {ws : Option (List K)} (h : MedValid xs ws) (f : K → K) :
    MedValid (xs.map f) ws := by
  unfold MedValid
  rw [pairsOf_map_fst, List.map_map]
  exact ⟨fun h0 => h.1 (List.map_eq_nil_iff.mp h0), h.2⟩

theorem medianSel_subset (xs : List K) (ws : Option (List K)) : ∀ x ∈ medianSel xs ws, x ∈ xs := by
  intro x hx
  obtain ⟨p, hp, rfl⟩ := List.mem_map.mp (List.mem_of_mem_take hx)
  obtain ⟨q, hq, hq1⟩ := List.mem_map.mp (List.of_mem_zip (show (p.1, p.2) ∈ _ from (List.mem_filter.mp hp).1)).1
  exact hq1 ▸ pairsOf_fst_mem xs ws q ((sortPairs_perm _).subset hq)

theorem flipSamples_eq (xs : List K) : ∃ c, flipSamples xs = xs.map fun y => c - y := by
  cases xs with
  | nil => exact ⟨0, rfl⟩
  | cons x t => exact ⟨pymaxFrom x t + pyminFrom x t, rfl⟩

end

variable {K : Type} [Field K] [LinearOrder K] [IsStrictOrderedRing K]

theorem medianSel_ne_nil (xs : List K) (ws : Option (List K)) (h : MedValid xs ws) : medianSel xs ws ≠ [] := by
  have hne : (sortPairs (pairsOf xs ws)).map (·.2) ≠ [] := fun h0 =>
    h.1 (List.nil_perm.mp (List.map_eq_nil_iff.mp h0 ▸ sortPairs_perm (pairsOf xs ws)))
  intro h0
  rcases List.take_eq_nil_iff.mp h0 with hk | hsel
  · omega  -- `2 - n % 2 ≥ 1`
  -- the last sorted pair qualifies: its cumulative weight is the total `S`, and `S / 2 - S ≤ 0`
  · refine sel_ne_nil _ 0 _ _ (by rw [List.length_map, List.length_map]) hne (fun a => ?_)
      (List.map_eq_nil_iff.mp hsel)
    rw [lsum_eq, ((sortPairs_perm (pairsOf xs ws)).map (·.2)).sum_eq, zero_add, decide_eq_true_eq]
    exact sub_nonpos.mpr (half_le_self h.2)

theorem meanUpTo2_mid (C : Consts K) (l : List K) (h : l ≠ []) :
    ∃ a ∈ l, ∃ b ∈ l, meanUpTo2 C l = (a + b) / 2 := by
  match l, h with
  | [a], _ => exact ⟨a, List.mem_cons_self, a, List.mem_cons_self, (add_self_div_two a).symm⟩
  | a :: b :: t, _ => exact ⟨a, List.mem_cons_self, b, List.mem_cons_of_mem _ List.mem_cons_self, rfl⟩

theorem median_mid (C : Consts K) (xs : List K) (ws : Option (List K)) (h : MedValid xs ws) :
    ∃ a ∈ xs, ∃ b ∈ xs, median C xs ws = (a + b) / 2 := by
  obtain ⟨a, ha, b, hb, e⟩ := meanUpTo2_mid C _ (medianSel_ne_nil xs ws h)
  exact ⟨a, medianSel_subset xs ws a ha, b, medianSel_subset xs ws b hb, e⟩

theorem mid_bounds {lo hi a b : K} (ha : lo ≤ a ∧ a ≤ hi) (hb : lo ≤ b ∧ b ≤ hi) :
    lo ≤ (a + b) / 2 ∧ (a + b) / 2 ≤ hi := by
  have h2 : (0 : K) < 2 := two_pos
  constructor
  · rw [le_div_iff₀ h2, mul_two]; exact add_le_add ha.1 hb.1
  · rw [div_le_iff₀ h2, mul_two]; exact add_le_add ha.2 hb.2

theorem median_bounds (C : Consts K) (xs : List K) (ws : Option (List K)) (h : MedValid xs ws) (lo hi : K)
    (hb : ∀ x ∈ xs, lo ≤ x ∧ x ≤ hi) : lo ≤ median C xs ws ∧ median C xs ws ≤ hi := by
  obtain ⟨a, ha, b, hb', e⟩ := median_mid C xs ws h
  rw [e]; exact mid_bounds (hb a ha) (hb b hb')

theorem median_const (C : Consts K) (xs : List K) (ws : Option (List K)) (h : MedValid xs ws) (a : K)
    (hc : ∀ x ∈ xs, x = a) : median C xs ws = a := by
  have := median_bounds C xs ws h a a fun x hx => by rw [hc x hx]; exact ⟨le_rfl, le_rfl⟩
  exact le_antisymm this.2 this.1

theorem mean_tol_eq (C : Consts K) (xs : List K) (ws : Option (List K)) (tol : K) (h : Valid xs ws) :
    mean C xs ws tol = if |gmean xs ws| ≤ tol then 0 else gmean xs ws := by
  -- the two `ite`s differ in their `Decidable` instances only
  cases ws with
  | none =>
    simp only [mean, gmean, lsum_eq, absR_eq, div_one, (truthy_iff (1 : K)).mpr one_ne_zero, if_true]
    exact ite_congr rfl (fun _ => rfl) (fun _ => rfl)
  | some w =>
    simp only [mean, gmean, wsum, lsum_eq, absR_eq, (truthy_iff _).mpr h.2, if_true]
    exact ite_congr rfl (fun _ => rfl) (fun _ => rfl)

theorem moment_tol_eq (C : Consts K) (xs : List K) (ws : Option (List K)) (n : Nat) (tol : K) (h : Valid xs ws)
    (hn : 2 ≤ n) : moment C xs ws n tol = if |gmom xs ws n| ≤ tol then 0 else gmom xs ws n := by
  unfold moment gmom
  rw [if_neg (by omega), if_neg (by omega), mean_tol_eq C _ ws tol (h.map _), mean_eq C xs ws h]
  simp only [powN_eq]

theorem gmom_reflect (xs : List K) (ws : Option (List K)) (c : K) (n : Nat) (h : Valid xs ws) :
    gmom (xs.map fun y => c - y) ws n = (-1) ^ n * gmom xs ws n := by
  have e : (xs.map fun y => c - y) = (xs.map (· * (-1))).map (· + c) := by
    rw [List.map_map]; apply List.map_congr_left; intro y _; simp only [Function.comp]; ring
  rw [e, gmom_map_add_const _ ws c n (h.map _), gmom_map_mul_const]

/-- the samples that `impose_moment` rescales (l.535-542): their moment carries the sign `σ` of the factor `f`;
`zs` names the chosen branch so that the caller can rewrite it away -/
theorem gmom_ite_flipSamples (ys : List K) (ws : Option (List K)) (n : Nat) (f : K) (hys : Valid ys ws)
    (heven : n % 2 = 0 → 0 ≤ f) :
    ∃ (σ : K) (zs : List K), (if (decide (n % 2 = 1) && decide (f < 0)) = true then flipSamples ys else ys) = zs ∧
      σ * |f| = f ∧ Valid zs ws ∧ gmom zs ws n = σ * gmom ys ws n := by
  split
  · rename_i hc
    simp only [Bool.and_eq_true, decide_eq_true_eq] at hc
    obtain ⟨c, hflip⟩ := flipSamples_eq ys
    refine ⟨-1, _, hflip, ?_, hys.map _, ?_⟩
    · rw [abs_of_neg hc.2, neg_one_mul, neg_neg]
    · rw [gmom_reflect ys ws c n hys, Odd.neg_one_pow (Nat.odd_iff.mpr hc.1)]
  · rename_i hc
    simp only [Bool.and_eq_true, decide_eq_true_eq, not_and, not_lt] at hc
    have hnn : 0 ≤ f := (Nat.mod_two_eq_zero_or_one n).elim heven hc
    exact ⟨1, _, rfl, by rw [abs_of_nonneg hnn, one_mul], hys, (one_mul _).symm⟩

/-- the rescaling of `impose_product` (l.1836-1837); negating all `n` weights repairs the sign only for odd `n` -/
theorem prod_rescaled (C : Consts K) (ws : List K) (t : K) (hw : ws.prod ≠ 0) (ht : t ≠ 0)
    (hroot : C.root ws.length |ws.prod / t| ^ ws.length = |ws.prod / t|) :
    (ws.prod / t < 0 →
      (ws.map fun x => -x / C.root ws.length (-ws.prod / t)).prod = -(-1) ^ ws.length * t) ∧
    (0 ≤ ws.prod / t → (ws.map fun x => x / C.root ws.length (ws.prod / t)).prod = t) := by
  constructor
  -- `field_simp` clears the denominators with `hw`, `ht`
  · intro hneg
    rw [abs_of_neg hneg, ← neg_div] at hroot
    rw [prod_map_negdiv, hroot]; field_simp
  · intro hpos
    rw [abs_of_nonneg hpos] at hroot
    rw [prod_map_div, hroot]; field_simp

theorem imposeProduct_prod (C : Consts K) (mass : K) (ws : List K) (zsum : Bool) (zmass : K)
    (hw : ws.prod ≠ 0) (hm : mass ≠ 0)
    (hroot : C.root ws.length |ws.prod / mass| ^ ws.length = |ws.prod / mass|) :
    (imposeProduct C mass ws zsum zmass).prod =
      if ws.prod / mass < 0 then -(-1) ^ ws.length * mass else mass := by
  unfold imposeProduct
  rw [lprod_eq, if_pos ((truthy_iff _).mpr hw), if_pos ((truthy_iff _).mpr hm)]
  split
  · rename_i hneg
    exact (prod_rescaled C ws mass hw hm hroot).1 hneg
  · rename_i hpos
    exact (prod_rescaled C ws mass hw hm hroot).2 (not_lt.mp hpos)

theorem sum_abs_pow_div (ws : List K) (L : K) (q : Nat) (hL : 0 ≤ L) :
    ((ws.map (· / L)).map fun w => |w| ^ q).sum = (ws.map fun w => |w| ^ q).sum / L ^ q := by
  have key : ∀ w : K, |w / L| ^ q = |w| ^ q / L ^ q := fun w => by rw [abs_div, div_pow, abs_of_nonneg hL]
  rw [← sum_map_div_right, List.map_map, List.map_map]
  simp only [Function.comp_def, key]

theorem meanUpTo2_scale (C : Consts K) (s : K) (l : List K) (h : l ≠ []) :
    meanUpTo2 C (l.map (· * s)) = meanUpTo2 C l * s := by
  match l, h with
  | [a], _ => rfl
  | a :: b :: t, _ => simp only [List.map_cons, meanUpTo2]; ring

theorem median_scale (C : Consts K) (s : K) (hs : 0 < s) (xs : List K) (ws : Option (List K))
    (h : medianSel xs ws ≠ []) : median C (xs.map (· * s)) ws = median C xs ws * s := by
  unfold median
  rw [medianSel_map (scale_strictMono hs), meanUpTo2_scale C s _ h]

theorem mad_eq (C : Consts K) (xs : List K) (ws : Option (List K)) :
    mad C xs ws = median C (xs.map fun x => |x - median C xs ws|) ws := by
  unfold mad; simp only [absR_eq]

theorem mad_shift (C : Consts K) (c : K) (xs : List K) (ws : Option (List K)) (h : medianSel xs ws ≠ []) :
    mad C (xs.map (· + c)) ws = mad C xs ws := by
  rw [mad_eq, mad_eq, median_shift C c xs ws h, List.map_map]
  simp only [Function.comp_def, add_sub_add_right_eq_sub]

theorem mad_scale (C : Consts K) (s : K) (hs : 0 < s) (xs : List K) (ws : Option (List K)) (h : MedValid xs ws) :
    mad C (xs.map (· * s)) ws = mad C xs ws * s := by
  have key : ∀ m x : K, |x * s - m * s| = |x - m| * s := fun m x => by rw [← sub_mul, abs_mul, abs_of_pos hs]
  rw [mad_eq, mad_eq, median_scale C s hs xs ws (medianSel_ne_nil xs ws h),
    ← median_scale C s hs _ ws (medianSel_ne_nil _ ws (h.map _)), List.map_map, List.map_map]
  simp only [Function.comp_def, key]

theorem mad_const (C : Consts K) (xs : List K) (ws : Option (List K)) (h : MedValid xs ws) (a : K)
    (hc : ∀ x ∈ xs, x = a) : mad C xs ws = 0 := by
  rw [mad_eq]
  apply median_const C _ ws (h.map _) 0
  intro d hd
  obtain ⟨y, hy, rfl⟩ := List.mem_map.mp hd
  rw [median_const C xs ws h a hc, hc y hy, sub_self, abs_zero]

theorem mad_nonneg (C : Consts K) (xs : List K) (ws : Option (List K)) (h : MedValid xs ws) : 0 ≤ mad C xs ws := by
  rw [mad_eq]
  obtain ⟨a, ha, b, hb, e⟩ := median_mid C _ ws (h.map fun x => |x - median C xs ws|)
  obtain ⟨x, _, rfl⟩ := List.mem_map.mp ha
  obtain ⟨y, _, rfl⟩ := List.mem_map.mp hb
  rw [e]
  -- only the lower bound is wanted; the larger deviation serves as the upper one
  exact (mid_bounds ⟨abs_nonneg _, le_max_left _ _⟩ ⟨abs_nonneg _, le_max_right _ _⟩).1

end MysticVerif.Meas
