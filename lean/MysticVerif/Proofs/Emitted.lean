/- Helper definitions and lemmas for C13 / C14 (model: Model/Emitted.lean); the ordered-field facts come last. -/
import MysticVerif.Model.Emitted
import MysticVerif.Proofs.ListFacts
import MysticVerif.Proofs.ScalarFacts
import Mathlib.Algebra.Order.Field.Basic
import Mathlib.Data.List.Forall2

set_option linter.unusedSectionVars false -- section binders land on lemmas that do not use them

namespace MysticVerif.Emitted

/-- the comparator as a relation on numbers -/
def Cmp.holds {R : Type} [LT R] [LE R] : Cmp → R → R → Prop
  | .eq, a, b => a = b
  | .le, a, b => a ≤ b
  | .ge, a, b => b ≤ a
  | .lt, a, b => a < b
  | .gt, a, b => b < a
  | .ne, a, b => a ≠ b

/-- comparators that need a strictly positive tolerance to be enforced -/
def Cmp.strict : Cmp → Bool
  | .lt | .gt | .ne => true
  | _ => false

theorem Cmp.strict_of_ne {cmp : Cmp} (h : cmp = .ne) : cmp.strict = true := h ▸ rfl

theorem default_kind (k : Kind) : k.default.kind = k := by cases k <;> rfl

theorem eq_of_getD_eq {α : Type} {d : α} (x y : List α) (hlen : x.length = y.length)
    (h : ∀ j, x.getD j d = y.getD j d) : x = y := by
  apply List.ext_getElem hlen
  intro j h1 h2
  have := h j
  simpa [List.getD_eq_getElem?_getD, List.getElem?_eq_getElem h1, List.getElem?_eq_getElem h2] using this

theorem forall₂_eq_maps {α β : Type} {R : α → β → Prop} {l₁ : List α} {l₂ : List β} (h : List.Forall₂ R l₁ l₂) :
    ∃ ps : List (α × β), l₁ = ps.map (·.1) ∧ l₂ = ps.map (·.2) ∧ ∀ p ∈ ps, R p.1 p.2 := by
  induction h with
  | nil => exact ⟨[], rfl, rfl, fun _ hp => nomatch hp⟩
  | @cons a b _ _ hab _ ih =>
    obtain ⟨ps, rfl, rfl, hps⟩ := ih
    exact ⟨(a, b) :: ps, rfl, rfl, List.forall_mem_cons.mpr ⟨hab, hps⟩⟩

theorem forall₂_getElem {α β : Type} {R : α → β → Prop} {l₁ : List α} {l₂ : List β}
    (h : List.Forall₂ R l₁ l₂) {i : Nat} (h₂ : i < l₂.length) : ∃ h₁ : i < l₁.length, R l₁[i] l₂[i] :=
  ⟨h.length_eq ▸ h₂, (List.forall₂_iff_get.mp h).2 i _ h₂⟩

theorem forall₂_maps {α β γ : Type} {R : α → β → Prop} (f : γ → α) (g : γ → β) (l : List γ)
    (h : ∀ p ∈ l, R (f p) (g p)) : List.Forall₂ R (l.map f) (l.map g) := by
  induction l with
  | nil => exact List.Forall₂.nil
  | cons p l ih =>
    exact List.Forall₂.cons (h p List.mem_cons_self) (ih fun q hq => h q (List.mem_cons_of_mem _ hq))

section
variable {C : Type}

theorem emitG_i (r : Rel C) (B : Expr C) (c : C) : (emitG r B c).i = r.i := by
  unfold emitG; cases r.cmp <;> rfl

theorem recognise_spec [DecidableEq C] {isPos : C → Bool} {d : C} {r : Rel C} {code : Assign C}
    (h : recognise isPos d r code = true) :
    code = emitG r code.factor (code.scale d) ∧
      ((r.cmp = .le ∨ r.cmp = .ge) → code.factor.isBool = true) ∧
      (r.cmp = .ne → isPos (code.scale d) = true) := by
  unfold recognise at h
  simp only [Bool.and_eq_true, decide_eq_true_eq] at h
  refine ⟨h.1, ?_, ?_⟩
  · intro hc
    have h2 := h.2
    rcases hc with hc | hc
    all_goals simp only [hc] at h2; exact h2
  · intro hc; have h2 := h.2; simp only [hc] at h2; exact h2

theorem recognise_i [DecidableEq C] {isPos : C → Bool} {d : C} {r : Rel C} {code : Assign C}
    (h : recognise isPos d r code = true) : code.i = r.i := by
  rw [(recognise_spec h).1, emitG_i]

/-- (relation, statement) pairs that do not interfere. It does not depend on the order of the pairs: every way of
composing the statements enforces all relations. -/
structure Independent (ps : List (Rel C × Assign C)) : Prop where
  target : ∀ p ∈ ps, p.2.i = p.1.i
  nodup : (ps.map (·.1.i)).Nodup
  free : ∀ p ∈ ps, ∀ q ∈ ps, q.1.rhs.mentions p.1.i = false
  factor : ∀ p ∈ ps, ∀ q ∈ ps, p.2.factor.mentions q.1.i = false

theorem Independent.perm {ps qs : List (Rel C × Assign C)} (h : Independent ps) (hp : qs.Perm ps) :
    Independent qs where
  target p hm := h.target p (hp.mem_iff.mp hm)
  nodup := (hp.map _).nodup_iff.mpr h.nodup
  free p hm q hq := h.free p (hp.mem_iff.mp hm) q (hp.mem_iff.mp hq)
  factor p hm q hq := h.factor p (hp.mem_iff.mp hm) q (hp.mem_iff.mp hq)

theorem Independent.sublist {ps qs : List (Rel C × Assign C)} (h : Independent ps) (hs : qs.Sublist ps) :
    Independent qs where
  target p hm := h.target p (hs.subset hm)
  nodup := h.nodup.sublist (hs.map _)
  free p hm q hq := h.free p (hs.subset hm) q (hs.subset hq)
  factor p hm q hq := h.factor p (hs.subset hm) q (hs.subset hq)

end

section
variable {K : Type} [LinearOrder K]

theorem pyMin_eq_min (a b : K) : pyMin a b = min a b := by
  unfold pyMin; split
  · rename_i h; exact (min_eq_right h.le).symm
  · rename_i h; exact (min_eq_left (not_lt.mp h)).symm

theorem pyMax_eq_max (a b : K) : pyMax a b = max a b := by
  unfold pyMax; split
  · rename_i h; exact (max_eq_right h.le).symm
  · rename_i h; exact (max_eq_left (not_lt.mp h)).symm

end

/-! What the statements do to a vector needs no arithmetic: any scalar type with the operations will do. The ten operation
instances are implicit binders: at a use over a field `K` they are unified from the goal (`Env C K` fixes them) instead of
being synthesised again through `Field K`. -/
section
variable {C R : Type} {_ : Add R} {_ : Sub R} {_ : Mul R} {_ : Div R} {_ : Neg R} {_ : LT R} {_ : DecidableLT R} {_ : BEq R}
  {_ : OfNat R 0} {_ : OfNat R 1}

theorem b2r_cases (b : Bool) : (b2r b : R) = 0 ∨ (b2r b : R) = 1 := by
  cases b
  · exact Or.inl rfl
  · exact Or.inr rfl

theorem isBool_eval (env : Env C R) (x : List R) : ∀ e : Expr C, e.isBool = true →
    e.eval env x = 0 ∨ e.eval env x = 1
  | .equal _ _, _ => b2r_cases _
  | .bor _ _, _ => b2r_cases _
  | .false_, _ => Or.inl rfl
  | .isZero _, _ => b2r_cases _
  | .num _, h | .var _, h | .add _ _, h | .sub _ _, h | .mul _ _, h | .div _ _, h | .neg _, h
  | .max _ _, h | .min _ _, h | .tol _, h | .abs _, h | .app1 _ _, h | .app2 _ _ _, h => by simp [Expr.isBool] at h

theorem Expr.eval_congr (env : Env C R) (x y : List R) :
    ∀ e : Expr C, (∀ j, e.mentions j = true → y.getD j 0 = x.getD j 0) → e.eval env y = e.eval env x := by
  intro e
  induction e with
  | num c => intro _; rfl
  | var j => intro h; exact h j (beq_self_eq_true j)
  | add a b iha ihb | sub a b iha ihb | mul a b iha ihb | div a b iha ihb | max a b iha ihb
  | min a b iha ihb | equal a b iha ihb | bor a b iha ihb | app2 f a b iha ihb =>
    intro h
    have ha := iha fun j hj => h j (Bool.or_eq_true_iff.mpr (Or.inl hj))
    have hb := ihb fun j hj => h j (Bool.or_eq_true_iff.mpr (Or.inr hj))
    simp only [Expr.eval, ha, hb]
  | neg a iha | tol a iha | isZero a iha | abs a iha | app1 f a iha =>
    intro h
    simp only [Expr.eval, iha h]
  | false_ => intro _; rfl

theorem exec_length (env : Env C R) (a : Assign C) (x : List R) : (a.exec env x).length = x.length :=
  List.length_set

theorem exec_getD_ne (env : Env C R) (a : Assign C) (x : List R) (j : Nat) (h : j ≠ a.i) :
    (a.exec env x).getD j 0 = x.getD j 0 := getD_set_ne x _ 0 h.symm

theorem exec_getD_self (env : Env C R) (a : Assign C) (x : List R) (h : a.i < x.length) :
    (a.exec env x).getD a.i 0 = a.e.eval env x := by
  rw [Assign.exec, List.getD_eq_getElem?_getD, List.getElem?_set_self h]; rfl

theorem exec_eq_self (env : Env C R) (a : Assign C) (x : List R) (h : a.e.eval env x = x.getD a.i 0) :
    a.exec env x = x := by
  rw [Assign.exec, h]
  rcases Nat.lt_or_ge a.i x.length with hi | hi
  · rw [List.getD_eq_getElem?_getD, List.getElem?_eq_getElem hi, Option.getD_some, List.set_getElem_self]
  · exact List.set_eq_of_length_le hi

theorem eval_set_of_not_mentions (env : Env C R) (x : List R) (i : Nat) (v : R) (e : Expr C)
    (h : e.mentions i = false) : e.eval env (x.set i v) = e.eval env x :=
  Expr.eval_congr env x _ e fun j hj => getD_set_ne x v 0 (by rintro rfl; rw [h] at hj; cases hj)

theorem eval_exec (env : Env C R) (a : Assign C) (x : List R) (e : Expr C) (h : e.mentions a.i = false) :
    e.eval env (a.exec env x) = e.eval env x := eval_set_of_not_mentions env x a.i _ e h

theorem Assign.lt_of_defined {env : Env C R} {a : Assign C} {x : List R} (h : a.defined env x = true) :
    a.i < x.length := by
  rw [Assign.defined, Bool.and_eq_true, decide_eq_true_eq] at h; exact h.1

theorem chain_cons (env : Env C R) (c : Assign C) (cs : List (Assign C)) (x : List R) :
    chain env (c :: cs) x = c.exec env (chain env cs x) := rfl

theorem chain_length (env : Env C R) (codes : List (Assign C)) (x : List R) :
    (chain env codes x).length = x.length := by
  induction codes with
  | nil => rfl
  | cons c cs ih => rw [chain_cons, exec_length, ih]

theorem chain_getD_of_not_target (env : Env C R) (codes : List (Assign C)) (x : List R) (j : Nat)
    (hj : ∀ c ∈ codes, c.i ≠ j) : (chain env codes x).getD j 0 = x.getD j 0 := by
  induction codes with
  | nil => rfl
  | cons c cs ih =>
    rw [chain_cons, exec_getD_ne env c _ j (hj c List.mem_cons_self).symm]
    exact ih fun c' hc' => hj c' (List.mem_cons_of_mem _ hc')

end

variable {K : Type} [Field K] [LinearOrder K] [IsStrictOrderedRing K] {C : Type}

/-- the relation `x_i ⋈ rhs(x)` holds at `x` -/
def Rel.holds (env : Env C K) (r : Rel C) (x : List K) : Prop :=
  r.cmp.holds (x.getD r.i 0) (r.rhs.eval env x)

/-- `holds` with the margin the emitted code works with: strict comparators need `x_i ≤ rhs - tol(rhs)`
(resp. `≥ rhs + tol(rhs)`), `<=`/`>=` need the margin `tol(rhs) * B` where `B` is the boolean factor
of the statement (0 unless a `!=` line forbids the bound itself). `=` and `!=` : plain `holds`. -/
def Rel.margin (env : Env C K) (r : Rel C) (B : Expr C) (x : List K) : Prop :=
  match r.cmp with
  | .eq => x.getD r.i 0 = r.rhs.eval env x
  | .ne => x.getD r.i 0 ≠ r.rhs.eval env x
  | .lt => x.getD r.i 0 ≤ r.rhs.eval env x - tolf env (r.rhs.eval env x)
  | .gt => r.rhs.eval env x + tolf env (r.rhs.eval env x) ≤ x.getD r.i 0
  | .le => x.getD r.i 0 ≤ r.rhs.eval env x - tolf env (r.rhs.eval env x) * B.eval env x
  | .ge => r.rhs.eval env x + tolf env (r.rhs.eval env x) * B.eval env x ≤ x.getD r.i 0

theorem absR_eq_abs (a : K) : absR a = |a| := ite_neg_eq_abs a

theorem tol_le_tolf (env : Env C K) (hr : 0 ≤ env.rel) (a : K) : env.tol ≤ tolf env a := by
  rw [tolf, absR_eq_abs]; exact le_add_of_nonneg_right (mul_nonneg (abs_nonneg a) hr)

theorem tolf_nonneg (env : Env C K) (ht : 0 ≤ env.tol) (hr : 0 ≤ env.rel) (a : K) : 0 ≤ tolf env a :=
  ht.trans (tol_le_tolf env hr a)

theorem tolf_pos (env : Env C K) (ht : 0 < env.tol) (hr : 0 ≤ env.rel) (a : K) : 0 < tolf env a :=
  ht.trans_le (tol_le_tolf env hr a)

theorem b2r_beq (a b : K) : (b2r (a == b) : K) = if a = b then 1 else 0 := by
  by_cases h : a = b <;> simp [b2r, h]

theorem isBool_eval_nonneg (env : Env C K) (x : List K) (e : Expr C) (h : e.isBool = true) :
    0 ≤ e.eval env x := by
  rcases isBool_eval env x e h with h | h <;> rw [h]
  exact zero_le_one

/-- What `emitG` stores into `x_i`, as a function of `v = x_i`, `ρ = rhs(x)`, `τ = tol(rhs(x))`, `β = B(x)` and the
numeral `κ` of the `!=` step: the vector enters only through these numbers (`emitG_eval`). -/
def Cmp.upd : Cmp → K → K → K → K → K → K
  | .eq, _, ρ, _, _, _ => ρ
  | .lt, v, ρ, τ, _, _ => pyMin (ρ - τ) v
  | .gt, v, ρ, τ, _, _ => pyMax (ρ + τ) v
  | .le, v, ρ, τ, β, _ => pyMin (ρ - τ * β) v
  | .ge, v, ρ, τ, β, _ => pyMax (ρ + τ * β) v
  | .ne, v, ρ, τ, _, κ => v + b2r (v == ρ) * (τ * κ)

/-- what `Rel.margin` asks of `v = x_i`, in the same numbers (`Rel.margin_iff`) -/
def Cmp.within : Cmp → K → K → K → K → Prop
  | .eq, v, ρ, _, _ => v = ρ
  | .ne, v, ρ, _, _ => v ≠ ρ
  | .lt, v, ρ, τ, _ => v ≤ ρ - τ
  | .gt, v, ρ, τ, _ => ρ + τ ≤ v
  | .le, v, ρ, τ, β => v ≤ ρ - τ * β
  | .ge, v, ρ, τ, β => ρ + τ * β ≤ v

namespace Cmp
variable {cmp : Cmp} {v ρ τ β κ : K}

theorem within_upd (hne : cmp = .ne → 0 < τ * κ) : cmp.within (cmp.upd v ρ τ β κ) ρ τ β := by
  cases cmp with
  | eq => exact rfl
  | lt | le => exact (pyMin_eq_min _ _).trans_le (min_le_left _ _)
  | gt | ge => exact (le_max_left _ _).trans_eq (pyMax_eq_max _ _).symm
  | ne =>
    show v + b2r (v == ρ) * (τ * κ) ≠ ρ
    rw [b2r_beq]; split
    · rename_i h; rw [h, one_mul]; exact (lt_add_of_pos_right ρ (hne rfl)).ne'
    · rename_i h; rw [zero_mul, add_zero]; exact h

theorem upd_of_within (h : cmp.within v ρ τ β) : cmp.upd v ρ τ β κ = v := by
  cases cmp with
  | eq => exact h.symm
  | lt | le => exact (pyMin_eq_min _ _).trans (min_eq_right h)
  | gt | ge => exact (pyMax_eq_max _ _).trans (max_eq_right h)
  | ne =>
    show v + b2r (v == ρ) * (τ * κ) = v
    rw [b2r_beq, if_neg h, zero_mul, add_zero]

theorem within_holds (hw : (cmp = .le ∨ cmp = .ge) → 0 ≤ τ * β) (hs : cmp.strict = true → 0 < τ)
    (h : cmp.within v ρ τ β) : cmp.holds v ρ := by
  cases cmp with
  | eq | ne => exact h
  | le => exact h.trans (sub_le_self ρ (hw (Or.inl rfl)))
  | ge => exact (le_add_of_nonneg_right (hw (Or.inr rfl))).trans h
  | lt => exact h.trans_lt (sub_lt_self ρ (hs rfl))
  | gt => exact (lt_add_of_pos_right ρ (hs rfl)).trans_le h

theorem within_of_holds (hlt : cmp ≠ .lt) (hgt : cmp ≠ .gt) (hβ : β = 0) (h : cmp.holds v ρ) :
    cmp.within v ρ τ β := by
  subst hβ
  cases cmp with
  | eq | ne => exact h
  | le => show v ≤ ρ - τ * 0; rwa [mul_zero, sub_zero]
  | ge => show ρ + τ * 0 ≤ v; rwa [mul_zero, add_zero]
  | lt => exact absurd rfl hlt
  | gt => exact absurd rfl hgt

end Cmp

theorem emitG_eval (env : Env C K) (r : Rel C) (B : Expr C) (c : C) (x : List K) :
    (emitG r B c).e.eval env x = r.cmp.upd (x.getD r.i 0) (r.rhs.eval env x) (tolf env (r.rhs.eval env x))
      (B.eval env x) (env.ι c) := by
  obtain ⟨i, cmp, rhs⟩ := r
  cases cmp <;> rfl

theorem Rel.margin_iff (env : Env C K) (r : Rel C) (B : Expr C) (x : List K) :
    r.margin env B x ↔
      r.cmp.within (x.getD r.i 0) (r.rhs.eval env x) (tolf env (r.rhs.eval env x)) (B.eval env x) := by
  obtain ⟨i, cmp, rhs⟩ := r
  cases cmp <;> exact Iff.rfl

/-- two vectors that agree on every coordinate an expression reads give the same value -/
theorem eval_congr (env : Env C K) (x y : List K) :
    ∀ e : Expr C, (∀ j, e.mentions j = true → y.getD j 0 = x.getD j 0) → e.eval env y = e.eval env x :=
  Expr.eval_congr env x y

theorem Rel.margin_exec (env : Env C K) (r : Rel C) (B : Expr C) (a : Assign C) (x : List K)
    (hne : r.i ≠ a.i) (hfree : r.rhs.mentions a.i = false) (hB : B.mentions a.i = false) :
    r.margin env B (a.exec env x) ↔ r.margin env B x := by
  rw [margin_iff, margin_iff, exec_getD_ne env a x _ hne, eval_exec env a x _ hfree, eval_exec env a x _ hB]

section emitG
variable (env : Env C K) (r : Rel C) (B : Expr C) (c : C) (x : List K)

theorem emitG_margin (hi : r.i < x.length) (hfree : r.rhs.mentions r.i = false) (hB : B.mentions r.i = false)
    (hne : r.cmp = .ne → 0 < tolf env (r.rhs.eval env x) * env.ι c) :
    r.margin env B ((emitG r B c).exec env x) := by
  have hv : ((emitG r B c).exec env x).getD (emitG r B c).i 0 = (emitG r B c).e.eval env x :=
    exec_getD_self env _ x (by rw [emitG_i]; exact hi)
  rw [emitG_i, emitG_eval] at hv
  rw [Rel.margin_iff, hv, eval_exec env _ x _ (by rw [emitG_i]; exact hfree),
    eval_exec env _ x _ (by rw [emitG_i]; exact hB)]
  exact Cmp.within_upd hne

theorem emitG_exec_of_margin (h : r.margin env B x) : (emitG r B c).exec env x = x :=
  exec_eq_self env _ x (by rw [emitG_eval, emitG_i]; exact Cmp.upd_of_within ((Rel.margin_iff env r B x).mp h))

theorem emitG_margin_of_fixed (hi : r.i < x.length) (hne : r.cmp = .ne → 0 < tolf env (r.rhs.eval env x) * env.ι c)
    (h : (emitG r B c).exec env x = x) : r.margin env B x := by
  have hv : ((emitG r B c).exec env x).getD (emitG r B c).i 0 = (emitG r B c).e.eval env x :=
    exec_getD_self env _ x (by rw [emitG_i]; exact hi)
  rw [h, emitG_i, emitG_eval] at hv
  rw [Rel.margin_iff, hv]
  exact Cmp.within_upd hne

end emitG

/-- a statement that runs later neither writes nor changes anything the margin of another pair reads -/
theorem Independent.chain_margin (env : Env C K) (x : List K) {ps : List (Rel C × Assign C)} (h : Independent ps)
    (henf : ∀ p ∈ ps, ∀ z : List K, z.length = x.length → p.1.margin env p.2.factor (p.2.exec env z)) :
    ∀ p ∈ ps, p.1.margin env p.2.factor (chain env (ps.map (·.2)) x) := by
  induction ps with
  | nil => intro p hp; cases hp
  | cons q ps ih =>
    have ih' := ih (h.sublist (List.sublist_cons_self q ps)) fun p hp => henf p (List.mem_cons_of_mem _ hp)
    have hq : q ∈ q :: ps := List.mem_cons_self
    have hqi := h.target q hq
    intro p hp
    rw [List.map_cons, chain_cons]
    rcases List.mem_cons.mp hp with rfl | hmem
    · exact henf p hq _ (chain_length env _ x)
    · have hnd := h.nodup
      rw [List.map_cons, List.nodup_cons] at hnd
      refine (Rel.margin_exec env p.1 p.2.factor q.2 _ ?_ ?_ ?_).mpr (ih' p hmem)
      · rw [hqi]; exact fun e => hnd.1 (List.mem_map.mpr ⟨p, hmem, e⟩)
      · rw [hqi]; exact h.free q hq p hp
      · rw [hqi]; exact h.factor p hp q hq

/-- the relation `lhs ⋈ rhs` of the text holds at `x` -/
def Rel2.holds (env : Env C K) (r : Rel2 C) (x : List K) : Prop :=
  r.cmp.holds (r.lhs.eval env x) (r.rhs.eval env x)

/-- `holds` with the tolerance margin of strict comparators (`lhs ≤ rhs - tol(rhs)`, `lhs ≥ rhs + tol(rhs)`) -/
def Rel2.margin (env : Env C K) (r : Rel2 C) (x : List K) : Prop :=
  match r.cmp with
  | .lt => r.lhs.eval env x ≤ r.rhs.eval env x - tolf env (r.rhs.eval env x)
  | .gt => r.rhs.eval env x + tolf env (r.rhs.eval env x) ≤ r.lhs.eval env x
  | _ => r.holds env x

/-- when a condition value counts as "satisfied" (penalty.py: `f(x) <= 0` resp. `f(x) == 0`) -/
def Kind.satisfied : Kind → K → Prop
  | .ineq, v => v ≤ 0
  | .eq, v => v = 0

theorem Rel.toRel2_margin (env : Env C K) (htol : 0 ≤ env.tol) (hrel : 0 ≤ env.rel) (r : Rel C) (B : Expr C)
    (y : List K) (hB : (r.cmp = .le ∨ r.cmp = .ge) → 0 ≤ B.eval env y) (h : r.margin env B y) :
    r.toRel2.margin env y := by
  obtain ⟨i, cmp, rhs⟩ := r
  cases cmp with
  | eq | ne | lt | gt => exact h
  | le | ge =>
    exact Cmp.within_holds (fun hc => mul_nonneg (tolf_nonneg env htol hrel _) (hB hc)) (fun hc => nomatch hc)
      ((Rel.margin_iff env _ B y).mp h)

theorem pyMax_zero_nonneg (c : K) : 0 ≤ pyMax 0 c := (le_max_left 0 c).trans_eq (pyMax_eq_max 0 c).symm

theorem pyMax_zero_eq_zero {c : K} : pyMax 0 c = 0 ↔ c ≤ 0 := by
  rw [pyMax_eq_max]; exact max_eq_left_iff

theorem term_nonneg (t : PType) {k' : K} (hk : 0 < k') (c : K) : 0 ≤ t.term k' c := by
  have hm : ∀ {k a : K}, 0 < k → 0 ≤ a → 0 ≤ k * a := fun hk ha => mul_nonneg hk.le ha
  have hk2 : 0 < k' + k' := add_pos hk hk
  have habs : ∀ a : K, 0 ≤ absR a := fun a => (abs_nonneg a).trans_eq (absR_eq_abs a).symm
  cases t with
  | qEq => exact hm hk (mul_self_nonneg c)
  | lEq => exact hm hk (habs c)
  | qIneq => exact hm hk2 (mul_self_nonneg _)
  | lIneq => exact hm hk2 (habs _)
  | uEq | uIneq =>
    simp only [PType.term]
    split
    · exact hk.le
    · exact le_rfl

/-- the counterpart of `C15.charge_sign` for the penalty types of this model -/
theorem term_eq_zero_iff (t : PType) {k' : K} (hk : 0 < k') (c : K) :
    t.term k' c = 0 ↔ t.kind.satisfied c := by
  have hm : ∀ {k a : K}, 0 < k → (k * a = 0 ↔ a = 0) := fun hk => mul_eq_zero.trans (or_iff_right hk.ne')
  have hk2 : 0 < k' + k' := add_pos hk hk
  have habs : ∀ a : K, absR a = 0 ↔ a = 0 := fun a => by rw [absR_eq_abs, abs_eq_zero]
  cases t <;> simp only [PType.term, PType.kind, Kind.satisfied]
  case qEq => rw [hm hk, mul_self_eq_zero]
  case lEq => rw [hm hk, habs]
  case qIneq => rw [hm hk2, mul_self_eq_zero, pyMax_zero_eq_zero]
  case lIneq => rw [hm hk2, habs, pyMax_zero_eq_zero]
  case uEq =>
    by_cases h : c = 0
    · rw [if_neg (fun hb => bne_iff_ne.mp hb h)]; exact iff_of_true rfl h
    · rw [if_pos (bne_iff_ne.mpr h)]; exact iff_of_false hk.ne' h
  case uIneq =>
    by_cases h : 0 < c
    · rw [if_pos h]; exact iff_of_false hk.ne' (not_le.mpr h)
    · rw [if_neg h]; exact iff_of_true rfl (not_lt.mp h)

end MysticVerif.Emitted
