-- generated by harness/mkmanifest.py
import MysticVerif.Basic.Proto
import MysticVerif.Drv.C01
import MysticVerif.Drv.C02
import MysticVerif.Drv.C03
import MysticVerif.Drv.C04
import MysticVerif.Drv.C05
import MysticVerif.Drv.C06
import MysticVerif.Drv.C07
import MysticVerif.Drv.C08
import MysticVerif.Drv.C09
import MysticVerif.Drv.C10
import MysticVerif.Drv.C11
import MysticVerif.Drv.C12
import MysticVerif.Drv.C13
import MysticVerif.Drv.C14
import MysticVerif.Drv.C15
import MysticVerif.Drv.C16
import MysticVerif.Drv.C17
import MysticVerif.Drv.C18
import MysticVerif.Drv.C19
import MysticVerif.Drv.C20
import MysticVerif.Drv.SolverDrv
import MysticVerif.Drv.TermParse
import MysticVerif.Model.Brent
import MysticVerif.Model.Checkpoint
import MysticVerif.Model.CheckpointMon
import MysticVerif.Model.ClosedLoop
import MysticVerif.Model.Collapse
import MysticVerif.Model.CollapseApply
import MysticVerif.Model.CollapseCost
import MysticVerif.Model.CollapseMeasure
import MysticVerif.Model.Combinators
import MysticVerif.Model.CombinatorsSeq
import MysticVerif.Model.CombinatorsX
import MysticVerif.Model.Config
import MysticVerif.Model.Couplers
import MysticVerif.Model.Discrete
import MysticVerif.Model.DiscreteExt
import MysticVerif.Model.DiscreteHeap
import MysticVerif.Model.Dsl
import MysticVerif.Model.Emitted
import MysticVerif.Model.EmittedJoin
import MysticVerif.Model.EmittedPShape
import MysticVerif.Model.EmittedShape
import MysticVerif.Model.Ensemble
import MysticVerif.Model.EnsembleRun
import MysticVerif.Model.Measures
import MysticVerif.Model.MeasuresX
import MysticVerif.Model.Monitor
import MysticVerif.Model.MonitorHeap
import MysticVerif.Model.MonitorViews
import MysticVerif.Model.MungeFormats
import MysticVerif.Model.NMInit
import MysticVerif.Model.NelderMead
import MysticVerif.Model.Penalty
import MysticVerif.Model.PenaltyTree
import MysticVerif.Model.Powell
import MysticVerif.Model.PowellResume
import MysticVerif.Model.PowellS
import MysticVerif.Model.Reconfig
import MysticVerif.Model.RefFmin
import MysticVerif.Model.Schedule
import MysticVerif.Model.Signal
import MysticVerif.Model.Solver
import MysticVerif.Model.Strategy
import MysticVerif.Model.Symbolic
import MysticVerif.Model.Symbolic2
import MysticVerif.Model.SymbolicTop
import MysticVerif.Model.Termination
import MysticVerif.Model.Transforms
import MysticVerif.Model.Trimmed
import MysticVerif.Proofs.AndSuccess
import MysticVerif.Proofs.Brent
import MysticVerif.Proofs.Cells
import MysticVerif.Proofs.ClosedLoop
import MysticVerif.Proofs.ClosedLoopAlgs
import MysticVerif.Proofs.Collapse
import MysticVerif.Proofs.CollapseApply
import MysticVerif.Proofs.CollapseCost
import MysticVerif.Proofs.CollapseMeasure
import MysticVerif.Proofs.Combinators
import MysticVerif.Proofs.CombinatorsX
import MysticVerif.Proofs.Config
import MysticVerif.Proofs.Ctl
import MysticVerif.Proofs.Discrete
import MysticVerif.Proofs.DiscreteHeap
import MysticVerif.Proofs.DiscreteImpose
import MysticVerif.Proofs.DiscreteNum
import MysticVerif.Proofs.DiscretePack
import MysticVerif.Proofs.DiscreteStats
import MysticVerif.Proofs.DiscreteUpdate
import MysticVerif.Proofs.DistanceX
import MysticVerif.Proofs.Emitted
import MysticVerif.Proofs.EmittedJoin
import MysticVerif.Proofs.EmittedPShape
import MysticVerif.Proofs.EmittedShape
import MysticVerif.Proofs.Ensemble
import MysticVerif.Proofs.EnsembleRun
import MysticVerif.Proofs.ListFacts
import MysticVerif.Proofs.Measures
import MysticVerif.Proofs.MeasuresX
import MysticVerif.Proofs.Monitor
import MysticVerif.Proofs.MonitorField
import MysticVerif.Proofs.NMInit
import MysticVerif.Proofs.NelderMead
import MysticVerif.Proofs.Penalty
import MysticVerif.Proofs.PenaltyTree
import MysticVerif.Proofs.Powell
import MysticVerif.Proofs.PowellResume
import MysticVerif.Proofs.PowellS
import MysticVerif.Proofs.Reconfig
import MysticVerif.Proofs.ReconfigNM
import MysticVerif.Proofs.RefFmin
import MysticVerif.Proofs.ScalarFacts
import MysticVerif.Proofs.Schedule
import MysticVerif.Proofs.Solver
import MysticVerif.Proofs.Strategy
import MysticVerif.Proofs.Symbolic
import MysticVerif.Proofs.Symbolic2
import MysticVerif.Proofs.SymbolicTop
import MysticVerif.Proofs.Termination
import MysticVerif.Proofs.Transforms
import MysticVerif.Proofs.TransformsExt
import MysticVerif.Proofs.TransformsTrack
import MysticVerif.Proofs.TransformsUnique
import MysticVerif.Proofs.Trimmed
import MysticVerif.Props.C01
import MysticVerif.Props.C01Ensemble
import MysticVerif.Props.C02
import MysticVerif.Props.C02Init
import MysticVerif.Props.C02Solve
import MysticVerif.Props.C03
import MysticVerif.Props.C03Solve
import MysticVerif.Props.C04
import MysticVerif.Props.C04Brent
import MysticVerif.Props.C05
import MysticVerif.Props.C06
import MysticVerif.Props.C06All
import MysticVerif.Props.C06Closed
import MysticVerif.Props.C06Mon
import MysticVerif.Props.C07
import MysticVerif.Props.C08
import MysticVerif.Props.C09
import MysticVerif.Props.C10
import MysticVerif.Props.C10.Collapse
import MysticVerif.Props.C10.Grad
import MysticVerif.Props.C10.Keys
import MysticVerif.Props.C11
import MysticVerif.Props.C12
import MysticVerif.Props.C13
import MysticVerif.Props.C14
import MysticVerif.Props.C14Shape
import MysticVerif.Props.C15
import MysticVerif.Props.C16
import MysticVerif.Props.C16.Core
import MysticVerif.Props.C16.Insert
import MysticVerif.Props.C16.Select
import MysticVerif.Props.C16.Stats
import MysticVerif.Props.C16.Ties
import MysticVerif.Props.C16.Track
import MysticVerif.Props.C16.Unique
import MysticVerif.Props.C17
import MysticVerif.Props.C17.Cpl
import MysticVerif.Props.C17.Ext
import MysticVerif.Props.C17.Pen
import MysticVerif.Props.C17.Seq
import MysticVerif.Props.C18
import MysticVerif.Props.C18Dist
import MysticVerif.Props.C18X
import MysticVerif.Props.C19
import MysticVerif.Props.C20
import MysticVerif.Props.C20Files
import MysticVerif.Props.C20Heap
import MysticVerif.Props.C20Ids
import MysticVerif.Props.C20Views
import MysticVerif.Props.Reconfig
import MysticVerif.Props.Solve
